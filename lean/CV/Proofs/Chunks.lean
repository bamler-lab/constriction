import CV.Model.Machine
import CV.Proofs.Arith
/-!
# `bit_array_to_chunks_truncated`: facts about `bitlen`, `chunksLE`, `chunksBE` and base-`2^C` digits

Everything follows from two characterisations: `bitlen x ≤ k ↔ x < 2^k` and, for the number of
chunks of width `C`, `nchunks C x ≤ n ↔ x < 2^(n*C)`.
-/
namespace CV

theorem bitlen_le_iff {x k : Nat} : bitlen x ≤ k ↔ x < 2^k := by
  unfold bitlen
  split
  · next h => simp [h, Nat.two_pow_pos]
  · next h => rw [Nat.add_one_le_iff, Nat.log2_lt h]

theorem bitlen_zero : bitlen 0 = 0 := rfl

theorem bitlen_pos {x : Nat} (h : 0 < x) : 0 < bitlen x :=
  Nat.pos_of_ne_zero fun h0 => by have := bitlen_le_iff.1 (Nat.le_of_eq h0); omega

theorem lt_two_pow_bitlen (x : Nat) : x < 2^(bitlen x) := bitlen_le_iff.1 (Nat.le_refl _)

theorem two_pow_bitlen_le {x : Nat} (h : 0 < x) : 2^(bitlen x - 1) ≤ x :=
  Nat.le_of_not_lt fun h' => by have := bitlen_le_iff.2 h'; have := bitlen_pos h; omega

theorem bitlen_eq_of_bounds {y k : Nat} (h1 : 2^(k - 1) ≤ y) (h2 : y < 2^k) :
    bitlen y = k :=
  Nat.le_antisymm (bitlen_le_iff.2 h2)
    (Nat.le_of_pred_lt (Nat.lt_of_not_le fun h => Nat.not_lt_of_le h1 (bitlen_le_iff.1 h)))

theorem bitlen_pow_add {n v : Nat} (hv : v < 2^n) : bitlen (2^n + v) = n + 1 :=
  bitlen_eq_of_bounds (Nat.le_add_right _ _) (by rw [Nat.pow_succ]; omega)

def nchunks (C x : Nat) : Nat := (bitlen x + C - 1) / C

theorem chunksLE_length (C x : Nat) : (chunksLE C x).length = nchunks C x := by
  simp [chunksLE, nchunks]

theorem nchunks_le_iff {C x n : Nat} (hC : 0 < C) : nchunks C x ≤ n ↔ x < 2^(n * C) := by
  unfold nchunks
  rw [← Nat.lt_succ_iff, Nat.div_lt_iff_lt_mul hC, Nat.succ_mul, ← bitlen_le_iff]
  omega

theorem nchunks_zero (C : Nat) (hC : 0 < C) : nchunks C 0 = 0 :=
  Nat.le_zero.1 ((nchunks_le_iff hC).2 (Nat.two_pow_pos _))

theorem chunksLE_zero {C : Nat} (hC : 0 < C) : chunksLE C 0 = [] := by
  unfold chunksLE; rw [← nchunks, nchunks_zero C hC]; rfl

theorem nchunks_pos {C x : Nat} (hC : 0 < C) (hx : 0 < x) : 0 < nchunks C x :=
  Nat.pos_of_ne_zero fun h0 => by
    have := (nchunks_le_iff hC).1 (Nat.le_of_eq h0)
    rw [Nat.zero_mul] at this
    omega

theorem nchunks_succ {C x n : Nat} (hC : 0 < C) (h : nchunks C x = n + 1) :
    2^(n * C) ≤ x ∧ x < 2^((n + 1) * C) :=
  ⟨Nat.le_of_not_lt fun hlt => by have := (nchunks_le_iff hC).2 hlt; omega,
    (nchunks_le_iff hC).1 (Nat.le_of_eq h)⟩

theorem nchunks_le_of_lt {W S x : Nat} (hx : x < 2^S) :
    nchunks W x ≤ (S + W - 1) / W :=
  Nat.div_le_div_right (Nat.sub_le_sub_right (Nat.add_le_add_right (bitlen_le_iff.2 hx) _) _)

theorem nchunks_div {W x : Nat} (hW : 0 < W) : nchunks W (x / 2^W) = nchunks W x - 1 := by
  have key : ∀ n, nchunks W (x / 2^W) ≤ n ↔ nchunks W x - 1 ≤ n := fun n => by
    rw [nchunks_le_iff hW, Nat.div_lt_iff_lt_mul (Nat.two_pow_pos _), ← Nat.pow_add,
      ← Nat.succ_mul, ← nchunks_le_iff hW]
    omega
  exact Nat.le_antisymm ((key _).2 (Nat.le_refl _)) ((key _).1 (Nat.le_refl _))

theorem nchunks_marker {W k v : Nat} (hW : 0 < W) (hv : v < 2^(k * W)) :
    nchunks W (2^(k * W) + v) = k + 1 := by
  unfold nchunks
  rw [bitlen_pow_add hv, Nat.add_right_comm, Nat.add_sub_cancel, ← Nat.succ_mul,
    Nat.mul_div_cancel _ hW]

/-- recursive characterisation of `bit_array_to_chunks_truncated(x).rev()` -/
theorem chunksLE_rec {W x : Nat} (hW : 0 < W) (hx : 0 < x) :
    chunksLE W x = (x % 2^W) :: chunksLE W (x / 2^W) := by
  obtain ⟨n, hn⟩ := Nat.exists_eq_add_one.2 (nchunks_pos hW hx)
  have e2 : (bitlen (x / 2^W) + W - 1) / W = n := by
    rw [← nchunks, nchunks_div hW, hn, Nat.add_sub_cancel]
  unfold chunksLE
  rw [e2, ← nchunks, hn, List.range_succ_eq_map]
  simp only [List.map_cons, Nat.zero_mul, Nat.shiftRight_zero, List.map_map, List.cons.injEq, true_and]
  apply List.map_congr_left
  intro i _
  simp only [Function.comp, shr_eq]
  rw [Nat.div_div_eq_div_mul, ← Nat.pow_add, Nat.succ_mul, Nat.add_comm]

/-- `n` base-`2^C` digits of `x`, most significant first -/
def digitsBE (C x n : Nat) : List Nat :=
  (List.range n).reverse.map (fun i => (x >>> (i * C)) % 2^C)

theorem chunksBE_eq (C x : Nat) : chunksBE C x = digitsBE C x (nchunks C x) := by
  simp [chunksBE, chunksLE, digitsBE, nchunks, List.map_reverse]

theorem digitsBE_succ (C x n : Nat) :
    digitsBE C x (n + 1) = ((x >>> (n * C)) % 2^C) :: digitsBE C x n := by
  simp [digitsBE, List.range_succ]

theorem digitsBE_zero (C x : Nat) : digitsBE C x 0 = [] := rfl

theorem digitsBE_lt (C x n : Nat) : ∀ w ∈ digitsBE C x n, w < 2^C := by
  intro w hw
  simp only [digitsBE, List.mem_map] at hw
  obtain ⟨i, _, rfl⟩ := hw
  exact Nat.mod_lt _ (Nat.two_pow_pos _)

theorem chunksBE_zero {C : Nat} (hC : 0 < C) : chunksBE C 0 = [] := by
  unfold chunksBE; rw [chunksLE_zero hC]; rfl

theorem chunksBE_pos {C x : Nat} (hC : 0 < C) (hx : 0 < x) :
    ∃ n, nchunks C x = n + 1 ∧ chunksBE C x = x / 2^(n * C) :: digitsBE C x n ∧
      0 < x / 2^(n * C) ∧ x / 2^(n * C) < 2^C := by
  obtain ⟨n, hn⟩ := Nat.exists_eq_add_one.2 (nchunks_pos hC hx)
  obtain ⟨hlo, hhi⟩ := nchunks_succ hC hn
  have hlt : x / 2^(n * C) < 2^C :=
    Nat.div_lt_of_lt_mul (by rw [← Nat.pow_add, ← Nat.succ_mul]; exact hhi)
  refine ⟨n, hn, ?_, Nat.div_pos hlo (Nat.two_pow_pos _), hlt⟩
  rw [chunksBE_eq, hn, digitsBE_succ, shr_eq, Nat.mod_eq_of_lt hlt]

theorem digit_step (C x n : Nat) :
    (x / 2^((n + 1) * C)) * 2^C + (x / 2^(n * C)) % 2^C = x / 2^(n * C) := by
  rw [Nat.succ_mul, Nat.pow_add, ← Nat.div_div_eq_div_mul]
  exact div_mul_add_mod _ _

theorem digitsBE_length (W v k : Nat) : (digitsBE W v k).length = k := by simp [digitsBE]

theorem digitsBE_shift {W v w : Nat} (hw : w < 2^W) (j : Nat) :
    digitsBE W (v * 2^W + w) (j + 1) = digitsBE W v j ++ [w] := by
  induction j with
  | zero =>
    simp only [digitsBE_succ, digitsBE_zero, Nat.zero_mul, Nat.shiftRight_zero, List.nil_append]
    rw [mul_add_mod_of_lt hw]
  | succ j ih =>
    rw [digitsBE_succ, ih, digitsBE_succ, List.cons_append, shr_eq, shr_eq, Nat.succ_mul,
      Nat.add_comm (j * W), Nat.pow_add, ← Nat.div_div_eq_div_mul, mul_add_div_of_lt hw]

theorem digitsBE_marker {W v : Nat} (j d : Nat) :
    digitsBE W (2^((j + d) * W) + v) j = digitsBE W v j := by
  induction j generalizing d with
  | zero => rfl
  | succ j ih =>
    have := ih (d + 1)
    rw [← Nat.add_assoc, Nat.add_right_comm] at this
    rw [digitsBE_succ, digitsBE_succ, this, shr_eq, shr_eq]
    -- `2^((j+1+d)W) = 2^(jW) * (2^W * 2^(dW))` contributes nothing to digit `j`
    have hsplit : 2^((j + 1 + d) * W) = 2^(j * W) * (2^W * 2^(d * W)) := by
      rw [← Nat.pow_add, ← Nat.pow_add, Nat.add_mul, Nat.add_mul, Nat.one_mul, Nat.add_assoc]
    rw [hsplit, Nat.mul_add_div (Nat.two_pow_pos _), Nat.mul_add_mod]

end CV
