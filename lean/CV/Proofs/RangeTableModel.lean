import CV.Model.TableModel
import CV.Model.RangeTable
import CV.Proofs.RangeBasic
/-!
# The table model handed to the real coders by the harness is well-formed

`CV.tableModel cdf` (Lean twin of `harness/src/rawmodel.rs::TableModel`) satisfies the
coder/model contract `Model.WellFormed P` whenever `cdf` is a strictly increasing list from `0`
to `2^P` with at least two symbols.  `strictCdfB` is the executable check; every table the
range-coder generators emit passes it, so the hypotheses of the coder theorems hold for the
inputs of the correspondence runs.
-/
namespace CV

def StrictCdf (P : Nat) (cdf : List Nat) : Prop :=
  3 ≤ cdf.length ∧ cdf.getD 0 0 = 0 ∧ cdf.getD (cdf.length - 1) 0 = 2^P ∧
  ∀ i, i + 1 < cdf.length → cdf.getD i 0 < cdf.getD (i + 1) 0

theorem strictCdf_of_check {P : Nat} {cdf : List Nat} (h : strictCdfB P cdf = true) :
    StrictCdf P cdf := by
  unfold strictCdfB at h
  simp only [Bool.and_eq_true, decide_eq_true_eq, List.all_eq_true, List.mem_range] at h
  obtain ⟨⟨⟨h1, h2⟩, h3⟩, h4⟩ := h
  exact ⟨h1, h2, h3, fun i hi => h4 i (by omega)⟩

theorem StrictCdf.mono {P : Nat} {cdf : List Nat} (h : StrictCdf P cdf) :
    ∀ d i, i + d < cdf.length → cdf.getD i 0 ≤ cdf.getD (i + d) 0 := by
  intro d
  induction d with
  | zero => intro i _; exact Nat.le_refl _
  | succ d ih =>
    intro i hi
    have h1 := ih i (by omega)
    have h2 := h.2.2.2 (i + d) (by omega)
    rw [← Nat.add_assoc]; omega

theorem StrictCdf.le_of_le {P : Nat} {cdf : List Nat} (h : StrictCdf P cdf) {i j : Nat}
    (hij : i ≤ j) (hj : j < cdf.length) : cdf.getD i 0 ≤ cdf.getD j 0 := by
  have := h.mono (j - i) i (by omega)
  rwa [Nat.add_sub_cancel' hij] at this

theorem StrictCdf.le_last {P : Nat} {cdf : List Nat} (h : StrictCdf P cdf) {j : Nat}
    (hj : j < cdf.length) : cdf.getD j 0 ≤ 2^P := by
  rw [← h.2.2.1]; exact h.le_of_le (by omega) (by omega)

theorem StrictCdf.pos {P : Nat} {cdf : List Nat} (h : StrictCdf P cdf) {j : Nat}
    (h0 : 0 < j) (hj : j < cdf.length) : 0 < cdf.getD j 0 :=
  Nat.lt_of_lt_of_le (Nat.lt_of_le_of_lt (Nat.zero_le _) (h.2.2.2 0 (by omega)))
    (h.le_of_le (i := 1) h0 hj)

theorem takeWhile_length {p : Nat → Bool} : ∀ (l : List Nat) (k : Nat), k ≤ l.length →
    (∀ j, j < k → p (l.getD j 0) = true) → (k < l.length → p (l.getD k 0) = false) →
    (l.takeWhile p).length = k
  | [], k, hk, _, _ => (Nat.le_zero.mp hk).symm
  | a :: l, 0, _, _, h2 => by
    have ha : p a = false := h2 (Nat.succ_pos _)
    rw [List.takeWhile_cons, ha]; rfl
  | a :: l, k + 1, hk, h1, h2 => by
    have ha : p a = true := h1 0 (Nat.succ_pos _)
    rw [List.takeWhile_cons, ha, if_pos rfl, List.length_cons,
      takeWhile_length l k (Nat.le_of_succ_le_succ hk) (fun j hj => h1 (j + 1) (Nat.succ_lt_succ hj))
        (fun hk' => h2 (Nat.succ_lt_succ hk'))]

theorem tail_getD (cdf : List Nat) (j : Nat) : cdf.tail.getD j 0 = cdf.getD (j + 1) 0 := by
  cases cdf with
  | nil => rfl
  | cons a l => rfl

theorem tableFind_eq {P : Nat} {cdf : List Nat} (h : StrictCdf P cdf) {s q : Nat}
    (hs : s + 1 < cdf.length) (h1 : cdf.getD s 0 ≤ q) (h2 : q < cdf.getD (s + 1) 0) :
    tableFind cdf q = s := by
  have hlen := h.1
  unfold tableFind
  cases hc : cdf with
  | nil => rw [hc] at hlen; simp at hlen
  | cons a rest =>
    have hrest : rest = cdf.tail := by rw [hc]; rfl
    simp only
    rw [hrest]
    apply takeWhile_length
    · simp only [List.length_tail]; omega
    · intro j hj
      rw [tail_getD]
      have := h.le_of_le (i := j + 1) (j := s) (by omega) (by omega)
      simp only [decide_eq_true_eq]; omega
    · intro _
      rw [tail_getD]
      simp only [decide_eq_false_iff_not]; omega

theorem exists_interval {P : Nat} {cdf : List Nat} (h : StrictCdf P cdf) {q : Nat} (hq : q < 2^P) :
    ∃ s, s + 1 < cdf.length ∧ cdf.getD s 0 ≤ q ∧ q < cdf.getD (s + 1) 0 := by
  -- the largest index `s` with `cdf[s] ≤ q`, found by induction on a bound
  have key : ∀ n, n + 1 < cdf.length → cdf.getD (n + 1) 0 > q →
      ∃ s, s + 1 < cdf.length ∧ cdf.getD s 0 ≤ q ∧ q < cdf.getD (s + 1) 0 := by
    intro n
    induction n with
    | zero =>
      intro hn hgt
      exact ⟨0, hn, by rw [h.2.1]; omega, hgt⟩
    | succ n ih =>
      intro hn hgt
      by_cases hle : cdf.getD (n + 1) 0 ≤ q
      · exact ⟨n + 1, hn, hle, hgt⟩
      · exact ih (by omega) (by omega)
  have hlen := h.1
  have hlast := h.2.2.1
  have := key (cdf.length - 2) (by omega) (by
    have : cdf.length - 2 + 1 = cdf.length - 1 := by omega
    rw [this, hlast]; exact hq)
  exact this

theorem tableModel_wf {P : Nat} {cdf : List Nat} (h : StrictCdf P cdf) :
    (tableModel cdf).WellFormed P := by
  have hlen := h.1
  -- one symbol: non-empty, inside `[0, 2^P]`, and not the whole of it (there is a second symbol)
  have sym : ∀ s, s + 1 < cdf.length →
      cdf.getD s 0 < cdf.getD (s + 1) 0 ∧ cdf.getD (s + 1) 0 ≤ 2^P ∧
      cdf.getD (s + 1) 0 - cdf.getD s 0 < 2^P := by
    intro s hs
    have h2 := h.le_last hs
    refine ⟨h.2.2.2 s hs, h2, ?_⟩
    cases s with
    | zero =>
      exact Nat.lt_of_le_of_lt (Nat.sub_le _ _)
        (Nat.lt_of_lt_of_le (h.2.2.2 1 (by omega)) (h.le_last (by omega)))
    | succ s =>
      exact Nat.lt_of_lt_of_le
        (Nat.sub_lt (h.pos (Nat.succ_pos _) hs) (h.pos (Nat.succ_pos _) (by omega))) h2
  constructor
  · intro s c p henc
    simp only [tableModel] at henc
    split at henc
    · next hs =>
      split at henc
      · next hcd =>
        cases henc
        obtain ⟨h1, h2, h3⟩ := sym s hs
        refine ⟨by omega, by omega, h3, ?_⟩
        intro q hq1 hq2
        have hfind := tableFind_eq h hs hq1 (by omega)
        simp only [tableModel, hfind]
      · cases henc
    · cases henc
  · intro q hq
    obtain ⟨s, hs, h1, h2⟩ := exists_interval h hq
    have hfind := tableFind_eq h hs h1 h2
    obtain ⟨h3, _, _⟩ := sym s hs
    simp only [tableModel, hfind, hs, if_true, h3]
    refine ⟨trivial, h1, by omega⟩

/-- a step of the correspondence protocol (`enc B P cum p` with `(cum, p)` taken from a table,
    later `dec B P cdf`) is a valid step of the coder theorems -/
theorem Range.MStep.valid_of_table {c : Cfg} {B P : Nat} {cdf : List Nat} {s : Nat}
    (hc : Range.RValid (Range.cfgAt c B P)) (h : StrictCdf P cdf) (hs : s + 1 < cdf.length) :
    Range.MStep.Valid c { B := B, P := P, model := tableModel cdf, sym := s } := by
  refine ⟨hc, tableModel_wf h, ?_⟩
  have := h.2.2.2 s hs
  simp only [tableModel, hs, if_true, this]
  rfl

example : (tableModel [0, 3, 0x26, 0x82, 0xff, 0x100]).WellFormed 8 :=
  tableModel_wf (strictCdf_of_check (by decide))

end CV
