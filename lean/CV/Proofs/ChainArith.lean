import CV.Model.Chain
import CV.Proofs.Arith
/-!
# Arithmetic of the chain coder's truncating shift (core Lean only)

`shlT` is converted to `* %` here, once; with the shared lemmas of `CV.Proofs.Arith` the proofs
about the coder then work with `omega` and a handful of nonlinear facts.
-/
namespace CV.Chain

theorem shlT_eq (n a k : Nat) : shlT n a k = (a * 2^k) % 2^n := by
  simp [shlT, Nat.shiftLeft_eq]

theorem shlT_of_lt {n a k : Nat} (h : a * 2^k < 2^n) : shlT n a k = a * 2^k := by
  rw [shlT_eq, Nat.mod_eq_of_lt h]

theorem shlT_one {n k : Nat} (h : k < n) : shlT n 1 k = 2^k := by
  rw [shlT_of_lt] <;> simp [pow_lt_pow2 h]

theorem or_eq_add {a b k : Nat} (hb : b < 2^k) : a * 2^k ||| b = a * 2^k + b := by
  simpa [Nat.shiftLeft_eq] using shl_or_eq (a := a) hb

theorem le_mul_add {a b : Nat} (h : b ≤ a) (q r : Nat) : b * q ≤ a * q + r :=
  Nat.le_trans (Nat.mul_le_mul_right q h) (Nat.le_add_right _ _)

theorem le_mul_add_of_pos {a : Nat} (h : 1 ≤ a) (q r : Nat) : q ≤ a * q + r := by
  simpa using le_mul_add h q r

theorem div_pow_lt {x P W : Nat} (hPW : P ≤ W) (h : x < 2^W) : x / 2^P < 2^(W - P) :=
  (Nat.div_lt_iff_lt_mul (Nat.two_pow_pos _)).mpr (pow_split hPW ▸ h)

theorem shlT_or {n a k b : Nat} (h : a * 2^k < 2^n) (hb : b < 2^k) :
    shlT n a k ||| b = a * 2^k + b := by
  rw [shlT_of_lt h, or_eq_add hb]

theorem mul_lt_of_lt_of_le {a b c d : Nat} (h1 : a < c) (h2 : b ≤ d) (hd : 0 < d) : a * b < c * d :=
  Nat.lt_of_le_of_lt (Nat.mul_le_mul_left a h2) (Nat.mul_lt_mul_of_pos_right h1 hd)

end CV.Chain
