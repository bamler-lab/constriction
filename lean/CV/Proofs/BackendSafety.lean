import CV.Proofs.Backend
import CV.Proofs.Arith
/-!
# Faults of `Cursor` / `Reverse<Cursor>` (for C20)

After the D12 repair (`ca8abce`) the model of `Cursor` / `Reverse<Cursor>` has no `Fault.ub`
branch: a fault of `Cur.step` is the checked index of `readStack` or of `Reverse`'s `write`, or a
checked `len - pos`.  The pre-repair methods are kept as `…Legacy` to state what was wrong.
-/
namespace CV.Backend

def Fault.isUb : Fault → Bool
  | .ub _ => true
  | _ => false

theorem Cursor.write_error {c : Cursor} {w : Nat} {e : WErr} (h : c.write w = .error e) :
    e = .outOfSpace := by
  unfold Cursor.write at h
  split at h
  · cases h
  · exact (Except.error.inj h).symm

theorem RevCursor.write_error {r : RevCursor} {w : Nat} {e : WErr} (h : r.write w = .error e) :
    e = .outOfSpace ∨ (e = .fault (.panic "rev_cursor.write.index") ∧ r.inner.buf.length < r.inner.pos) := by
  unfold RevCursor.write at h
  split at h
  · exact Or.inl (Except.error.inj h).symm
  · split at h
    · cases h
    · exact Or.inr ⟨(Except.error.inj h).symm, by omega⟩

theorem extendLoop_cursor_ok (ws : List Nat) : ∀ c : Cursor,
    ∃ o c', extendLoop Cursor.write c ws = .ok (o, c') := by
  induction ws with
  | nil => intro c; exact ⟨_, _, rfl⟩
  | cons w ws ih =>
    intro c
    cases hw : c.write w with
    | ok c' => simpa [extendLoop, hw] using ih c'
    | error e =>
      have := Cursor.write_error hw
      subst this
      exact ⟨.extFull ws.length, c, by simp [extendLoop, hw]⟩

/-! `space_left`, `Queue`-`remaining` (and `Reverse`'s `Stack`-`remaining`, the same call) are a
bare `csub`; the other fallible methods hand on the fault of one of these or of `readStack`. -/

theorem csub_not_ub {site : String} {a b : Nat} {f : Fault} (h : csub site a b = .error f) :
    Fault.isUb f = false := by
  rw [csub_error h]; rfl

theorem Cursor.readStack_not_ub {c : Cursor} {f : Fault} (h : c.readStack = .error f) :
    Fault.isUb f = false := by
  unfold Cursor.readStack at h
  split at h
  · cases h
  · split at h
    · cases h
    · cases h
      rfl

theorem Cursor.isFull_not_ub {c : Cursor} {f : Fault} (h : c.isFull = .error f) :
    Fault.isUb f = false := by
  unfold Cursor.isFull at h
  split at h
  · cases h
  · cases h
    exact csub_not_ub ‹_›

theorem Cursor.isExhaustedQueue_not_ub {c : Cursor} {f : Fault} (h : c.isExhaustedQueue = .error f) :
    Fault.isUb f = false := by
  unfold Cursor.isExhaustedQueue at h
  split at h
  · cases h
  · cases h
    exact csub_not_ub ‹_›

theorem Cursor.intoReversed_not_ub {c : Cursor} {f : Fault} (h : c.intoReversed = .error f) :
    Fault.isUb f = false := by
  unfold Cursor.intoReversed at h
  split at h
  · cases h
  · cases h
    exact csub_not_ub ‹_›

theorem RevCursor.readQueue_not_ub {r : RevCursor} {f : Fault} (h : r.readQueue = .error f) :
    Fault.isUb f = false := by
  unfold RevCursor.readQueue at h
  split at h
  · cases h
  · cases h
    exact Cursor.readStack_not_ub ‹_›

theorem RevCursor.intoReversed_not_ub {r : RevCursor} {f : Fault} (h : r.intoReversed = .error f) :
    Fault.isUb f = false := by
  unfold RevCursor.intoReversed at h
  split at h
  · cases h
  · cases h
    exact Cursor.intoReversed_not_ub ‹_›

theorem RevCursor.write_not_ub {r : RevCursor} {w : Nat} {f : Fault}
    (h : r.write w = .error (.fault f)) : Fault.isUb f = false := by
  rcases RevCursor.write_error h with h1 | ⟨h1, _⟩
  · cases h1
  · cases h1
    rfl

theorem extendLoop_rev_not_ub (ws : List Nat) : ∀ (r : RevCursor) (f : Fault),
    extendLoop RevCursor.write r ws = .error f → Fault.isUb f = false := by
  induction ws with
  | nil => intro r f h; cases h
  | cons w ws ih =>
    intro r f h
    unfold extendLoop at h
    split at h
    · exact ih _ f h
    · cases h
    · cases h
      exact RevCursor.write_not_ub ‹_›

/-- whatever the state (invariant or not, e.g. after `buf_mut` misuse), a fault of `Cur.step` is no
    UB site: each alternative is an `.ok …` or hands on the fault of one method, at most under
    `if writable` (`simp only []`, not `dsimp only`: cheaper on the unfolded 32-alternative term) -/
theorem Cur.step_fault_not_ub (wr : Bool) (s : Cur) (op : Op) (f : Fault)
    (h : Cur.step wr s op = .error f) : Fault.isUb f = false := by
  unfold Cur.step at h
  cases s with
  | fwd c =>
    -- can fault: `readS` (checked index); `remQ`, `exhQ`, `spaceLeft`, `full`, `intoReversed`
    -- (checked `len - pos`).  `write`, `extend`, `seek`, `roundtrip` only have a `match` to open.
    cases op with
    | readS =>
      simp only [] at h
      split at h
      · cases h
      · cases h
        exact Cursor.readStack_not_ub ‹_›
    | write w =>
      simp only [] at h
      split at h
      · split at h
        · cases h
        · cases h
        · cases Cursor.write_error ‹_›
      · cases h
    | extend ws =>
      obtain ⟨o, c', he⟩ := extendLoop_cursor_ok ws c
      simp only [he] at h
      split at h
      · cases h
      · cases h
    | remQ =>
      simp only [] at h
      split at h
      · cases h
      · cases h
        exact csub_not_ub ‹_›
    | exhQ =>
      simp only [] at h
      split at h
      · cases h
      · cases h
        exact Cursor.isExhaustedQueue_not_ub ‹_›
    | spaceLeft =>
      simp only [] at h
      split at h
      · split at h
        · cases h
        · cases h
          exact csub_not_ub ‹_›
      · cases h
    | full =>
      simp only [] at h
      split at h
      · split at h
        · cases h
        · cases h
          exact Cursor.isFull_not_ub ‹_›
      · cases h
    | seek p =>
      simp only [] at h
      split at h
      · cases h
      · cases h
    | intoReversed =>
      simp only [] at h
      split at h
      · split at h
        · cases h
        · cases h
          exact Cursor.intoReversed_not_ub ‹_›
      · cases h
    | roundtrip =>
      simp only [] at h
      split at h
      · cases h
      · cases h
    | readQ | remS | exhS | pos | raw | bmSet _ => cases h
  | rev r =>
    -- can fault: `readQ` (inner `readStack`); `write`, `extend` (checked index); `remS`, `exhS`,
    -- `intoReversed` (checked `len - pos`).  `spaceLeft`, `full`, `seek`, `roundtrip` cannot.
    cases op with
    | readQ =>
      simp only [] at h
      split at h
      · cases h
      · cases h
        exact RevCursor.readQueue_not_ub ‹_›
    | write w =>
      simp only [] at h
      split at h
      · split at h
        · cases h
        · cases h
        · cases h
          exact RevCursor.write_not_ub ‹_›
      · cases h
    | extend ws =>
      simp only [] at h
      split at h
      · split at h
        · cases h
        · cases h
          exact extendLoop_rev_not_ub ws r _ ‹_›
      · cases h
    | remS =>
      simp only [] at h
      split at h
      · cases h
      · cases h
        exact csub_not_ub ‹_›
    | exhS =>
      simp only [] at h
      split at h
      · cases h
      · cases h
        exact Cursor.isExhaustedQueue_not_ub ‹_›
    | spaceLeft | full =>
      simp only [] at h
      split at h
      · cases h
      · cases h
    | seek p =>
      simp only [] at h
      split at h
      · cases h
      · cases h
    | intoReversed =>
      simp only [] at h
      split at h
      · split at h
        · cases h
        · cases h
          exact RevCursor.intoReversed_not_ub ‹_›
      · cases h
    | roundtrip =>
      simp only [] at h
      split at h
      · cases h
      · cases h
    | readS | remQ | exhQ | pos | raw | bmSet _ => cases h

/-! ## `pos > len` (what `buf_mut` can bring about), and the code before the D12 repair -/

theorem Cursor.broken_index (c : Cursor) (h : c.buf.length < c.pos) :
    c.pos ≠ 0 ∧ c.buf[c.pos - 1]? = none ∧ c.buf[c.pos]? = none ∧ ¬ c.pos - 1 < c.buf.length :=
  ⟨by omega, List.getElem?_eq_none_iff.mpr (by omega), List.getElem?_eq_none_iff.mpr (by omega),
    by omega⟩

theorem Cursor.readStackLegacy_eq (c : Cursor) (hI : c.Inv) : c.readStackLegacy = c.readStack := by
  unfold Cursor.readStackLegacy Cursor.readStack
  split
  · rfl
  · have : c.pos - 1 < c.buf.length := by unfold Cursor.Inv at hI; omega
    rw [List.getElem?_eq_getElem this]

theorem Cursor.readStackLegacy_ub (c : Cursor) (h : c.buf.length < c.pos) :
    c.readStackLegacy = .error (.ub "cursor.read_stack.get_unchecked") := by
  obtain ⟨hp, hb, _, _⟩ := c.broken_index h
  rw [Cursor.readStackLegacy, if_neg hp, hb]

theorem RevCursor.writeLegacy_eq (r : RevCursor) (hI : r.inner.Inv) (w : Nat) :
    r.writeLegacy w = r.write w := by
  unfold RevCursor.writeLegacy RevCursor.write
  split
  · rfl
  · have : r.inner.pos - 1 < r.inner.buf.length := by unfold Cursor.Inv at hI; omega
    rw [if_pos this, if_pos this]

theorem RevCursor.writeLegacy_ub (r : RevCursor) (h : r.inner.buf.length < r.inner.pos) (w : Nat) :
    r.writeLegacy w = .error (.fault (.ub "rev_cursor.write.get_unchecked_mut")) := by
  obtain ⟨hp, _, _, hlt⟩ := r.inner.broken_index h
  rw [RevCursor.writeLegacy, if_neg hp, if_neg hlt]

end CV.Backend
