import CV.Model.SoftFloat
/-!
# Round-to-nearest-even on the software float model: monotone, and the identity on representables

`roundMag f num den` rounds the rational `num / den`.  Rationals are compared by
cross-multiplication (`a / b ≤ c / d ⇔ a * d ≤ c * b`), so everything stays in `Nat`.

Rounding to the nearest integer and to the format is monotone (overflow, `none`, being the top
element), a representable magnitude rounds to itself, and every result is representable: the facts
the IEEE standard promises of a correctly rounded operation, here theorems about the executable
definition that the correspondence run compares with the hardware.

The rounded value is `sig * 2^e`, `e = roundShift`, `sig = rneDiv num (den * 2^e)`; all that is used
of the pair is `sig ≤ 2^p` (`sig_le`) and, at a positive shift, `2^(p-1) ≤ sig` (`sig_ge`).
-/
namespace CV.Quant

/-! ### nearest integer, ties to even -/

/-- when `rneDiv a b` is the floor plus one: the remainder is above half, or exactly half with an
    odd floor -/
def RoundsUp (a b : Nat) : Prop := b < 2 * (a % b) ∨ (b = 2 * (a % b) ∧ a / b % 2 = 1)

instance (a b : Nat) : Decidable (RoundsUp a b) := by unfold RoundsUp; exact inferInstance

theorem rneDiv_eq (a b : Nat) : rneDiv a b = a / b + if RoundsUp a b then 1 else 0 := by
  unfold rneDiv
  simp only
  by_cases h1 : 2 * (a % b) < b
  · rw [if_pos h1, if_neg fun h : RoundsUp a b =>
      h.elim (Nat.lt_asymm h1) fun h => Nat.ne_of_gt h1 h.1]
    rfl
  · rw [if_neg h1]
    by_cases h2 : b < 2 * (a % b)
    · rw [if_pos h2, if_pos (show RoundsUp a b from Or.inl h2)]
    · rw [if_neg h2]
      by_cases h3 : a / b % 2 = 0
      · rw [if_pos h3, if_neg fun h : RoundsUp a b =>
          h.elim h2 fun h => Nat.zero_ne_one (h3.symm.trans h.2)]
        rfl
      · rw [if_neg h3, if_pos (show RoundsUp a b from Or.inr
          ⟨Nat.le_antisymm (Nat.not_lt.1 h1) (Nat.not_lt.1 h2), Nat.mod_two_ne_zero.1 h3⟩)]

theorem rneDiv_exact {b : Nat} (hb : 0 < b) (q : Nat) : rneDiv (q * b) b = q := by
  rw [rneDiv_eq, if_neg (show ¬ RoundsUp (q * b) b by unfold RoundsUp; rw [Nat.mul_mod_left]; omega)]
  exact Nat.mul_div_cancel _ hb

theorem div_le_div_of_cross {a b c d : Nat} (hb : 0 < b) (hd : 0 < d) (h : a * d ≤ c * b) :
    a / b ≤ c / d := by
  rw [Nat.le_div_iff_mul_le hd]
  have h1 : a / b * b ≤ a := Nat.div_mul_le_self a b
  have h2 : a / b * d * b ≤ c * b := by
    calc a / b * d * b = a / b * b * d := by rw [Nat.mul_right_comm]
      _ ≤ a * d := Nat.mul_le_mul_right d h1
      _ ≤ c * b := h
  exact Nat.le_of_mul_le_mul_right h2 hb

theorem one_le_of_cross {x y b d : Nat} (hb : 0 < b) (hd : 0 < d) (h : x * d ≤ y * b) :
    (b ≤ x → d ≤ y) ∧ (b < x → d < y) := by
  constructor
  · intro hx
    have : d * b ≤ y * b := Nat.mul_comm b d ▸ Nat.le_trans (Nat.mul_le_mul_right d hx) h
    exact Nat.le_of_mul_le_mul_right this hb
  · intro hx
    have : d * b < y * b :=
      Nat.mul_comm b d ▸ Nat.lt_of_lt_of_le (Nat.mul_lt_mul_of_pos_right hx hd) h
    exact Nat.lt_of_mul_lt_mul_right this

theorem rneDiv_mono {a b c d : Nat} (hb : 0 < b) (hd : 0 < d) (h : a * d ≤ c * b) :
    rneDiv a b ≤ rneDiv c d := by
  have hq := div_le_div_of_cross hb hd h
  rw [rneDiv_eq, rneDiv_eq]
  rcases Nat.lt_or_ge (a / b) (c / d) with hlt | hge
  · calc a / b + _ ≤ a / b + 1 := Nat.add_le_add_left (by split <;> decide) _
      _ ≤ c / d + _ := Nat.le_trans hlt (Nat.le_add_right _ _)
  · have heq : a / b = c / d := Nat.le_antisymm hq hge
    -- same floor: the remainders compare like the fractions, so what rounds the left side up
    -- rounds the right side up
    have hr : a % b * d ≤ c % d * b := by
      have e1 : a * d = b * d * (a / b) + a % b * d := by
        conv => lhs; rw [← Nat.div_add_mod a b]
        rw [Nat.add_mul, Nat.mul_right_comm]
      have e2 : c * b = b * d * (a / b) + c % d * b := by
        conv => lhs; rw [← Nat.div_add_mod c d]
        rw [Nat.add_mul, heq, Nat.mul_right_comm d, Nat.mul_comm d b]
      rw [e1, e2] at h
      exact Nat.le_of_add_le_add_left h
    have hr2 : 2 * (a % b) * d ≤ 2 * (c % d) * b := by
      rw [Nat.mul_assoc, Nat.mul_assoc]; exact Nat.mul_le_mul_left 2 hr
    obtain ⟨hle, hlt⟩ := one_le_of_cross hb hd hr2
    rw [heq]
    apply Nat.add_le_add_left
    by_cases hu : RoundsUp a b
    · have hu' : RoundsUp c d := by
        rcases hu with h1 | ⟨h1, h2⟩
        · exact Or.inl (hlt h1)
        · rcases Nat.lt_or_eq_of_le (hle (Nat.le_of_eq h1)) with h3 | h3
          · exact Or.inl h3
          · exact Or.inr ⟨h3, heq ▸ h2⟩
      rw [if_pos hu, if_pos hu']
      exact Nat.le_refl 1
    · rw [if_neg hu]; exact Nat.zero_le _

theorem rneDiv_ge_of_le {L a b : Nat} (hb : 0 < b) (h : L * b ≤ a) : L ≤ rneDiv a b := by
  have := rneDiv_mono (a := L * b) (b := b) (c := a) (d := b) hb hb (Nat.mul_le_mul_right b h)
  rwa [rneDiv_exact hb] at this

theorem rneDiv_le_of_le {U a b : Nat} (hb : 0 < b) (h : a ≤ U * b) : rneDiv a b ≤ U := by
  have := rneDiv_mono (a := a) (b := b) (c := U * b) (d := b) hb hb (Nat.mul_le_mul_right b h)
  rwa [rneDiv_exact hb] at this

/-! ### rounding to the format -/

/-- order on rounded magnitudes: overflow is the top element -/
def MagLe : Option Nat → Option Nat → Prop
  | some x, some y => x ≤ y
  | _, none => True
  | none, some _ => False

theorem MagLe.refl (a : Option Nat) : MagLe a a := by
  cases a with
  | none => trivial
  | some x => exact Nat.le_refl x

theorem MagLe.none_right (a : Option Nat) : MagLe a none := by
  cases a <;> trivial

/-- the rounded magnitude before the overflow test -/
def roundVal (f : Fmt) (num den : Nat) : Nat :=
  rneDiv num (den * 2 ^ roundShift f num den) * 2 ^ roundShift f num den

theorem roundMag_eq (f : Fmt) (num den : Nat) :
    roundMag f num den = if roundVal f num den ≥ f.limit then none else some (roundVal f num den) := rfl

theorem log2_mono {a b : Nat} (h : a ≤ b) : a.log2 ≤ b.log2 := by
  by_cases ha : a = 0
  · subst ha; simp
  · exact (Nat.le_log2 (by omega)).2 (Nat.le_trans (Nat.log2_self_le ha) h)

theorem roundShift_cases (f : Fmt) (a b : Nat) :
    (a / b < 2 ^ f.p ∧ roundShift f a b = 0) ∨
    (2 ^ f.p ≤ a / b ∧ f.p ≤ (a / b).log2 ∧ roundShift f a b = (a / b).log2 + 1 - f.p) := by
  unfold roundShift
  simp only
  split
  · next h => exact Or.inl ⟨h, rfl⟩
  · next h =>
    have := Nat.two_pow_pos f.p
    exact Or.inr ⟨by omega, (Nat.le_log2 (by omega)).2 (by omega), rfl⟩

theorem roundShift_mono (f : Fmt) {a b c d : Nat} (hb : 0 < b) (hd : 0 < d) (h : a * d ≤ c * b) :
    roundShift f a b ≤ roundShift f c d := by
  have hq := div_le_div_of_cross hb hd h
  rcases roundShift_cases f a b with ⟨_, e⟩ | ⟨hge, _, e⟩
  · rw [e]; exact Nat.zero_le _
  · rcases roundShift_cases f c d with ⟨hlt, _⟩ | ⟨_, _, e'⟩
    · exact absurd (Nat.le_trans hge hq) (Nat.not_le.2 hlt)
    · have := log2_mono hq
      omega

theorem div_lt_two_pow (f : Fmt) (a b : Nat) : a / b < 2 ^ (f.p + roundShift f a b) := by
  rcases roundShift_cases f a b with ⟨h, e⟩ | ⟨_, hl, e⟩
  · rw [e]; exact h
  · rw [e, show f.p + ((a / b).log2 + 1 - f.p) = (a / b).log2 + 1 by omega]
    exact Nat.lt_log2_self

theorem two_pow_le_div (f : Fmt) (hp : 1 ≤ f.p) {a b : Nat} (he : 0 < roundShift f a b) :
    2 ^ (f.p - 1 + roundShift f a b) ≤ a / b := by
  rcases roundShift_cases f a b with ⟨_, e⟩ | ⟨hge, hl, e⟩
  · rw [e] at he; exact absurd he (Nat.lt_irrefl 0)
  · have hne : a / b ≠ 0 := Nat.ne_of_gt (Nat.lt_of_lt_of_le (Nat.two_pow_pos _) hge)
    rw [e, show f.p - 1 + ((a / b).log2 + 1 - f.p) = (a / b).log2 by omega]
    exact Nat.log2_self_le hne

theorem sig_le (f : Fmt) {a b : Nat} (hb : 0 < b) :
    rneDiv a (b * 2 ^ roundShift f a b) ≤ 2 ^ f.p := by
  apply rneDiv_le_of_le (Nat.mul_pos hb (Nat.two_pow_pos _))
  have := (Nat.div_lt_iff_lt_mul hb).1 (div_lt_two_pow f a b)
  rw [Nat.pow_add, Nat.mul_assoc, Nat.mul_comm _ b] at this
  exact Nat.le_of_lt this

theorem sig_ge (f : Fmt) (hp : 1 ≤ f.p) {a b : Nat} (hb : 0 < b) (he : 0 < roundShift f a b) :
    2 ^ (f.p - 1) ≤ rneDiv a (b * 2 ^ roundShift f a b) := by
  apply rneDiv_ge_of_le (Nat.mul_pos hb (Nat.two_pow_pos _))
  have := (Nat.le_div_iff_mul_le hb).1 (two_pow_le_div f hp he)
  rwa [Nat.pow_add, Nat.mul_assoc, Nat.mul_comm _ b] at this

theorem roundVal_mono (f : Fmt) (hp : 1 ≤ f.p) {a b c d : Nat} (hb : 0 < b) (hd : 0 < d)
    (h : a * d ≤ c * b) : roundVal f a b ≤ roundVal f c d := by
  have hs := roundShift_mono f hb hd h
  rcases Nat.lt_or_ge (roundShift f a b) (roundShift f c d) with hlt | hge
  · -- different binades: the top of the lower one is at most the bottom of the upper one
    calc roundVal f a b ≤ 2 ^ f.p * 2 ^ roundShift f a b := Nat.mul_le_mul_right _ (sig_le f hb)
      _ = 2 ^ (f.p + roundShift f a b) := (Nat.pow_add _ _ _).symm
      _ ≤ 2 ^ (f.p - 1 + roundShift f c d) := Nat.pow_le_pow_right (by decide) (by omega)
      _ = 2 ^ (f.p - 1) * 2 ^ roundShift f c d := Nat.pow_add _ _ _
      _ ≤ roundVal f c d := Nat.mul_le_mul_right _ (sig_ge f hp hd (by omega))
  · have he : roundShift f a b = roundShift f c d := Nat.le_antisymm hs hge
    unfold roundVal
    rw [he]
    apply Nat.mul_le_mul_right
    apply rneDiv_mono (Nat.mul_pos hb (Nat.two_pow_pos _)) (Nat.mul_pos hd (Nat.two_pow_pos _))
    calc a * (d * 2 ^ roundShift f c d) = a * d * 2 ^ roundShift f c d := (Nat.mul_assoc _ _ _).symm
      _ ≤ c * b * 2 ^ roundShift f c d := Nat.mul_le_mul_right _ h
      _ = c * (b * 2 ^ roundShift f c d) := Nat.mul_assoc _ _ _

theorem roundMag_mono (f : Fmt) (hp : 1 ≤ f.p) {a b c d : Nat} (hb : 0 < b) (hd : 0 < d)
    (h : a * d ≤ c * b) : MagLe (roundMag f a b) (roundMag f c d) := by
  have hv := roundVal_mono f hp hb hd h
  rw [roundMag_eq, roundMag_eq]
  by_cases h2 : roundVal f c d ≥ f.limit
  · rw [if_pos h2]; exact MagLe.none_right _
  · rw [if_neg h2, if_neg (by omega)]; exact hv

/-! ### representable magnitudes -/

/-- `k` (in units of `2^-M`) is a finite value of the format -/
def Rep (f : Fmt) (k : Nat) : Prop :=
  k < f.limit ∧ (k < 2 ^ f.p ∨ 2 ^ (k.log2 + 1 - f.p) ∣ k)

theorem rep_zero (f : Fmt) : Rep f 0 :=
  ⟨Nat.two_pow_pos _, Or.inl (Nat.two_pow_pos _)⟩

theorem roundMag_self (f : Fmt) {k : Nat} (hk : Rep f k) : roundMag f k 1 = some k := by
  obtain ⟨hlim, hrep⟩ := hk
  have hv : roundVal f k 1 = k := by
    unfold roundVal
    rw [Nat.one_mul]
    rcases roundShift_cases f k 1 with ⟨_, e⟩ | ⟨hge, _, e⟩
    · rw [e, Nat.pow_zero, Nat.mul_one]
      have := rneDiv_exact (Nat.le_refl 1) k
      rwa [Nat.mul_one] at this
    · -- `k ≥ 2^p` is a multiple `m * 2^e` of its spacing
      rw [Nat.div_one] at hge e
      obtain ⟨m, hm⟩ := hrep.resolve_left (Nat.not_lt.2 hge)
      rw [e]
      conv => lhs; arg 1; arg 1; rw [hm, Nat.mul_comm]
      rw [rneDiv_exact (Nat.two_pow_pos _), Nat.mul_comm]
      exact hm.symm
  rw [roundMag_eq, hv, if_neg (by omega)]

theorem log2_mul_two_pow {r : Nat} (hr : r ≠ 0) (e : Nat) : (r * 2 ^ e).log2 = r.log2 + e := by
  have hne : r * 2 ^ e ≠ 0 := Nat.mul_ne_zero hr (Nat.ne_of_gt (Nat.two_pow_pos e))
  rw [Nat.log2_eq_iff hne]
  constructor
  · rw [Nat.pow_add]; exact Nat.mul_le_mul_right _ (Nat.log2_self_le hr)
  · have : r < 2 ^ (r.log2 + 1) := Nat.lt_log2_self
    calc r * 2 ^ e < 2 ^ (r.log2 + 1) * 2 ^ e := Nat.mul_lt_mul_of_pos_right this (Nat.two_pow_pos e)
      _ = 2 ^ (r.log2 + e + 1) := by rw [← Nat.pow_add]; congr 1; omega

/-- a significand of at most `p` bits (or `2^p` itself) shifted by `e` is a multiple of the
    spacing at its magnitude -/
theorem spacing_dvd {p r : Nat} (hp : 1 ≤ p) (hr : r ≤ 2 ^ p) (e : Nat) :
    2 ^ ((r * 2 ^ e).log2 + 1 - p) ∣ r * 2 ^ e := by
  by_cases h0 : r = 0
  · rw [h0, Nat.zero_mul]; exact Nat.dvd_zero _
  rw [log2_mul_two_pow h0]
  rcases Nat.lt_or_ge r (2 ^ p) with hlt | hge
  · have : r.log2 < p := (Nat.log2_lt h0).2 hlt
    exact Nat.dvd_trans (Nat.pow_dvd_pow 2 (by omega)) (Nat.dvd_mul_left _ _)
  · rw [Nat.le_antisymm hr hge, Nat.log2_two_pow, ← Nat.pow_add]
    exact Nat.pow_dvd_pow 2 (by omega)

theorem roundMag_rep (f : Fmt) (hp : 1 ≤ f.p) {a b k : Nat} (hb : 0 < b)
    (h : roundMag f a b = some k) : Rep f k := by
  rw [roundMag_eq] at h
  split at h
  · cases h
  · injection h with h
    subst h
    exact ⟨by omega, Or.inr (spacing_dvd hp (sig_le f hb) _)⟩

end CV.Quant
