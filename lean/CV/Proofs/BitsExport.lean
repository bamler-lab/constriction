import CV.Proofs.Bits
/-!
# Export formats, re-import, guards and the queue decoder

The queue export is `bits` zero padded to whole words (`padTo`).  The stack export is the queue
export after the terminator bit has been written; the re-import strips the terminator with one
`readStep`.  The queue decoder is a bit source that behaves like the bits of its words.  At the
end: `write_bit` and the queue export over a sink that can refuse a write, as equations.
-/
namespace CV.Bits
variable {W : Nat} {c : Coder} {d : QDecoder}

/-- zero padding up to the next multiple of `W` -/
def padTo (W : Nat) (l : List Bool) : List Bool := l ++ List.replicate ((W - l.length % W) % W) false

/-- `q` whole words and `k` further bits -/
theorem pad_after {k : Nat} (q : Nat) (hk : 1 ≤ k) (hkW : k ≤ W) :
    (W - (q * W + k) % W) % W = W - k := by
  rw [Nat.mul_comm, Nat.mul_add_mod]
  rcases Nat.lt_or_eq_of_le hkW with h | rfl
  · rw [Nat.mod_eq_of_lt h, Nat.mod_eq_of_lt (Nat.sub_lt (Nat.lt_trans hk h) hk)]
  · rw [Nat.mod_self, Nat.sub_zero, Nat.mod_self, Nat.sub_self]

theorem words_after {k : Nat} (q : Nat) (hk : 1 ≤ k) (hkW : k ≤ W) :
    (q * W + k + W - 1) / W = q + 1 := by
  have : q * W + k + W - 1 = (k - 1) + (q + 1) * W := by
    rw [Nat.succ_mul, Nat.add_right_comm, Nat.add_sub_assoc hk, Nat.add_comm]
  rw [this, Nat.add_mul_div_right _ _ (Nat.lt_of_lt_of_le hk hkW),
    Nat.div_eq_of_lt (Nat.lt_of_lt_of_le (Nat.sub_lt hk Nat.one_pos) hkW), Nat.zero_add]

theorem padTo_whole {l : List Bool} {q : Nat} (h : l.length = q * W) : padTo W l = l := by
  rw [padTo, h, Nat.mul_mod_left, Nat.sub_zero, Nat.mod_self, List.replicate_zero, List.append_nil]

/-- `QueueEncoderGuard` restores the representation exactly -/
theorem queue_guard_noop (c : Coder) : Queue.getCompressed c = (Queue.intoCompressed c, c) := by
  unfold Queue.getCompressed Queue.guardNew Queue.guardDrop Queue.guardView Queue.intoCompressed
  by_cases h : c.mask = 0 <;> simp [h]

theorem queue_export_format (hW : 1 ≤ W) (hI : Inv W c) :
    wordBits W (Queue.intoCompressed c) = padTo W (bits W c) ∧
      (∀ w ∈ Queue.intoCompressed c, w < 2^W) ∧
      (Queue.intoCompressed c).length = ((bits W c).length + W - 1) / W := by
  obtain ⟨hB, hS⟩ := hI
  rcases hS with ⟨hm, hc⟩ | ⟨j, hj, hm, hc⟩
  · have hexp : Queue.intoCompressed c = c.backend := by simp [Queue.intoCompressed, hm]
    have hlen : (bits W c).length = c.backend.length * W := by
      rw [bits_length, fill_zero hm, Nat.add_zero]
    rw [hexp, padTo_whole hlen, hlen, bits_of_mask_zero hm]
    refine ⟨rfl, hB, ?_⟩
    rw [Nat.add_sub_assoc hW, Nat.add_comm, Nat.add_mul_div_right _ _ hW,
      Nat.div_eq_of_lt (Nat.sub_lt hW Nat.one_pos), Nat.zero_add]
  · have hexp : Queue.intoCompressed c = c.cw :: c.backend := by
      simp [Queue.intoCompressed, hm]
    have hlen : (bits W c).length = c.backend.length * W + (j + 1) := by
      rw [bits_length, fill_pow hj hm]
    rw [hexp, padTo, hlen, pad_after _ (Nat.le_add_left 1 j) hj, bits_of_mask_pow hj hm]
    refine ⟨?_, ?_, ?_⟩
    · rw [wordBits_cons, List.append_assoc, ← lowBits_of_lt hc, Nat.add_sub_cancel' hj]
    · intro w hw
      rcases List.mem_cons.mp hw with rfl | h
      · exact Nat.lt_of_lt_of_le hc (pow_le_pow2 hj)
      · exact hB w h
    · rw [words_after _ (Nat.le_add_left 1 j) hj, List.length_cons]

theorem queue_export_factors (hW : 1 ≤ W) {c₁ c₂ : Coder} (h₁ : Inv W c₁) (h₂ : Inv W c₂)
    (h : bits W c₁ = bits W c₂) : Queue.intoCompressed c₁ = Queue.intoCompressed c₂ := by
  have f₁ := queue_export_format hW h₁
  have f₂ := queue_export_format hW h₂
  apply wordBits_injective hW f₁.2.1 f₂.2.1
  rw [f₁.1, f₂.1, h]

theorem queue_fromCompressed_inv {ws : List Nat} (h : ∀ w ∈ ws, w < 2^W) :
    Inv W (Queue.fromCompressed ws) ∧ bits W (Queue.fromCompressed ws) = wordBits W ws :=
  ⟨⟨h, Or.inl ⟨rfl, rfl⟩⟩, bits_of_mask_zero rfl⟩

theorem Stack.intoCompressed_eq (W : Nat) (c : Coder) :
    Stack.intoCompressed W c = Queue.intoCompressed (writeBit W c true) := rfl

theorem stack_export_factors (hW : 1 ≤ W) {c₁ c₂ : Coder} (h₁ : Inv W c₁) (h₂ : Inv W c₂)
    (h : bits W c₁ = bits W c₂) : Stack.intoCompressed W c₁ = Stack.intoCompressed W c₂ :=
  queue_export_factors hW (writeBit_inv hW h₁ true) (writeBit_inv hW h₂ true)
    (by rw [writeBit_bits hW h₁, writeBit_bits hW h₂, h])

/-- the state after `write_bit(true)`: the terminator is the top bit of the current word -/
theorem writeBit_true_shape (hW : 1 ≤ W) (hI : Inv W c) :
    ∃ j, j < W ∧ (writeBit W c true).mask = 2^j ∧ 2^j ≤ (writeBit W c true).cw ∧
      (writeBit W c true).cw < 2^(j+1) := by
  have hs := writeBit_spec hW hI true
  rcases hs.1.2 with ⟨hm, _⟩ | ⟨j, hj, hm, hc⟩
  · exact absurd hm (writeBit_mask_ne_zero W c true)
  · refine ⟨j, hj, hm, Nat.ge_two_pow_of_testBit ?_, hc⟩
    have hb := hs.2
    rw [bits_of_mask_pow hj hm, lowBits_succ, ← List.append_assoc] at hb
    simpa using congrArg List.getLast? hb

theorem Stack.intoCompressed_cons (hW : 1 ≤ W) (hI : Inv W c) :
    Stack.intoCompressed W c = (writeBit W c true).cw :: (writeBit W c true).backend ∧
      (writeBit W c true).cw ≠ 0 := by
  obtain ⟨j, _, _, hlo, _⟩ := writeBit_true_shape hW hI
  exact ⟨by rw [Stack.intoCompressed_eq, Queue.intoCompressed, if_pos (writeBit_mask_ne_zero W c true)],
    Nat.ne_of_gt (Nat.lt_of_lt_of_le (Nat.two_pow_pos j) hlo)⟩

theorem stack_export_format {W : Nat} (hW : 1 ≤ W) {c : Coder} (hI : Inv W c) :
    ∃ p, p < W ∧
      wordBits W (Stack.intoCompressed W c) = bits W c ++ [true] ++ List.replicate p false ∧
      (∀ w ∈ Stack.intoCompressed W c, w < 2^W) ∧
      (Stack.intoCompressed W c).head? ≠ some 0 ∧ (Stack.intoCompressed W c) ≠ [] ∧
      (Stack.intoCompressed W c).length = (bits W c).length / W + 1 := by
  have hw := writeBit_spec hW hI true
  obtain ⟨hfmt, hlt, hlen⟩ := queue_export_format hW hw.1
  obtain ⟨hcons, hne⟩ := Stack.intoCompressed_cons hW hI
  rw [hw.2] at hfmt hlen
  refine ⟨_, Nat.mod_lt _ hW, hfmt, hlt, ?_, ?_, ?_⟩
  · rw [hcons]
    exact fun h => hne (Option.some.inj h)
  · rw [hcons]
    exact List.cons_ne_nil _ _
  · rw [Stack.intoCompressed_eq, hlen, List.length_append, List.length_singleton,
      Nat.add_right_comm, Nat.add_sub_cancel, Nat.add_div_right _ hW]

theorem stack_import_zero (W : Nat) (rest : List Nat) :
    Stack.fromCompressed W (0 :: rest) = .error .endsInZero := by
  simp [Stack.fromCompressed]

/-- `from_compressed`: the highest set bit of the last word is the terminator and is taken off
    as by a `read_bit` -/
theorem Stack.fromCompressed_cons {last : Nat} (h0 : last ≠ 0) (hlt : last < 2^W)
    (rest : List Nat) :
    Stack.fromCompressed W (last :: rest) =
      .ok (readStep { backend := rest, cw := last, mask := 2^(Nat.log2 last) }).2 := by
  have hlog : Nat.log2 last < W := (Nat.log2_lt h0).mpr hlt
  have hk : W - 1 - (W - (Nat.log2 last + 1)) = Nat.log2 last := by
    rw [Nat.add_comm, Nat.sub_add_eq, Nat.sub_sub_self (Nat.le_sub_one_of_lt hlog)]
  have hand : last &&& 2^(Nat.log2 last) = 2^(Nat.log2 last) := by
    rw [and_two_pow, Nat.testBit_log2 h0]; rfl
  simp [Stack.fromCompressed, h0, csub_ok (Nat.lt_of_le_of_lt (Nat.zero_le _) hlog), lz_eq h0,
    csub_ok (Nat.sub_le_sub_left (Nat.le_add_left 1 _) W), hk, shl_ok hlog, one_shl_mod hlog,
    readStep, hand]

/-- the repaired `from_compressed` accepts **any** word list whose last word is not zero -/
theorem stack_import_inv {ws : List Nat} (hws : ∀ w ∈ ws, w < 2^W)
    (hz : ws.head? ≠ some 0) :
    ∃ c, Stack.fromCompressed W ws = .ok c ∧ Inv W c := by
  cases ws with
  | nil => exact ⟨_, rfl, inv_empty W⟩
  | cons last rest =>
    have hl0 : last ≠ 0 := fun h => hz (congrArg some h)
    have hlt : last < 2^W := hws last List.mem_cons_self
    exact ⟨_, Stack.fromCompressed_cons hl0 hlt rest,
      (readStep_spec (fun w hw => hws w (List.mem_cons_of_mem _ hw)) ((Nat.log2_lt hl0).mpr hlt) rfl
        Nat.lt_log2_self).2.1⟩

theorem fromCompressed_intoCompressed (hW : 1 ≤ W) (hI : Inv W c) :
    Stack.fromCompressed W (Stack.intoCompressed W c) = .ok (readBit W (writeBit W c true)).2 := by
  obtain ⟨j, hj, hm, hlo, hhi⟩ := writeBit_true_shape hW hI
  obtain ⟨hcons, hne⟩ := Stack.intoCompressed_cons hW hI
  rw [hcons, Stack.fromCompressed_cons hne
      (Nat.lt_of_lt_of_le hhi (pow_le_pow2 hj)),
    log2_eq_of_bounds hlo hhi, ← hm, readBit_of_mask_ne_zero (writeBit_mask_ne_zero W c true)]

theorem stack_export_import_bits (hW : 1 ≤ W) (hI : Inv W c) :
    ∃ c', Stack.fromCompressed W (Stack.intoCompressed W c) = .ok c' ∧ Inv W c' ∧
      bits W c' = bits W c :=
  ⟨_, fromCompressed_intoCompressed hW hI, (readBit_writeBit hW hI true).2⟩

theorem stack_guard_spec (hW : 1 ≤ W) (hI : Inv W c) :
    Stack.getCompressed W c =
      .ok (Stack.intoCompressed W c, (readBit W (writeBit W c true)).2) := by
  have hne := writeBit_mask_ne_zero W c true
  have hsome := (readBit_writeBit hW hI true).1
  generalize hd : writeBit W c true = d at *
  have hg : Stack.guardNew W c = { d with backend := d.cw :: d.backend } := by
    simp [Stack.guardNew, hd, hne]
  have hdrop : Stack.guardDrop W { d with backend := d.cw :: d.backend } = .ok (readBit W d).2 := by
    unfold Stack.guardDrop
    simp only [hne, ne_eq, not_false_eq_true, if_true, List.drop_one, List.tail_cons]
    cases hrd : readBit W d with
    | mk o c1 =>
      rw [hrd] at hsome
      simp only at hsome
      subst hsome
      rfl
  simp [Stack.getCompressed, hg, hdrop, Stack.guardView, Stack.intoCompressed, hd, hne]

theorem stack_guard_noop {W : Nat} (hW : 1 ≤ W) {c : Coder} (hI : Inv W c) :
    ∃ c', Stack.getCompressed W c = .ok (Stack.intoCompressed W c, c') ∧ Inv W c' ∧
      bits W c' = bits W c :=
  ⟨_, stack_guard_spec hW hI, (readBit_writeBit hW hI true).2⟩

theorem QDecoder.pos_zero (h : d.mask = 0) : QDecoder.pos W d = W := by
  simp [QDecoder.pos, h]

theorem QDecoder.pos_pow {j : Nat} (hj : j < W) (h : d.mask = 2^j) :
    QDecoder.pos W d = j := by
  simp [QDecoder.pos, h, tz_two_pow W j hj]

theorem QDecoder.bits_length (d : QDecoder) :
    (QDecoder.bits W d).length = W - QDecoder.pos W d + d.rest.length * W := by
  have hrest : (d.rest.flatMap (lowBits W)).length = d.rest.length * W := by
    simpa [wordBits] using wordBits_length W d.rest.reverse
  rw [QDecoder.bits, List.length_append, List.length_drop, lowBits_length, hrest]

theorem QDecoder.bits_length_le (d : QDecoder) :
    (QDecoder.bits W d).length < QDecoder.fuel W d := by
  rw [QDecoder.bits_length, QDecoder.fuel]
  omega

theorem QDecoder.rest_eq_nil (h : (QDecoder.bits W d).length < W) :
    d.rest = [] := by
  rw [QDecoder.bits_length] at h
  cases hr : d.rest with
  | nil => rfl
  | cons w r =>
    rw [hr, List.length_cons, Nat.succ_mul] at h
    omega

theorem QDecoder.readStep_spec {j : Nat} (hj : j < W) (hm : d.mask = 2^j) :
    (QDecoder.readStep W d).1 = (QDecoder.bits W d).head? ∧
      QDecoder.Inv W (QDecoder.readStep W d).2 ∧
      QDecoder.bits W (QDecoder.readStep W d).2 = (QDecoder.bits W d).tail := by
  have hdrop : (lowBits W d.cw).drop j = d.cw.testBit j :: (lowBits W d.cw).drop (j+1) := by
    rw [List.drop_eq_getElem_cons (by simpa using hj)]
    simp [lowBits]
  rw [QDecoder.bits, QDecoder.pos_pow hj hm, hdrop]
  by_cases hlast : j + 1 < W
  · have hwm : ((2:Nat)^j <<< 1) % 2^W = 2^(j+1) := by
      rw [shl1_pow, Nat.mod_eq_of_lt (pow_lt_pow2 hlast)]
    have hstep : QDecoder.readStep W d =
        (some (d.cw.testBit j), { rest := d.rest, cw := d.cw, mask := 2^(j+1) }) := by
      simp [QDecoder.readStep, hm, hwm, and_pow_ne_zero]
    rw [hstep]
    exact ⟨rfl, Or.inr ⟨j+1, hlast, rfl⟩, by rw [QDecoder.bits, QDecoder.pos_pow hlast rfl]; rfl⟩
  · obtain rfl : W = j + 1 := Nat.le_antisymm (Nat.le_of_not_lt hlast) hj
    have hwm : ((2:Nat)^j <<< 1) % 2^(j+1) = 0 := by rw [shl1_pow, Nat.mod_self]
    have hstep : QDecoder.readStep (j+1) d =
        (some (d.cw.testBit j), { rest := d.rest, cw := d.cw, mask := 0 }) := by
      simp [QDecoder.readStep, hm, hwm, and_pow_ne_zero]
    rw [hstep]
    exact ⟨rfl, Or.inl rfl, by rw [QDecoder.bits, QDecoder.pos_zero rfl]; rfl⟩

theorem QDecoder.readBit_spec (hW : 1 ≤ W) (hI : QDecoder.Inv W d) :
    (QDecoder.readBit W d).1 = (QDecoder.bits W d).head? ∧
      QDecoder.Inv W (QDecoder.readBit W d).2 ∧
      QDecoder.bits W (QDecoder.readBit W d).2 = (QDecoder.bits W d).tail := by
  rcases hI with hm | ⟨j, hj, hm⟩
  · have hbits : QDecoder.bits W d = d.rest.flatMap (lowBits W) := by
      rw [QDecoder.bits, QDecoder.pos_zero hm, List.drop_of_length_le (by simp), List.nil_append]
    cases hr : d.rest with
    | nil =>
      have hrd : QDecoder.readBit W d = (none, d) := by simp [QDecoder.readBit, hm, hr]
      rw [hrd, hbits, hr]
      exact ⟨rfl, Or.inl hm, rfl⟩
    | cons w rest =>
      have hrd : QDecoder.readBit W d = QDecoder.readStep W { rest := rest, cw := w, mask := 1 } := by
        simp [QDecoder.readBit, hm, hr]
      have hb : QDecoder.bits W d = QDecoder.bits W ({ rest := rest, cw := w, mask := 1 } : QDecoder) := by
        rw [hbits, hr, QDecoder.bits, QDecoder.pos_pow (j := 0) hW rfl]
        rfl
      rw [hrd, hb]
      exact QDecoder.readStep_spec (j := 0) hW rfl
  · rw [QDecoder.readBit, if_neg (by rw [hm]; exact Nat.ne_of_gt (Nat.two_pow_pos j))]
    exact QDecoder.readStep_spec hj hm

theorem QDecoder.readBit_none (hW : 1 ≤ W) (hI : QDecoder.Inv W d)
    (h : QDecoder.bits W d = []) : QDecoder.readBit W d = (none, d) := by
  have hlen := QDecoder.bits_length (W := W) d
  have hr := QDecoder.rest_eq_nil (W := W) (d := d) (by rw [h]; exact hW)
  rw [h, List.length_nil] at hlen
  rcases hI with hm | ⟨j, hj, hm⟩
  · simp [QDecoder.readBit, hm, hr]
  · rw [QDecoder.pos_pow hj hm] at hlen
    omega

theorem queueSrc_refines (hW : 1 ≤ W) :
    Src.Refines (queueSrc W) (QDecoder.Inv W) (QDecoder.bits W) where
  inv := fun _ hI => (QDecoder.readBit_spec hW hI).2.1
  out := fun _ hI => (QDecoder.readBit_spec hW hI).1
  view := fun _ hI => (QDecoder.readBit_spec hW hI).2.2

theorem QDecoder.iter_spec (hW : 1 ≤ W) (hI : QDecoder.Inv W d) :
    ∃ d', QDecoder.iter W d = .ok (QDecoder.bits W d, d') ∧ QDecoder.Inv W d' ∧
      QDecoder.bits W d' = [] := by
  obtain ⟨d', hd, hI', hn⟩ := (queueSrc_refines hW).drain (QDecoder.drain W)
    (fun _ _ _ h => by rw [QDecoder.drain, show QDecoder.readBit W _ = _ from h])
    (fun _ _ _ _ _ _ h hd => by
      rw [QDecoder.drain, show QDecoder.readBit W _ = _ from h]; simp only [hd])
    (QDecoder.fuel W d) d hI (QDecoder.bits_length_le d)
  exact ⟨d', by rw [QDecoder.iter, hd], hI', hn⟩

theorem QDecoder.fromCompressed_spec (W : Nat) (ws : List Nat) :
    QDecoder.Inv W (QDecoder.fromCompressed ws) ∧
      QDecoder.bits W (QDecoder.fromCompressed ws) = ws.flatMap (lowBits W) := by
  refine ⟨Or.inl rfl, ?_⟩
  simp [QDecoder.bits, QDecoder.fromCompressed, QDecoder.pos]

theorem queue_intoDecoder_padTo (hW : 1 ≤ W) (hI : Inv W c) :
    QDecoder.Inv W (Queue.intoDecoder c) ∧
      QDecoder.bits W (Queue.intoDecoder c) = padTo W (bits W c) := by
  have hs := QDecoder.fromCompressed_spec W (Queue.intoCompressed c).reverse
  exact ⟨hs.1, hs.2.trans (queue_export_format hW hI).1⟩

theorem writeBit_backend (W : Nat) (c : Coder) (b : Bool) :
    (writeBit W c b).backend =
      if (c.mask <<< 1) % 2^W = 0 ∧ c.mask ≠ 0 then c.cw :: c.backend else c.backend := by
  unfold writeBit
  by_cases h1 : (c.mask <<< 1) % 2^W = 0 <;> by_cases h2 : c.mask = 0 <;> simp [h1, h2]

/-- a write is refused exactly when it would have to flush a full word into a full sink -/
theorem writeBitB_eq (W cap : Nat) (c : Coder) (b : Bool) :
    writeBitB W cap c b =
      if (c.mask <<< 1) % 2^W = 0 ∧ c.mask ≠ 0 ∧ cap ≤ c.backend.length then (c, false)
      else (writeBit W c b, true) := by
  unfold writeBitB
  by_cases h1 : (c.mask <<< 1) % 2^W = 0
  · by_cases h2 : c.mask ≠ 0 ∧ cap ≤ c.backend.length <;> simp [h1, h2]
  · simp [h1]

theorem Queue.intoCompressedB_eq (cap : Nat) (c : Coder) :
    Queue.intoCompressedB cap c =
      if c.mask ≠ 0 ∧ cap ≤ c.backend.length then none else some (Queue.intoCompressed c) := by
  unfold Queue.intoCompressedB Queue.intoCompressed
  by_cases h1 : c.mask = 0 <;> by_cases h2 : cap ≤ c.backend.length <;> simp [h1, h2]

end CV.Bits
