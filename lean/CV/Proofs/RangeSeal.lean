import CV.Proofs.RangeRefine
/-!
# Sealing

Sealing releases the held-back words for the point `lower + 2^(S-W) − 1` exactly as
`encode_symbol` releases them for a new `lower` (`resolveP` with an empty range), so what is
known about `resolveP` carries over.
-/
namespace CV.Range
variable {c : Cfg} {Sym : Type}

/-- `point = lower ⊕ (2^(S-W) − 1)` -/
def pointP (c : Cfg) (e : Encoder) : Nat := (e.lower + (2^(c.S - c.W) - 1)) % 2^c.S

def sealHeld (c : Cfg) (e : Encoder) : List Nat :=
  match e.situation with
  | .normal => []
  | .inverted n first => heldP c n first (decide (2^c.S ≤ e.lower + (2^(c.S - c.W) - 1)))

def pointWordP (c : Cfg) (e : Encoder) : Nat := pointP c e / 2^(c.S - c.W)
def upperWordP (c : Cfg) (e : Encoder) : Nat := ((e.lower + e.range) % 2^c.S) / 2^(c.S - c.W)

def sealP (c : Cfg) (e : Encoder) : List Nat :=
  if e.range = maxState c then [] else
  sealHeld c e ++ [pointWordP c e] ++ (if upperWordP c e = pointWordP c e then [0] else [])

theorem sealPoint_eq (hc : RValid c) (e : Encoder) :
    sealPoint c e = .ok (pointP c e) := by
  unfold sealPoint
  simp only [hc.shl_thr, csub_ok (show 1 ≤ 2^(c.S - c.W) from Nat.two_pow_pos _)]
  rfl

theorem pointWordP_lt (hc : RValid c) (e : Encoder) : pointWordP c e < 2^c.W :=
  hc.top_lt (Nat.mod_lt _ (Nat.two_pow_pos _))

theorem narrow_pointWord (hc : RValid c) (e : Encoder) :
    narrow c.W (pointP c e / 2^(c.S - c.W)) = pointWordP c e :=
  hc.narrow_top (Nat.mod_lt _ (Nat.two_pow_pos _))

theorem narrow_upperWord (hc : RValid c) (e : Encoder) :
    narrow c.W ((e.lower + e.range) % 2^c.S / 2^(c.S - c.W)) = upperWordP c e :=
  hc.narrow_top (Nat.mod_lt _ (Nat.two_pow_pos _))

theorem sealWords_eq (hc : RValid c) {e : Encoder} (hI : Inv c e) :
    sealWords c e = .ok (sealP c e) := by
  obtain ⟨_, hl, _, _, hs⟩ := hI
  have hheld : sealHeldM c e (pointP c e) = .ok (sealHeld c e) := by
    unfold sealHeldM sealHeld pointP
    cases hsit : e.situation with
    | normal => rfl
    | inverted n first =>
      rw [hsit] at hs
      simp only [wrap_lt_iff hl (show 2^(c.S - c.W) - 1 < 2^c.S by have := hc.pow_SW_lt; omega),
        heldWords_eq hs.2.1]
  unfold sealWords sealP
  split
  · rfl
  · simp only [sealPoint_eq hc, hheld, hc.shr_top, wadd_eq, narrow_pointWord hc,
      narrow_upperWord hc]

theorem sealEnc_eq (hc : RValid c) {e : Encoder} (hI : Inv c e) :
    sealEnc c e = .ok { e with bulk := e.bulk ++ sealP c e } := by
  unfold sealEnc; rw [sealWords_eq hc hI]

theorem intoCompressed_eq (hc : RValid c) {e : Encoder} (hI : Inv c e) :
    intoCompressed c e = .ok (e.bulk ++ sealP c e) := by
  unfold intoCompressed; rw [sealEnc_eq hc hI]

theorem resolveP_seal (c : Cfg) (e : Encoder) :
    resolveP c e (2^(c.S - c.W) - 1) 0 = (e.bulk ++ sealHeld c e, .normal) := by
  unfold sealHeld resolveP
  cases e.situation with
  | normal => rw [List.append_nil]
  | inverted n first => simp only [Nat.add_zero, Nat.mod_lt _ (Nat.two_pow_pos c.S), if_true]

/-- the held-back words released for the point are as many as `pos()` counts, and read as a number
    they account for the carry of `lower + 2^(S-W) − 1` -/
theorem sealHeld_spec (hc : RValid c) {e : Encoder} (hI : Inv c e) :
    WordsOK c (e.bulk ++ sealHeld c e) ∧
    (sealHeld c e).length = heldCount e.situation ∧
    val c.W (e.bulk ++ sealHeld c e) * 2^c.W + pointWordP c e
      = (absLo c e + (2^(c.S - c.W) - 1)) / 2^(c.S - c.W) := by
  obtain ⟨hb, hl, hr, hr2, hs⟩ := hI
  have hU := Nat.two_pow_pos (c.S - c.W)
  have h := resolveP_spec (off := 2^(c.S - c.W) - 1) (r1 := 0) hb hl hr2
    (Nat.le_trans (Nat.sub_le _ 1) hr) hs
  rw [resolveP_seal] at h
  obtain ⟨h1, -, h3, h4⟩ := h
  refine ⟨h1, Nat.add_left_cancel (List.length_append ▸ h4), ?_⟩
  have hT : val c.W (e.bulk ++ sealHeld c e) * 2^c.S
      = 2^(c.S - c.W) * (val c.W (e.bulk ++ sealHeld c e) * 2^c.W) := by
    rw [hc.pow_S, Nat.mul_left_comm]
  rw [← h3, heldDigits, List.append_nil, hT, Nat.mul_add_div hU]
  rfl

theorem numSealWords_eq (hc : RValid c) {e : Encoder} (hI : Inv c e)
    (hf : Fits c e 0) :
    numSealWords c e = .ok (sealP c e).length := by
  have hfl := hf.held_lt hc
  have hlen := (sealHeld_spec hc hI).2.1
  unfold numSealWords sealP
  split
  · rfl
  · simp only [sealPoint_eq hc, hc.shr_top, wadd_eq, narrow_pointWord hc, narrow_upperWord hc,
      List.length_append, List.length_singleton, hlen, heldCount]
    -- `count` is 2 or 1 (with or without the zero word), plus the held words
    split
    · rw [cadd_ok (by omega), Nat.add_comm 2]; rfl
    · rw [cadd_ok (by omega), Nat.add_comm 1]; rfl

theorem sealP_length_le (hc : RValid c) {e : Encoder} (hI : Inv c e) :
    (sealP c e).length ≤ e.situation.held + 2 := by
  have hlen := (sealHeld_spec hc hI).2.1
  unfold sealP
  split
  · exact Nat.zero_le _
  · simp only [List.length_append, List.length_singleton, hlen, heldCount]
    split <;> simp only [List.length_cons, List.length_nil] <;> omega

theorem numWords_eq (hc : RValid c) {e : Encoder} (hI : Inv c e) (hf : Fits c e 0) :
    numWords c e = .ok (e.bulk ++ sealP c e).length := by
  have hfl := hf.held_lt hc
  have hle := sealP_length_le hc hI
  unfold numWords
  rw [numSealWords_eq hc hI hf, List.length_append]
  dsimp only
  rw [cadd_ok (by omega)]

theorem numBits_eq (hc : RValid c) {e : Encoder} (hI : Inv c e) (hf : Fits c e 0) :
    numBits c e = .ok (c.W * (e.bulk ++ sealP c e).length) := by
  have hle := sealP_length_le hc hI
  unfold numBits
  rw [numWords_eq hc hI hf]
  dsimp only
  rw [cmul_ok (Nat.lt_of_le_of_lt (Nat.mul_le_mul_left _ (by rw [List.length_append]; omega)) hf)]

theorem pos_eq (hc : RValid c) {e : Encoder} (hf : Fits c e 0) :
    e.pos = .ok (e.bulk.length + e.situation.held, e.lower, e.range) := by
  have := hf.held_lt hc
  unfold Encoder.pos
  rw [cadd_ok (by omega)]

theorem unseal_seal (hc : RValid c) {e : Encoder} (hI : Inv c e) (hf : Fits c e 0) :
    unsealEnc c { e with bulk := e.bulk ++ sealP c e } = .ok e := by
  -- `num_seal_words` does not look at the backend
  have hk : numSealWords c { e with bulk := e.bulk ++ sealP c e } = .ok (sealP c e).length :=
    numSealWords_eq (e := e) hc hI hf
  unfold unsealEnc
  rw [hk]
  simp only [List.length_append, Nat.le_add_left, if_true, Nat.add_sub_cancel,
    List.take_left']

theorem sealP_wordsOK (hc : RValid c) {e : Encoder} (hI : Inv c e) :
    WordsOK c (e.bulk ++ sealP c e) := by
  have h := (sealHeld_spec hc hI).1
  unfold sealP
  split
  · rw [List.append_nil]; exact hI.1
  · rw [← List.append_assoc, ← List.append_assoc]
    apply (h.append (WordsOK.cons (pointWordP_lt hc e) WordsOK.nil)).append
    split
    · exact WordsOK.cons (Nat.two_pow_pos _) WordsOK.nil
    · exact WordsOK.nil

/-- what `into_compressed` returns is what the reference prescribes for the abstract state -/
theorem seal_conforms (hc : RValid c) {e : Encoder} (hI : Inv c e)
    (hne : e.range ≠ maxState c) :
    e.bulk ++ sealP c e = RangeSpec.sealWords c.W c.S (absE c e) := by
  obtain ⟨hok, hlen, hval⟩ := sealHeld_spec hc hI
  have hU := Nat.two_pow_pos (c.S - c.W)
  have hpw := pointWordP_lt hc e
  have hY : sealY c (absE c e) = val c.W (e.bulk ++ sealHeld c e ++ [pointWordP c e]) := by
    rw [val_snoc, hval, sealY]
    congr 1
    simp only [absE]; omega
  have hdig : RangeSpec.digits c.W ((absE c e).m + 1) (sealY c (absE c e))
      = e.bulk ++ sealHeld c e ++ [pointWordP c e] := by
    have hl' : (e.bulk ++ sealHeld c e ++ [pointWordP c e]).length = (absE c e).m + 1 := by
      simp only [List.length_append, List.length_singleton, hlen, absE]
    rw [hY, ← hl']
    exact digits_val _ (hok.append (WordsOK.cons hpw WordsOK.nil))
  have hpw' : sealY c (absE c e) % 2^c.W = pointWordP c e := by
    rw [hY, val_snoc, mul_add_mod_of_lt hpw]
  have huw : ((absE c e).Lo + (absE c e).R) / 2^(c.S - c.W) % 2^c.W = upperWordP c e := by
    simp only [absE, absLo]
    rw [Nat.add_assoc, hc.pow_S, Nat.mul_left_comm, Nat.mul_add_div hU,
      Nat.mul_comm (val c.W (digitsOf c e)), Nat.mul_add_mod]
    unfold upperWordP
    rw [hc.pow_S, Nat.mod_mul_right_div_self]
  rw [sealWords_spec_eq, hdig, hpw', huw]
  unfold sealP
  simp only [hne, if_false, List.append_assoc]

end CV.Range
