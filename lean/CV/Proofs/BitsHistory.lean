import CV.Proofs.BitsExpGolomb
/-!
# Histories: the coders refine "a list of bits" under arbitrary interleavings of operations

`DecBook.Lawful`: a decoder codebook that uses its source only through `next`.  `X.step` /
`X.spec` (`X` = `Stack`, `Queue`, `QDecoder`): one operation on the Impl model / on the list Spec;
`run_refines`: any operation sequence produces the same outputs on both.
-/
namespace CV.Bits
variable {W : Nat} {c : Coder} {d : QDecoder}
variable {σ : Type} {src : Src σ} {I : σ → Prop} {view : σ → List Bool}

/-- result of a decoder run, seen through the abstraction -/
def viewRes {σ α : Type} (view : σ → List Bool) (r : M (σ × α)) : M (List Bool × α) :=
  match r with
  | .error e => .error e
  | .ok (s, a) => .ok (view s, a)

/-- a run `r` over a source and the run `r'` over its list view agree, and `r` ends in a state
    satisfying `I`; `DecBook.Lawful.refines` asks exactly this of `decode` -/
def Sim {σ α : Type} (view : σ → List Bool) (I : σ → Prop) (r : M (σ × α))
    (r' : M (List Bool × α)) : Prop :=
  viewRes view r = r' ∧ ∀ s a, r = .ok (s, a) → I s

theorem Sim.error {α : Type} (e : Fault) :
    Sim (α := α) view I (.error e) (.error e) :=
  ⟨rfl, nofun⟩

theorem Sim.ok {α : Type} {s : σ} (h : I s) (a : α) :
    Sim view I (.ok (s, a)) (.ok (view s, a)) :=
  ⟨rfl, fun _ _ e => by cases e; exact h⟩

/-- a decoder codebook that uses its source only through `next`, whose result does not depend
    on surplus fuel -/
structure DecBook.Lawful {Sym : Type} (bk : DecBook Sym) : Prop where
  refines : ∀ {σ : Type} (src : Src σ) (I : σ → Prop) (view : σ → List Bool),
    Src.Refines src I view → ∀ (f : Nat) (s : σ), I s →
      viewRes view (bk.decode src f s) = bk.decode listSrc f (view s) ∧
      (∀ s' r, bk.decode src f s = .ok (s', r) → I s')
  fuel : ∀ (l : List Bool) (f f' : Nat), l.length < f → l.length < f' →
    bk.decode listSrc f l = bk.decode listSrc f' l

theorem DecBook.Lawful.sim {Sym : Type} {bk : DecBook Sym} (hL : bk.Lawful) (R : Src.Refines src I view) {f : Nat} {s : σ}
    (hI : I s) (hf : (view s).length < f) :
    Sim view I (bk.decode src f s) (bk.decode listSrc ((view s).length + 1) (view s)) := by
  rw [hL.fuel (view s) _ f (Nat.lt_succ_self _) hf]
  exact hL.refines src I view R f s hI

namespace EG

theorem countZeros_refines (R : Src.Refines src I view) (f : Nat) (s : σ) (n : Nat) (hI : I s) :
    Sim view I (countZeros src f s n) (countZeros listSrc f (view s) n) := by
  induction f generalizing s n with
  | zero => exact Sim.error _
  | succ f ih =>
    obtain ⟨s₁, hI₁, ⟨hv, hn, hv₁⟩ | ⟨b, hv, hn⟩⟩ := R.next_cases hI
    · rw [countZeros, countZeros, hn, hv, listSrc_next_nil, ← hv₁]
      exact Sim.ok hI₁ _
    · rw [countZeros, countZeros, hn, hv, listSrc_next_cons]
      cases b with
      | true => exact Sim.ok hI₁ _
      | false =>
        cases cadd "eg.dec.len" 32 n 1 with
        | error e => exact Sim.error e
        | ok n' => exact ih s₁ n' hI₁

theorem readBits_refines (R : Src.Refines src I view) (N k : Nat) (s : σ) (a : Nat) (hI : I s) :
    I (readBits src N k s a).1 ∧
      readBits listSrc N k (view s) a = (view (readBits src N k s a).1, (readBits src N k s a).2) := by
  induction k generalizing s a with
  | zero => exact ⟨hI, rfl⟩
  | succ k ih =>
    obtain ⟨s₁, hI₁, ⟨hv, hn, hv₁⟩ | ⟨b, hv, hn⟩⟩ := R.next_cases hI
    · rw [readBits, readBits, hn, hv, listSrc_next_nil, ← hv₁]
      exact ⟨hI₁, rfl⟩
    · rw [readBits, readBits, hn, hv, listSrc_next_cons]
      exact ih s₁ _ hI₁

theorem decode_refines (R : Src.Refines src I view) (N f : Nat) (s : σ) (hI : I s) :
    Sim view I (decode N src f s) (decode N listSrc f (view s)) := by
  obtain ⟨hc, hIc⟩ := countZeros_refines R f s 0 hI
  unfold decode
  rw [← hc]
  cases hcz : countZeros src f s 0 with
  | error e => exact Sim.error e
  | ok p =>
    obtain ⟨s₁, o⟩ := p
    have hI₁ : I s₁ := hIc s₁ o hcz
    cases o with
    | none => exact Sim.ok hI₁ _
    | some len =>
      simp only [viewRes]
      split
      · exact Sim.ok hI₁ _
      · obtain ⟨hI₂, hr⟩ := readBits_refines R N len s₁ 1 hI₁
        rw [hr]
        generalize readBits src N len s₁ 1 = p at hI₂
        obtain ⟨s₂, _ | np1⟩ := p
        · exact Sim.ok hI₂ _
        · simp only []
          split <;> exact Sim.ok hI₂ _

theorem decBook_lawful (N : Nat) : (decBook N).Lawful where
  refines := fun _ _ _ R f s hI => decode_refines R N f s hI
  fuel := fun l f f' h h' => by
    show decode N listSrc f l = decode N listSrc f' l
    rw [decode, decode, countZeros_fuel l f f' 0 h h']

end EG

inductive Out where
  | unit
  | bit (o : Option Bool)
  | nat (n : Nat)
  | bool (b : Bool)
  | words (ws : List Nat)
  | bitList (l : List Bool)
  | sym (r : Except SymErr Nat)
  | fault
  deriving DecidableEq

def Out.isFault : Out → Bool
  | .fault => true
  | _ => false

universe u

/-- run a history; a fault (panic) ends it -/
def run {σ : Type} {Op : Type u} (step : Op → σ → Out × σ) : List Op → σ → List Out × σ
  | [], s => ([], s)
  | op :: ops, s =>
    let r := step op s
    if r.1.isFault then ([r.1], r.2) else ((r.1 :: (run step ops r.2).1), (run step ops r.2).2)

/-- the canonical coder holding the bits `l` -/
def canon (W : Nat) (l : List Bool) : Coder := writeBits W empty l

theorem canon_spec (hW : 1 ≤ W) (l : List Bool) :
    Inv W (canon W l) ∧ bits W (canon W l) = l := by
  have := writeBits_spec hW l (inv_empty W)
  simpa [canon] using this

inductive SOp where
  | write (b : Bool)
  | read
  | len
  | isEmpty
  | getCompressed
  | iter
  | reimport
  /-- `encode_symbol` with a codebook whose `encode_symbol_suffix` emits `r` -/
  | encode (r : M (List Bool))
  | decode (bk : DecBook Nat)

def SOp.Lawful : SOp → Prop
  | .decode bk => bk.Lawful
  | _ => True

def Stack.step (W : Nat) : SOp → Coder → Out × Coder
  | .write b, c => (.unit, writeBit W c b)
  | .read, c => (.bit (readBit W c).1, (readBit W c).2)
  | .len, c => match len W c with
    | .ok n => (.nat n, c)
    | .error _ => (.fault, c)
  | .isEmpty, c => (.bool (isEmpty c), c)
  | .getCompressed, c => match Stack.getCompressed W c with
    | .ok (ws, c') => (.words ws, c')
    | .error _ => (.fault, c)
  | .iter, c => match Stack.iter W c with
    | .ok l => (.bitList l, c)
    | .error _ => (.fault, c)
  | .reimport, c => match Stack.fromCompressed W (Stack.intoCompressed W c) with
    | .ok c' => (.words (Stack.intoCompressed W c), c')
    | .error _ => (.fault, c)
  | .encode r, c => match r with
    | .ok bs => (.unit, writeBits W c bs)
    | .error _ => (.fault, c)
  | .decode bk, c => match Stack.decodeSymbol W bk c with
    | .ok (c', r) => (.sym r, c')
    | .error _ => (.fault, c)

/-- the Spec: a list used as a stack (top = last element).  The words shown by the guard / by
    the export are those of the canonical coder for the same bits (`stack_export_format` gives
    their format). -/
def Stack.spec (W : Nat) : SOp → List Bool → Out × List Bool
  | .write b, l => (.unit, l ++ [b])
  | .read, l => (.bit l.getLast?, l.dropLast)
  | .len, l => (if l.length < 2^64 then .nat l.length else .fault, l)
  | .isEmpty, l => (.bool l.isEmpty, l)
  | .getCompressed, l => (.words (Stack.intoCompressed W (canon W l)), l)
  | .iter, l => (.bitList l.reverse, l)
  | .reimport, l => (.words (Stack.intoCompressed W (canon W l)), l)
  | .encode r, l => match r with
    | .ok bs => (.unit, l ++ bs)
    | .error _ => (.fault, l)
  | .decode bk, l => match bk.decode listSrc (l.length + 1) l.reverse with
    | .ok (rest, r) => (.sym r, rest.reverse)
    | .error _ => (.fault, l)

theorem len_out (c : Coder) :
    (match len W c with
      | .ok n => (Out.nat n, c)
      | .error _ => (Out.fault, c)) =
    (if (bits W c).length < 2^64 then .nat (bits W c).length else .fault, c) := by
  by_cases h : (bits W c).length < 2^64
  · rw [len_spec c h, if_pos h]
  · obtain ⟨f, hf⟩ := len_overflow c h
    rw [hf, if_neg h]

theorem isEmpty_eq (hW : 1 ≤ W) (c : Coder) : isEmpty c = (bits W c).isEmpty := by
  rw [Bool.eq_iff_iff, isEmpty_iff hW, List.isEmpty_iff]

theorem Stack.step_refines (hW : 1 ≤ W) (op : SOp) (hop : op.Lawful) (hI : Inv W c) :
    (Stack.step W op c).1 = (Stack.spec W op (bits W c)).1 ∧ Inv W (Stack.step W op c).2 ∧
      bits W (Stack.step W op c).2 = (Stack.spec W op (bits W c)).2 := by
  have hwords : Stack.intoCompressed W c = Stack.intoCompressed W (canon W (bits W c)) :=
    stack_export_factors hW hI (canon_spec hW _).1 (canon_spec hW _).2.symm
  cases op with
  | write b => exact ⟨rfl, writeBit_spec hW hI b⟩
  | read => exact ⟨congrArg Out.bit (readBit_fst hW hI), readBit_inv hW hI, readBit_bits hW hI⟩
  | len =>
    rw [Stack.step, len_out]
    exact ⟨rfl, hI, rfl⟩
  | isEmpty => exact ⟨congrArg Out.bool (isEmpty_eq hW c), hI, rfl⟩
  | getCompressed =>
    obtain ⟨c', hg, hI', hb'⟩ := stack_guard_noop hW hI
    rw [Stack.step, hg]
    exact ⟨congrArg Out.words hwords, hI', hb'⟩
  | iter =>
    rw [Stack.step, iter_spec hW hI]
    exact ⟨rfl, hI, rfl⟩
  | reimport =>
    obtain ⟨c', hg, hI', hb'⟩ := stack_export_import_bits hW hI
    rw [Stack.step, hg]
    exact ⟨congrArg Out.words hwords, hI', hb'⟩
  | encode r =>
    cases r with
    | error e => exact ⟨rfl, hI, rfl⟩
    | ok bs => exact ⟨rfl, writeBits_spec hW bs hI⟩
  | decode bk =>
    obtain ⟨h1, h2⟩ := DecBook.Lawful.sim hop (stackSrc_refines hW) hI
      (by rw [List.length_reverse]; exact fuel_gt hI)
    rw [List.length_reverse] at h1
    rw [Stack.step, Stack.spec, Stack.decodeSymbol, ← h1]
    cases hd : bk.decode (stackSrc W) (Stack.fuel W c) c with
    | error e => exact ⟨rfl, hI, rfl⟩
    | ok p =>
      obtain ⟨c', r⟩ := p
      exact ⟨rfl, h2 c' r hd, (List.reverse_reverse (bits W c')).symm⟩

theorem run_refines {σ τ : Type} {Op : Type u} (stepI : Op → σ → Out × σ) (stepS : Op → τ → Out × τ)
    (I : σ → Prop) (abs : σ → τ) (P : Op → Prop)
    (hstep : ∀ op, P op → ∀ s, I s →
      (stepI op s).1 = (stepS op (abs s)).1 ∧ I (stepI op s).2 ∧ abs (stepI op s).2 = (stepS op (abs s)).2)
    (ops : List Op) (hP : ∀ op ∈ ops, P op) (s : σ) (hI : I s) :
    (run stepI ops s).1 = (run stepS ops (abs s)).1 ∧ I (run stepI ops s).2 ∧
      abs (run stepI ops s).2 = (run stepS ops (abs s)).2 := by
  induction ops generalizing s with
  | nil => exact ⟨rfl, hI, rfl⟩
  | cons op ops ih =>
    have h := hstep op (hP op List.mem_cons_self) s hI
    have ih := ih (fun o ho => hP o (List.mem_cons_of_mem _ ho)) (stepI op s).2 h.2.1
    simp only [run]
    rw [← h.1, ← h.2.2]
    cases hf : (stepI op s).1.isFault
    · simp only [Bool.false_eq_true, if_false]
      exact ⟨by rw [ih.1], ih.2.1, ih.2.2⟩
    · simp only [if_true]
      exact ⟨trivial, h.2.1, trivial⟩

theorem stack_run_refines (hW : 1 ≤ W) (ops : List SOp) (hops : ∀ op ∈ ops, op.Lawful)
    (hI : Inv W c) :
    (run (Stack.step W) ops c).1 = (run (Stack.spec W) ops (bits W c)).1 ∧
      Inv W (run (Stack.step W) ops c).2 ∧
      bits W (run (Stack.step W) ops c).2 = (run (Stack.spec W) ops (bits W c)).2 :=
  run_refines (Stack.step W) (Stack.spec W) (Inv W) (bits W) SOp.Lawful
    (fun op hop _ hI => Stack.step_refines hW op hop hI) ops hops c hI

inductive QOp where
  | write (b : Bool)
  | len
  | isEmpty
  | getCompressed
  /-- `into_compressed` followed by `QueueEncoder::from_compressed` on the result -/
  | reexport
  /-- `encode_symbol` with a codebook whose `encode_symbol_prefix` emits `r` -/
  | encode (r : M (List Bool))

def Queue.step (W : Nat) : QOp → Coder → Out × Coder
  | .write b, c => (.unit, writeBit W c b)
  | .len, c => match len W c with
    | .ok n => (.nat n, c)
    | .error _ => (.fault, c)
  | .isEmpty, c => (.bool (isEmpty c), c)
  | .getCompressed, c => (.words (Queue.getCompressed c).1, (Queue.getCompressed c).2)
  | .reexport, c => (.words (Queue.intoCompressed c), Queue.fromCompressed (Queue.intoCompressed c))
  | .encode r, c => match r with
    | .ok bs => (.unit, writeBits W c bs)
    | .error _ => (.fault, c)

def Queue.spec (W : Nat) : QOp → List Bool → Out × List Bool
  | .write b, l => (.unit, l ++ [b])
  | .len, l => (if l.length < 2^64 then .nat l.length else .fault, l)
  | .isEmpty, l => (.bool l.isEmpty, l)
  | .getCompressed, l => (.words (Queue.intoCompressed (canon W l)), l)
  | .reexport, l => (.words (Queue.intoCompressed (canon W l)), padTo W l)
  | .encode r, l => match r with
    | .ok bs => (.unit, l ++ bs)
    | .error _ => (.fault, l)

theorem Queue.step_refines (hW : 1 ≤ W) (op : QOp) (hI : Inv W c) :
    (Queue.step W op c).1 = (Queue.spec W op (bits W c)).1 ∧ Inv W (Queue.step W op c).2 ∧
      bits W (Queue.step W op c).2 = (Queue.spec W op (bits W c)).2 := by
  have hwords : Queue.intoCompressed c = Queue.intoCompressed (canon W (bits W c)) :=
    queue_export_factors hW hI (canon_spec hW _).1 (canon_spec hW _).2.symm
  cases op with
  | write b => exact ⟨rfl, writeBit_spec hW hI b⟩
  | len =>
    rw [Queue.step, len_out]
    exact ⟨rfl, hI, rfl⟩
  | isEmpty => exact ⟨congrArg Out.bool (isEmpty_eq hW c), hI, rfl⟩
  | getCompressed =>
    rw [Queue.step, queue_guard_noop]
    exact ⟨congrArg Out.words hwords, hI, rfl⟩
  | reexport =>
    obtain ⟨hfmt, hw, _⟩ := queue_export_format hW hI
    have hq := queue_fromCompressed_inv hw
    exact ⟨congrArg Out.words hwords, hq.1, hq.2.trans hfmt⟩
  | encode r =>
    cases r with
    | error e => exact ⟨rfl, hI, rfl⟩
    | ok bs => exact ⟨rfl, writeBits_spec hW bs hI⟩

theorem queue_run_refines (hW : 1 ≤ W) (ops : List QOp) (hI : Inv W c) :
    (run (Queue.step W) ops c).1 = (run (Queue.spec W) ops (bits W c)).1 ∧
      Inv W (run (Queue.step W) ops c).2 ∧
      bits W (run (Queue.step W) ops c).2 = (run (Queue.spec W) ops (bits W c)).2 :=
  run_refines (Queue.step W) (Queue.spec W) (Inv W) (bits W) (fun _ => True)
    (fun op _ _ hI => Queue.step_refines hW op hI) ops (fun _ _ => trivial) c hI

inductive DOp where
  | read
  | decode (bk : DecBook Nat)
  /-- the `Iterator` impl run to the end -/
  | drain
  | clone

def DOp.Lawful : DOp → Prop
  | .decode bk => bk.Lawful
  | _ => True

def QDecoder.step (W : Nat) : DOp → QDecoder → Out × QDecoder
  | .read, d => (.bit (QDecoder.readBit W d).1, (QDecoder.readBit W d).2)
  | .decode bk, d => match QDecoder.decodeSymbol W bk d with
    | .ok (d', r) => (.sym r, d')
    | .error _ => (.fault, d)
  | .drain, d => match QDecoder.iter W d with
    | .ok (l, d') => (.bitList l, d')
    | .error _ => (.fault, d)
  | .clone, d => (.unit, d)

/-- the Spec: a list used as a queue (front = head) -/
def QDecoder.spec : DOp → List Bool → Out × List Bool
  | .read, l => (.bit l.head?, l.tail)
  | .decode bk, l => match bk.decode listSrc (l.length + 1) l with
    | .ok (rest, r) => (.sym r, rest)
    | .error _ => (.fault, l)
  | .drain, l => (.bitList l, [])
  | .clone, l => (.unit, l)

theorem QDecoder.step_refines (hW : 1 ≤ W) (op : DOp) (hop : op.Lawful) (hI : QDecoder.Inv W d) :
    (QDecoder.step W op d).1 = (QDecoder.spec op (QDecoder.bits W d)).1 ∧
      QDecoder.Inv W (QDecoder.step W op d).2 ∧
      QDecoder.bits W (QDecoder.step W op d).2 = (QDecoder.spec op (QDecoder.bits W d)).2 := by
  cases op with
  | read =>
    have h := QDecoder.readBit_spec hW hI
    exact ⟨congrArg Out.bit h.1, h.2⟩
  | decode bk =>
    obtain ⟨h1, h2⟩ := DecBook.Lawful.sim hop (queueSrc_refines hW) hI (QDecoder.bits_length_le d)
    rw [QDecoder.step, QDecoder.spec, QDecoder.decodeSymbol, ← h1]
    cases hd : bk.decode (queueSrc W) (QDecoder.fuel W d) d with
    | error e => exact ⟨rfl, hI, rfl⟩
    | ok p =>
      obtain ⟨d', r⟩ := p
      exact ⟨rfl, h2 d' r hd, rfl⟩
  | drain =>
    obtain ⟨d', hd, hI', hn⟩ := QDecoder.iter_spec hW hI
    rw [QDecoder.step, hd]
    exact ⟨rfl, hI', hn⟩
  | clone => exact ⟨rfl, hI, rfl⟩

theorem qdecoder_run_refines (hW : 1 ≤ W) (ops : List DOp) (hops : ∀ op ∈ ops, op.Lawful)
    (hI : QDecoder.Inv W d) :
    (run (QDecoder.step W) ops d).1 = (run QDecoder.spec ops (QDecoder.bits W d)).1 ∧
      QDecoder.Inv W (run (QDecoder.step W) ops d).2 ∧
      QDecoder.bits W (run (QDecoder.step W) ops d).2 =
        (run QDecoder.spec ops (QDecoder.bits W d)).2 :=
  run_refines (QDecoder.step W) QDecoder.spec (QDecoder.Inv W) (QDecoder.bits W) DOp.Lawful
    (fun op hop _ hI => QDecoder.step_refines hW op hop hI) ops hops d hI

end CV.Bits
