import CV.Proofs.HuffBuild
/-!
# Walking the arrays = walking the tree; properties of root-to-leaf paths
-/
namespace CV.Huff

/-! ## encoder: leaf → root walk -/

/-- from a child to its parent `i`: the entry `i << 1 | bit` emits `bit` -/
theorem walk_step {arr : List Nat} {idx i fuel : Nat} {bits : List Bool} (bit : Bool) (hi : 0 < i)
    (h : arr[idx]? = some (2 * i + bit.toNat)) (hw : suffixWalk arr fuel i = .ok bits) :
    suffixWalk arr (fuel + 1) idx = .ok (bit :: bits) := by
  have hb : bit.toNat < 2 := Nat.lt_succ_of_le (Bool.toNat_le bit)
  have h1 : (2 * i + bit.toNat) >>> 1 = i := by
    rw [shr_eq, Nat.pow_one, Nat.mul_comm, mul_add_div_of_lt hb]
  have h2 : ((2 * i + bit.toNat) &&& 1 != 0) = bit := by
    rw [Nat.and_one_is_mod, Nat.mul_comm, mul_add_mod_of_lt hb]; cases bit <;> rfl
  have h3 : ¬ (2 * i + bit.toNat = 0) :=
    Nat.ne_of_gt (Nat.lt_of_lt_of_le (Nat.mul_pos (by decide) hi) (Nat.le_add_right _ _))
  simp only [suffixWalk, h, h3, if_false, h1, hw, h2]

theorem walk_up {arr : List Nat} {s : Nat} {t : Tree} {p : List Bool} (hc : t.code s = some p) :
    EncDesc arr t → (∀ i ∈ t.inner, 0 < i) →
    ∀ fuel bits, suffixWalk arr fuel t.rootId = .ok bits →
      suffixWalk arr (fuel + p.length) s = .ok (p.reverse ++ bits) := by
  refine Tree.code_induction (P := fun t p => EncDesc arr t → (∀ i ∈ t.inner, 0 < i) →
    ∀ fuel bits, suffixWalk arr fuel t.rootId = .ok bits →
      suffixWalk arr (fuel + p.length) s = .ok (p.reverse ++ bits)) ?_ ?_ ?_ t p hc
  · intro _ _ fuel bits hw
    exact hw
  · intro i l r q _ ih hd hin fuel bits hw
    have := ih hd.2.2.1 (fun j hj => hin j (List.mem_cons_of_mem _ (List.mem_append_left _ hj)))
      (fuel + 1) (false :: bits) (walk_step false (hin i List.mem_cons_self) hd.1 hw)
    rwa [List.reverse_cons, List.append_assoc, List.length_cons, Nat.add_comm q.length,
      ← Nat.add_assoc]
  · intro i l r q _ _ ih hd hin fuel bits hw
    have := ih hd.2.2.2 (fun j hj => hin j (List.mem_cons_of_mem _ (List.mem_append_right _ hj)))
      (fuel + 1) (true :: bits) (walk_step true (hin i List.mem_cons_self) hd.2.1 hw)
    rwa [List.reverse_cons, List.append_assoc, List.length_cons, Nat.add_comm q.length,
      ← Nat.add_assoc]

theorem suffixWalk_root {arr : List Nat} {idx : Nat} (h : arr[idx]? = some 0) (fuel : Nat) :
    suffixWalk arr (fuel + 1) idx = .ok [] := by
  simp only [suffixWalk, h, if_true]

theorem stackWriteAll_eq (st bits : List Bool) : stackWriteAll st bits = bits.reverse ++ st := by
  induction bits generalizing st with
  | nil => rfl
  | cons b bs ih => rw [stackWriteAll, ih, List.reverse_cons, List.append_assoc]; rfl

/-! ## decoder: root → leaf walk -/

theorem decodeLoop_leaf {tab : List (Nat × Nat)} {n s : Nat} (h : s < n) (src : List (Option Bool)) :
    decodeLoop tab n s src = .ok (s, src) := by
  rw [decodeLoop.eq_def]
  exact if_neg (Nat.not_le.mpr h)

theorem decodeLoop_step {tab : List (Nat × Nat)} {n i x y : Nat} (hi : n ≤ i)
    (h : tab[i - n]? = some (x, y)) (bit : Bool) (rest : List (Option Bool)) :
    decodeLoop tab n i (some bit :: rest) = decodeLoop tab n (if bit then y else x) rest := by
  rw [decodeLoop.eq_def]
  exact (if_pos hi).trans (by simp only [h])

theorem decodeLoop_stuck {tab : List (Nat × Nat)} {n i : Nat} (hi : n ≤ i) :
    decodeLoop tab n i [] = .error .outOfData ∧
      ∀ rest, decodeLoop tab n i (none :: rest) = .error .backend := by
  constructor
  · rw [decodeLoop.eq_def]; exact if_pos hi
  · intro rest; rw [decodeLoop.eq_def]; exact if_pos hi

theorem walk_down {tab : List (Nat × Nat)} {n s : Nat} (hs : s < n) (rest : List (Option Bool))
    {t : Tree} {p : List Bool} (hc : t.code s = some p) :
    DecDesc tab n t → decodeLoop tab n t.rootId (p.map some ++ rest) = .ok (s, rest) := by
  refine Tree.code_induction (P := fun t p => DecDesc tab n t →
    decodeLoop tab n t.rootId (p.map some ++ rest) = .ok (s, rest)) ?_ ?_ ?_ t p hc
  · intro _; exact decodeLoop_leaf hs rest
  · intro i l r q _ ih hd
    exact (decodeLoop_step hd.1 hd.2.1 false _).trans (ih hd.2.2.1)
  · intro i l r q _ _ ih hd
    exact (decodeLoop_step hd.1 hd.2.1 true _).trans (ih hd.2.2.2)

/-- a source that ends inside a codeword: `OutOfCompressedData` -/
theorem walk_down_truncated {tab : List (Nat × Nat)} {n s : Nat} {t : Tree} {p q : List Bool}
    (hc : t.code s = some (p ++ q)) (hq : q ≠ []) :
    DecDesc tab n t → decodeLoop tab n t.rootId (p.map some) = .error .outOfData := by
  refine Tree.code_induction (P := fun t w => ∀ p, w = p ++ q → DecDesc tab n t →
    decodeLoop tab n t.rootId (p.map some) = .error .outOfData) ?_ ?_ ?_ t _ hc p rfl
  · intro p hp
    exact absurd (List.append_eq_nil_iff.mp hp.symm).2 hq
  · intro i l r w _ ih p hp hd
    cases p with
    | nil => exact (decodeLoop_stuck hd.1).1
    | cons b p' =>
      obtain ⟨rfl, rfl⟩ := List.cons.inj hp
      exact (decodeLoop_step hd.1 hd.2.1 false _).trans (ih p' rfl hd.2.2.1)
  · intro i l r w _ _ ih p hp hd
    cases p with
    | nil => exact (decodeLoop_stuck hd.1).1
    | cons b p' =>
      obtain ⟨rfl, rfl⟩ := List.cons.inj hp
      exact (decodeLoop_step hd.1 hd.2.1 true _).trans (ih p' rfl hd.2.2.2)

/-- decoding an arbitrary source from any vertex of the tree never indexes out of bounds -/
theorem decodeLoop_total {tab : List (Nat × Nat)} {n : Nat} : ∀ (t : Tree),
    DecDesc tab n t → (∀ s ∈ t.leaves, s < n) → t.leaves.Nodup → ∀ (src : List (Option Bool)),
    (∃ s p rest, decodeLoop tab n t.rootId src = .ok (s, rest) ∧ t.code s = some p ∧
        src = p.map some ++ rest) ∨
      decodeLoop tab n t.rootId src = .error .outOfData ∨
      decodeLoop tab n t.rootId src = .error .backend := by
  intro t
  induction t with
  | leaf i =>
    exact fun _ hl _ src => Or.inl ⟨i, [], src,
      decodeLoop_leaf (hl i (List.mem_singleton.mpr rfl)) src,
      Tree.code_leaf_eq_some.mpr ⟨rfl, rfl⟩, rfl⟩
  | node i l r ihl ihr =>
    intro hd hl hnd src
    obtain ⟨hndl, hndr, hdis⟩ := Tree.nodup_node hnd
    match src with
    | [] => exact Or.inr (Or.inl (decodeLoop_stuck hd.1).1)
    | none :: rest => exact Or.inr (Or.inr ((decodeLoop_stuck hd.1).2 rest))
    | some false :: rest =>
      show _ ∨ decodeLoop tab n i _ = _ ∨ decodeLoop tab n i _ = _
      rw [decodeLoop_step hd.1 hd.2.1]
      refine (ihl hd.2.2.1 (fun s hs => hl s (List.mem_append_left _ hs)) hndl
        rest).imp_left fun ⟨s, p, rest', h1, h2, h3⟩ => ?_
      exact ⟨s, false :: p, rest', (decodeLoop_step hd.1 hd.2.1 false rest).trans h1,
        Tree.code_node_eq_some.mpr (Or.inl ⟨p, h2, rfl⟩), congrArg (some false :: ·) h3⟩
    | some true :: rest =>
      show _ ∨ decodeLoop tab n i _ = _ ∨ decodeLoop tab n i _ = _
      rw [decodeLoop_step hd.1 hd.2.1]
      refine (ihr hd.2.2.2 (fun s hs => hl s (List.mem_append_right _ hs)) hndr
        rest).imp_left fun ⟨s, p, rest', h1, h2, h3⟩ => ?_
      have hsl : s ∉ l.leaves := fun h => hdis s h (Tree.mem_of_code h2)
      exact ⟨s, true :: p, rest', (decodeLoop_step hd.1 hd.2.1 true rest).trans h1,
        Tree.code_node_eq_some.mpr (Or.inr ⟨p, Tree.code_none_of_not_mem hsl, h2, rfl⟩),
        congrArg (some true :: ·) h3⟩

/-! ## Kraft equality -/

/-- `Σ_leaves 2^(D - depth) = 2^D` whenever `D` is at least the height -/
theorem Tree.kraft_sum (t : Tree) : ∀ (D : Nat), t.leaves.Nodup → t.height ≤ D →
    (t.leaves.map (fun s => 2^(D - t.depth s))).sum = 2^D := by
  induction t with
  | leaf i =>
    intro D _ _
    rw [Tree.leaves, List.map_singleton, List.sum_singleton, Tree.depth_leaf]
    rfl
  | node i l r ihl ihr =>
    intro D hnd hD
    obtain ⟨hl, hr, _⟩ := Tree.nodup_node hnd
    obtain ⟨D', rfl⟩ : ∃ D', D = D' + 1 := ⟨D - 1, by simp only [Tree.height] at hD; omega⟩
    have hD' : max l.height r.height ≤ D' := Nat.le_of_succ_le_succ hD
    rw [Tree.map_depth_node (fun _ d => 2^(D' + 1 - d)) hnd, List.sum_append]
    simp only [Nat.add_sub_add_right]
    rw [ihl D' hl (Nat.le_trans (Nat.le_max_left _ _) hD'),
      ihr D' hr (Nat.le_trans (Nat.le_max_right _ _) hD'), Nat.pow_succ, Nat.mul_two]

end CV.Huff
