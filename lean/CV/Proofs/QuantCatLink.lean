import CV.Proofs.QuantFast
import CV.Proofs.CatModels
import CV.Proofs.CatFast
/-!
# Link to component `cat`: the five `…_fast` constructors

The eager constructor yields a `ValidCdf`, so every theorem of `cat` about cdf-based models
applies to the tables produced from floats; the other four constructors (non-contiguous decoder
and encoder, contiguous and non-contiguous lookup) run `cat`'s loops over the same items and
yield the canonical models of the same table.
-/
namespace CV.Quant
open CV

variable {B P n free : Nat} {h : Nat → Nat}

def extList (P n free : Nat) (h : Nat → Nat) : List Nat :=
  (List.range' 0 n).map (cumF P n free h) ++ [2 ^ P]

theorem unwrap_cdfList : Cat.unwrap P (cdfList B P n free h) = extList P n free h := by
  unfold Cat.unwrap cdfList extList
  rw [List.dropLast_concat]

theorem extList_length : (extList P n free h).length = n + 1 := by simp [extList]

theorem extList_getD {i : Nat} (hi : i ≤ n) : (extList P n free h).getD i 0 = cumF P n free h i := by
  unfold extList
  rw [List.getD_eq_getElem?_getD]
  rcases Nat.lt_or_ge i n with hlt | hge
  · rw [List.getElem?_append_left (by simpa using hlt)]
    simp [hlt]
  · have : i = n := by omega
    subst this
    rw [List.getElem?_append_right (by simp)]
    simp [cumF_last]

theorem extList_pairwise (ok : FastOk B P n) (hf : free = 2 ^ P - n) (hm : Mono h n) :
    (extList P n free h).Pairwise (· < ·) := by
  rw [List.pairwise_iff_getElem]
  intro i j hi hj hij
  rw [← Cat.getD_of_lt (d := 0) hi, ← Cat.getD_of_lt (d := 0) hj]
  rw [extList_length] at hi hj
  rw [extList_getD (Nat.le_of_lt_succ hi), extList_getD (Nat.le_of_lt_succ hj)]
  exact cumF_strict ok hf hm hij (Nat.le_of_lt_succ hj)

/-- `fast_quantized_cdf` followed by `from_fixed_point_cdf` -/
theorem cdfList_valid (ok : FastOk B P n) (hf : free = 2 ^ P - n) (tb : TBF1Fast h n) :
    Cat.ValidCdf B P (cdfList B P n free h) := by
  constructor
  · unfold cdfList; simp
  · rw [unwrap_cdfList]
    have hn2 := ok.hn2
    refine ⟨by rw [extList_length]; omega, ?_, ?_, extList_pairwise ok hf tb.mono⟩
    · rw [extList_getD (by omega), cumF_zero ok tb.zero]
    · rw [extList_length, Nat.add_sub_cancel, extList_getD (Nat.le_refl _), cumF_last]

/-- the items `fast_quantized_cdf` yields: one left cumulative per weight -/
def innerList (P n free : Nat) (h : Nat → Nat) : List Nat := (List.range' 0 n).map (cumF P n free h)

theorem fastEntries_inner (ok : FastOk B P n) (hf : free = 2 ^ P - n) :
    fastEntries B free h n 0 = .ok (innerList P n free h) := fastEntries_eq ok hf n 0 (by omega)

theorem innerList_length : (innerList P n free h).length = n := by simp [innerList]

theorem extList_valid (ok : FastOk B P n) (hf : free = 2 ^ P - n) (tb : TBF1Fast h n) :
    Cat.ValidExt P (extList P n free h) := by
  have := (cdfList_valid (h := h) ok hf tb).2
  rw [unwrap_cdfList] at this; exact this

/-- `NonContiguousCategoricalDecoderModel::from_symbols_and_floating_point_probabilities_fast` -/
theorem ncdec_fast {Sym : Type} (ok : FastOk B P n) {syms : List Sym} (hlen : syms.length = n) :
    ∃ last, Cat.NcDec.fromSymbolsAndCdf B P syms (innerList P n free h) =
      .ok (some { cdf := Cat.ncCdf B P syms (extList P n free h) last }) := by
  have hn2 := ok.hn2
  have hne : innerList P n free h ≠ [] := by
    intro hnil
    have := innerList_length (P := P) (n := n) (free := free) (h := h)
    rw [hnil] at this
    simp at this
    omega
  obtain ⟨last, hl⟩ := Cat.NcDec.fromSymbolsAndCdf_match (B := B) (P := P) (syms := syms)
    (cdf := innerList P n free h) (by rw [innerList_length]; exact hlen) hne
  exact ⟨last, by rw [hl]; unfold Cat.ncCdf extList innerList; rw [List.dropLast_concat]⟩

/-- `ContiguousLookupDecoderModel::from_floating_point_probabilities_fast`: its `resize` loop over
    the right cumulatives followed by the final `resize(1 << P, len - 1)` is the loop of
    `to_lookup_decoder_model` (`Cat.Lookup.fromContiguous`) on the same cdf -/
theorem lookup_fast (ok : FastOk B P n) (hf : free = 2 ^ P - n) (tb : TBF1Fast h n) :
    ∃ tbl, Cat.Lookup.fromContiguous B P ⟨cdfList B P n free h⟩
        = .ok { tbl := tbl, cdf := cdfList B P n free h } ∧
      Cat.LookupOK P (extList P n free h) tbl := by
  have hv := cdfList_valid (h := h) ok hf tb
  obtain ⟨tbl, h1, h2⟩ := Cat.Lookup.fromContiguous_ok (m := ⟨cdfList B P n free h⟩) hv ok.hPB
  rw [unwrap_cdfList] at h2
  exact ⟨tbl, h1, h2⟩

def entryF {Sym : Type} [Inhabited Sym] (P n free : Nat) (h : Nat → Nat) (syms : List Sym) (i : Nat) :
    Sym × Nat × Nat :=
  (syms.getD i default, cumF P n free h i, widthF P n free h i)

theorem syms_drop {Sym : Type} [Inhabited Sym] {syms : List Sym} {i : Nat} (hi : i < syms.length) :
    syms.drop i = syms.getD i default :: syms.drop (i + 1) := by
  rw [List.drop_eq_getElem_cons hi]
  congr 1
  rw [List.getD_eq_getElem?_getD, List.getElem?_eq_getElem hi]; rfl

theorem specTable_eq_entries {Sym : Type} [Inhabited Sym] (syms : List Sym) :
    Cat.specTable (fun i => syms.getD i default) (extList P n free h)
      = (List.range' 0 n).map (entryF P n free h syms) := by
  unfold Cat.specTable
  rw [extList_length, Nat.add_sub_cancel, List.range_eq_range']
  apply List.map_congr_left
  intro i hi
  have hi' : i < n := by simpa using (List.mem_range'_1.mp hi).2
  unfold entryF widthF
  rw [extList_getD (by omega), extList_getD (by omega)]

/-- the loop of the non-contiguous lookup `…_fast` constructor, on any table -/
theorem fastLoop_rows {Sym : Type} [Inhabited Sym] {B n : Nat} {c w : Nat → Nat}
    (hw : ∀ i, i < n → wsub B (c (i + 1)) (c i) = w i ∧ w i ≠ 0) {syms : List Sym}
    (hlen : syms.length = n) :
    ∀ (k i : Nat) (acc : List (Sym × Nat × Nat)), i + k = n →
      Cat.NcLookup.fastLoop B (c i) ((List.range' (i + 1) k).map c) (syms.drop i) acc
        = .ok (some ([], acc ++ (List.range' i k).map fun j => (syms.getD j default, c j, w j))) := by
  intro k
  induction k with
  | zero =>
    intro i acc hik
    rw [List.drop_of_length_le (by omega)]
    simp [Cat.NcLookup.fastLoop]
  | succ k ih =>
    intro i acc hik
    obtain ⟨h1, h2⟩ := hw i (by omega)
    rw [List.range'_succ, List.map_cons, syms_drop (by omega)]
    unfold Cat.NcLookup.fastLoop
    simp only
    rw [h1, if_neg h2, ih (i + 1) _ (by omega), List.range'_succ, List.map_cons, List.append_assoc]
    rfl

theorem cdfList_eq_map : cdfList B P n free h = (List.range' 0 (n + 1)).map (cumW B P n free h) := by
  apply List.ext_getElem?
  intro i
  by_cases hi : i ≤ n
  · rw [cdfList_get hi]; simp [show i < n + 1 by omega]
  · rw [List.getElem?_eq_none (by rw [cdfList_length]; omega)]; simp [show ¬ i < n + 1 by omega]

/-- `NonContiguousLookupDecoderModel::from_symbols_and_floating_point_probabilities_fast`:
    `expect("quantization is leaky")` holds -/
theorem nclookup_fast {Sym : Type} [Inhabited Sym] (ok : FastOk B P n) (hf : free = 2 ^ P - n)
    (tb : TBF1Fast h n) {syms : List Sym} (hlen : syms.length = n) :
    ∃ tbl last, Cat.NcLookup.fromSymbolsAndCdf B P syms (innerList P n free h) =
      .ok (some { tbl := tbl, cdf := Cat.ncCdf B P syms (extList P n free h) last }) ∧
      Cat.LookupOK P (extList P n free h) tbl := by
  obtain ⟨k, rfl⟩ := Nat.exists_eq_add_of_le' (Nat.le_of_succ_le ok.hn2)
  have hloop := fastLoop_rows (B := B) (c := cumW B P (k + 1) free h)
    (w := widthF P (k + 1) free h) (syms := syms)
    (fun i hi => ⟨by rw [cumW_lt hi]; exact wsub_cumW ok hf tb.mono hi,
      Nat.pos_iff_ne_zero.mp (width_pos ok hf tb.mono hi)⟩) hlen (k + 1) 0 [] (Nat.zero_add _)
  have hrows : ((List.range' 0 (k + 1)).map fun j =>
        (syms.getD j default, cumW B P (k + 1) free h j, widthF P (k + 1) free h j))
      = Cat.specTable (fun i => syms.getD i default) (extList P (k + 1) free h) := by
    rw [specTable_eq_entries]
    exact List.map_congr_left fun j hj => by
      rw [cumW_lt (by simpa using (List.mem_range'_1.mp hj).2)]; rfl
  rw [List.drop_zero, List.nil_append, hrows, cumW_lt (Nat.succ_pos k)] at hloop
  -- the loop runs over the stored table without its first entry
  have ht : (List.range' 1 k).map (cumF P (k + 1) free h) ++ [wrappingPow2 B P]
      = (List.range' (0 + 1) (k + 1)).map (cumW B P (k + 1) free h) := by
    have := cdfList_eq_map (B := B) (P := P) (n := k + 1) (free := free) (h := h)
    unfold cdfList at this
    rw [List.range'_succ, List.map_cons, List.cons_append, List.range'_succ (n := k + 1),
      List.map_cons] at this
    exact (List.cons.inj this).2
  have hv := extList_valid (h := h) ok hf tb
  obtain ⟨tbl, last, hft, hok⟩ :=
    Cat.NcLookup.fromTable_specTable (B := B) (fun i => syms.getD i default) hv ok.hPB
  have hlab := Cat.labelsOf_getD_self syms
  rw [hlen] at hlab
  rw [extList_length, Nat.add_sub_cancel, hlab] at hft
  refine ⟨tbl, last, ?_, hok⟩
  unfold innerList
  rw [List.range'_succ, List.map_cons]
  unfold Cat.NcLookup.fromSymbolsAndCdf
  simp only
  rw [ht, hloop]
  simp only [List.isEmpty_nil, Bool.not_true, Bool.false_eq_true, if_false]
  rw [hft]

theorem not_mem_take_of_nodup {Sym : Type} [Inhabited Sym] {syms : List Sym} (hnd : syms.Nodup)
    {i : Nat} (hi : i < syms.length) : syms.getD i default ∉ syms.take i := by
  have e := List.take_append_drop i syms
  rw [syms_drop hi] at e
  rw [← e] at hnd
  intro hmem
  exact (List.nodup_append.mp hnd).2.2 _ hmem _ (List.mem_cons_self) rfl

theorem take_succ_getD {Sym : Type} [Inhabited Sym] {syms : List Sym} {i : Nat} (hi : i < syms.length) :
    syms.take (i + 1) = syms.take i ++ [syms.getD i default] := by
  rw [List.take_add_one, List.getElem?_eq_getElem hi, List.getD_eq_getElem?_getD,
    List.getElem?_eq_getElem hi]; rfl

/-- the loop of `NonContiguousCategoricalEncoderModel::from_symbols_and_cdf`, on any increasing
    table: no `Occupied`, the plain `right - left` does not underflow, no zero probability -/
theorem fromCdfLoop_rows {Sym : Type} [DecidableEq Sym] [Inhabited Sym] {n : Nat} {c w : Nat → Nat}
    (hw : ∀ i, i + 1 < n → c i ≤ c (i + 1) ∧ c (i + 1) - c i = w i ∧ w i ≠ 0) {syms : List Sym}
    (hlen : syms.length = n) (hnd : syms.Nodup) :
    ∀ (k i : Nat) (acc : List (Sym × Nat × Nat)), i + 1 + k = n → acc.map (·.1) = syms.take i →
      ∃ acc', acc' = acc ++ (List.range' i k).map (fun j => (syms.getD j default, c j, w j)) ∧
        acc'.map (·.1) = syms.take (n - 1) ∧
        Cat.NcEnc.fromCdfLoop (c i) ((List.range' (i + 1) k).map c) (syms.drop i) acc
          = .ok (some (c (n - 1), syms.drop (n - 1), acc')) := by
  intro k
  induction k with
  | zero =>
    intro i acc hik hacc
    obtain rfl : i = n - 1 := by omega
    exact ⟨acc, by simp, hacc, by simp [Cat.NcEnc.fromCdfLoop]⟩
  | succ k ih =>
    intro i acc hik hacc
    have hi : i + 1 < n := by omega
    have hi' : i < syms.length := hlen ▸ Nat.lt_of_succ_lt hi
    obtain ⟨h1, h2, h3⟩ := hw i hi
    have hget : Cat.NcEnc.get acc (syms.getD i default) = none := by
      rw [Cat.NcEnc.get_none_iff, hacc]
      exact not_mem_take_of_nodup hnd hi'
    obtain ⟨acc', e1, e2, e3⟩ := ih (i + 1) (acc ++ [(syms.getD i default, (c i, w i))])
      (by omega)
      (by rw [List.map_append, hacc, take_succ_getD hi']; rfl)
    refine ⟨acc', by rw [e1, List.range'_succ, List.map_cons, List.append_assoc]; rfl, e2, ?_⟩
    rw [List.range'_succ, List.map_cons, syms_drop (syms := syms) (i := i) hi']
    unfold Cat.NcEnc.fromCdfLoop
    simp only
    rw [hget]
    simp only
    rw [csub_ok h1, h2]
    simp only
    rw [if_neg h3, e3]

/-- `NonContiguousCategoricalEncoderModel::from_symbols_and_floating_point_probabilities_fast` -/
theorem ncenc_fast {Sym : Type} [DecidableEq Sym] [Inhabited Sym] (ok : FastOk B P n)
    (hf : free = 2 ^ P - n) (tb : TBF1Fast h n) {syms : List Sym} (hlen : syms.length = n)
    (hnd : syms.Nodup) :
    ∃ m, Cat.NcEnc.fromSymbolsAndCdf B P syms (innerList P n free h) = .ok (some m) ∧
      m.tbl = Cat.specTable (fun i => syms.getD i default) (extList P n free h) ∧
      ∀ s, m.enc s = (Cat.labelledModel syms (extList P n free h)).enc s := by
  obtain ⟨k, rfl⟩ := Nat.exists_eq_add_of_le' (Nat.le_of_succ_le ok.hn2)
  have hk : 1 ≤ k := Nat.le_of_succ_le_succ ok.hn2
  obtain ⟨acc, hacc, hkeys, hloop⟩ :=
    fromCdfLoop_rows (c := cumF P (k + 1) free h) (w := widthF P (k + 1) free h)
      (fun i hi => ⟨Nat.le_of_lt (cumF_step ok hf tb.mono (Nat.lt_of_succ_lt hi)), rfl,
        Nat.pos_iff_ne_zero.mp (width_pos ok hf tb.mono (Nat.lt_of_succ_lt hi))⟩)
      hlen hnd k 0 [] (by rw [Nat.zero_add, Nat.add_comm]) rfl
  rw [List.nil_append] at hacc
  rw [Nat.add_sub_cancel] at hkeys
  rw [List.drop_zero, Nat.add_sub_cancel] at hloop
  have hlast : syms.drop k = [syms.getD k default] := by
    rw [syms_drop (hlen ▸ Nat.lt_succ_self k), List.drop_of_length_le (Nat.le_of_eq hlen)]
  have hw := wsub_last ok hf tb.mono (s := k) rfl
  have hp := width_pos ok hf tb.mono (s := k) (Nat.lt_succ_self k)
  have hget : Cat.NcEnc.get acc (syms.getD k default) = none := by
    rw [Cat.NcEnc.get_none_iff, hkeys]
    exact not_mem_take_of_nodup hnd (hlen ▸ Nat.lt_succ_self k)
  have hall : acc ++ [(syms.getD k default, (cumF P (k + 1) free h k, widthF P (k + 1) free h k))]
      = Cat.specTable (fun i => syms.getD i default) (extList P (k + 1) free h) := by
    rw [specTable_eq_entries, hacc, List.range'_concat]
    simp [entryF]
  refine ⟨{ tbl := Cat.specTable (fun i => syms.getD i default) (extList P (k + 1) free h) }, ?_, rfl, ?_⟩
  · unfold innerList
    rw [List.range'_succ, List.map_cons]
    unfold Cat.NcEnc.fromSymbolsAndCdf
    simp only
    -- the loop consumes all symbols but the last
    rw [hloop, hlast]
    simp only
    -- the last symbol is new, and its probability `total.wrapping_sub(left)` is non-zero
    unfold Cat.NcEnc.insertNew
    rw [hget]
    simp only
    rw [hw, if_neg (Nat.ne_of_gt hp), hall]
    simp
  · intro s
    exact Cat.NcEnc.enc_of_specTable (by rw [extList_length]; omega) rfl s

end CV.Quant
