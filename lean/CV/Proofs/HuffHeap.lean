import CV.Model.Huff
/-!
# `popMin` is "extract the minimum of the `(weight, index)` order"

(`BinaryHeap<Reverse<(P, usize)>>::pop`.)  For every weight type the result is a permutation
split of the heap; that is all the structural theorems need.  For weights ordered like the
naturals it is the lexicographic minimum, and the order being antisymmetric on `(weight, index)`
pairs, the heap's layout is irrelevant.
-/
namespace CV.Huff

section generic
variable {α : Type} (ops : WeightOps α)

theorem popMin_eq_none {h : List (α × Nat)} : popMin ops h = none ↔ h = [] := by
  cases h with
  | nil => exact ⟨fun _ => rfl, fun _ => rfl⟩
  | cons x xs =>
    refine ⟨fun e => ?_, fun e => nomatch e⟩
    rw [popMin] at e
    split at e
    · cases e
    · split at e <;> cases e

variable {ops}

theorem popMin_perm {h : List (α × Nat)} : ∀ {m r}, popMin ops h = some (m, r) → h.Perm (m :: r) := by
  induction h with
  | nil => exact fun e => nomatch e
  | cons x xs ih =>
    intro m r e
    rw [popMin] at e
    split at e
    · next hn =>
      cases e
      rw [(popMin_eq_none ops).mp hn]
    · next m' r' hs =>
      have ih := ih hs
      split at e <;> cases e
      · exact ih.cons x
      · exact (ih.cons x).trans (List.Perm.swap _ _ _)

theorem popMin_length {h : List (α × Nat)} {m r} (e : popMin ops h = some (m, r)) :
    h.length = r.length + 1 := by
  simpa using (popMin_perm e).length_eq

theorem popMin_isSome {h : List (α × Nat)} (hne : h ≠ []) : ∃ m r, popMin ops h = some (m, r) := by
  cases e : popMin ops h with
  | none => exact absurd ((popMin_eq_none ops).mp e) hne
  | some p => exact ⟨p.1, p.2, rfl⟩

end generic

/-! ## weight types ordered like the naturals -/

/-- the weight order is `<` on `Nat` (`checkedOps n`, `wrappingOps n`, `exactOps`) -/
def NatOrder (ops : WeightOps Nat) : Prop := ∀ a b, ops.lt a b = decide (a < b)

theorem natOrder_checked (n : Nat) : NatOrder (checkedOps n) := fun _ _ => rfl
theorem natOrder_wrapping (n : Nat) : NatOrder (wrappingOps n) := fun _ _ => rfl
theorem natOrder_exact : NatOrder exactOps := fun _ _ => rfl

/-- non-strict lexicographic order on `(weight, index)` -/
def keyLe (a b : Nat × Nat) : Prop := a.1 < b.1 ∨ (a.1 = b.1 ∧ a.2 ≤ b.2)

section nat
variable {ops : WeightOps Nat} (hlt : NatOrder ops)
include hlt

theorem keyLt_iff (a b : Nat × Nat) :
    keyLt ops a b = true ↔ (a.1 < b.1 ∨ (a.1 = b.1 ∧ a.2 < b.2)) := by
  simp only [keyLt, hlt a.1 b.1, hlt b.1 a.1]
  simp
  omega

theorem keyLe_of_not_keyLt {a b : Nat × Nat} (h : keyLt ops a b = false) : keyLe b a := by
  have : ¬ (a.1 < b.1 ∨ (a.1 = b.1 ∧ a.2 < b.2)) := by
    rw [← keyLt_iff hlt]; simp [h]
  unfold keyLe; omega

theorem keyLe_of_keyLt {a b : Nat × Nat} (h : keyLt ops a b = true) : keyLe a b := by
  rw [keyLt_iff hlt] at h; unfold keyLe; omega

omit hlt in
theorem keyLe_trans {a b c : Nat × Nat} (h1 : keyLe a b) (h2 : keyLe b c) : keyLe a c := by
  rcases h1 with h1 | ⟨e1, h1⟩
  · exact Or.inl (h2.elim (Nat.lt_trans h1) fun h => h.1 ▸ h1)
  · rcases h2 with h2 | ⟨e2, h2⟩
    · exact Or.inl (e1 ▸ h2)
    · exact Or.inr ⟨e1.trans e2, Nat.le_trans h1 h2⟩

omit hlt in
theorem keyLe_total (p q : Nat × Nat) : keyLe p q ∨ keyLe q p := by unfold keyLe; omega

omit hlt in
theorem keyLe_refl (p : Nat × Nat) : keyLe p p := Or.inr ⟨rfl, Nat.le_refl _⟩

omit hlt in
theorem keyLe_antisymm {p q : Nat × Nat} (h1 : keyLe p q) (h2 : keyLe q p) : p = q := by
  unfold keyLe at h1 h2
  exact Prod.ext (by omega) (by omega)

omit hlt in
theorem keyLe_weight {a b : Nat × Nat} (h : keyLe a b) : a.1 ≤ b.1 := by
  unfold keyLe at h; omega

theorem popMin_min {h : List (Nat × Nat)} : ∀ {m r}, popMin ops h = some (m, r) →
    ∀ x ∈ r, keyLe m x := by
  induction h with
  | nil => exact fun e => nomatch e
  | cons x xs ih =>
    intro m r e
    rw [popMin] at e
    split at e
    · cases e; intro y hy; cases hy
    · next m' r' hs =>
      have ih := ih hs
      split at e
      · next hl =>
        cases e
        intro y hy
        rcases List.mem_cons.mp hy with rfl | hy
        · exact keyLe_of_keyLt hlt hl
        · exact keyLe_trans (keyLe_of_keyLt hlt hl) (ih y hy)
      · next hl =>
        cases e
        intro y hy
        rcases List.mem_cons.mp hy with rfl | hy
        · exact keyLe_of_not_keyLt hlt (Bool.eq_false_iff.mpr hl)
        · exact ih y hy

theorem popMin_le {h : List (Nat × Nat)} {m r} (e : popMin ops h = some (m, r)) :
    ∀ x ∈ h, keyLe m x := fun x hx =>
  (List.mem_cons.mp ((popMin_perm e).mem_iff.mp hx)).elim (fun e => e ▸ keyLe_refl m)
    (popMin_min hlt e x)

/-- heap layout is irrelevant -/
theorem popMin_layout {h h' : List (Nat × Nat)} (hp : h.Perm h') {m r m' r'}
    (e : popMin ops h = some (m, r)) (e' : popMin ops h' = some (m', r')) :
    m = m' ∧ r.Perm r' := by
  have hm' : m' ∈ h := hp.mem_iff.mpr ((popMin_perm e').mem_iff.mpr List.mem_cons_self)
  have hm : m ∈ h' := hp.mem_iff.mp ((popMin_perm e).mem_iff.mpr List.mem_cons_self)
  cases keyLe_antisymm (popMin_le hlt e m' hm') (popMin_le hlt e' m hm)
  exact ⟨rfl, ((popMin_perm e).symm.trans (hp.trans (popMin_perm e'))).cons_inv⟩

theorem popMin_perm_cases {heap heap' : List (Nat × Nat)} (hp : heap.Perm heap') :
    (popMin ops heap = none ∧ popMin ops heap' = none) ∨
    (∃ a h1 h1', popMin ops heap = some (a, h1) ∧ popMin ops heap' = some (a, h1') ∧
      h1.Perm h1') := by
  cases e : popMin ops heap with
  | none =>
    have := (popMin_eq_none ops).mp e
    subst this
    have : heap' = [] := hp.symm.eq_nil
    subst this
    exact Or.inl ⟨rfl, rfl⟩
  | some ah =>
    obtain ⟨a, h1⟩ := ah
    have hne' : heap' ≠ [] := by
      intro h; subst h
      have := hp.eq_nil; subst this; simp [popMin] at e
    obtain ⟨a', h1', e'⟩ := popMin_isSome (ops := ops) hne'
    obtain ⟨rfl, hp1⟩ := popMin_layout hlt hp e e'
    exact Or.inr ⟨a, h1, h1', rfl, e', hp1⟩

end nat

end CV.Huff
