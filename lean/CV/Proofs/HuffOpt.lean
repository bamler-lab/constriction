import CV.Proofs.HuffMain
/-!
# Optimality of the tree built by the merge loop

The textbook exchange argument (after J. Blanchette, "Proof pearl: Mechanizing the textbook
proof of Huffman's algorithm"): if the tree for the heap after one merge is optimal for the merged
alphabet, splitting the merged leaf gives an optimal tree for the alphabet before the merge.
A prefix-free code is no better than the tree of its words.
-/
namespace CV.Huff

namespace Tree

def weight (w : Nat → Nat) : Tree → Nat
  | leaf a => w a
  | node _ l r => weight w l + weight w r

/-- `Σ_leaves w · depth`, in the recursive form -/
def cost (w : Nat → Nat) : Tree → Nat
  | leaf _ => 0
  | node _ l r => weight w l + cost w l + weight w r + cost w r

theorem weight_cost_congr {w w' : Nat → Nat} (t : Tree) : (∀ x ∈ t.leaves, w x = w' x) →
    weight w t = weight w' t ∧ cost w t = cost w' t := by
  induction t with
  | leaf a => exact fun h => ⟨h a (List.mem_singleton.mpr rfl), rfl⟩
  | node _ l r ihl ihr =>
    intro h
    have hl := ihl (fun x hx => h x (List.mem_append_left _ hx))
    have hr := ihr (fun x hx => h x (List.mem_append_right _ hx))
    simp only [weight, cost, hl.1, hl.2, hr.1, hr.2, and_self]

theorem weight_eq_sum (w : Nat → Nat) (t : Tree) : weight w t = (t.leaves.map w).sum := by
  induction t with
  | leaf a => exact (List.sum_singleton).symm
  | node _ l r ihl ihr => rw [weight, ihl, ihr, leaves, List.map_append, List.sum_append]

theorem sum_map_add_one (w d : Nat → Nat) (l : List Nat) :
    (l.map (fun s => w s * (d s + 1))).sum = (l.map w).sum + (l.map (fun s => w s * d s)).sum := by
  induction l with
  | nil => simp
  | cons x xs ih =>
    simp only [List.map_cons, List.sum_cons]
    rw [ih, Nat.mul_add]; omega

theorem cost_eq_sum (w : Nat → Nat) (t : Tree) : t.leaves.Nodup →
    cost w t = (t.leaves.map (fun s => w s * t.depth s)).sum := by
  induction t with
  | leaf a =>
    intro _
    rw [leaves, List.map_singleton, List.sum_singleton, depth_leaf]
    rfl
  | node i l r ihl ihr =>
    intro hnd
    obtain ⟨hl, hr, _⟩ := nodup_node hnd
    rw [map_depth_node (fun s d => w s * d) hnd, List.sum_append, sum_map_add_one,
      sum_map_add_one, ← weight_eq_sum w l, ← weight_eq_sum w r, ← ihl hl, ← ihr hr, cost]
    omega

theorem split_cost {w w' : Nat → Nat} {z a b : Nat} (hz : w' z = w a + w b) {t : Tree}
    (hnd : t.leaves.Nodup) (hm : z ∈ t.leaves) :
    (∀ x ∈ t.leaves, x ≠ z → w' x = w x) →
    weight w (split z a b t) = weight w' t ∧ cost w (split z a b t) = cost w' t + w a + w b := by
  refine split_induction (P := fun t t' => (∀ x ∈ t.leaves, x ≠ z → w' x = w x) →
    weight w t' = weight w' t ∧ cost w t' = cost w' t + w a + w b) ?_ ?_ ?_ t hm hnd
  · intro _
    simp only [weight, cost]
    omega
  · intro i l r _ hzr ih hw
    obtain ⟨ih1, ih2⟩ := ih (fun x hx => hw x (List.mem_append_left _ hx))
    obtain ⟨hc1, hc2⟩ := weight_cost_congr (w := w) (w' := w') r (fun x hx =>
      (hw x (List.mem_append_right _ hx) (fun e => hzr (e ▸ hx))).symm)
    simp only [weight, cost, ih1, ih2, hc1, hc2, true_and]
    ac_rfl
  · intro i l r hzl _ ih hw
    obtain ⟨ih1, ih2⟩ := ih (fun x hx => hw x (List.mem_append_right _ hx))
    obtain ⟨hc1, hc2⟩ := weight_cost_congr (w := w) (w' := w') l (fun x hx =>
      (hw x (List.mem_append_left _ hx) (fun e => hzl (e ▸ hx))).symm)
    simp only [weight, cost, ih1, ih2, hc1, hc2, true_and]
    ac_rfl

/-- `a` and `b` are sibling leaves somewhere in the tree (in either order) -/
def sib (a b : Nat) : Tree → Prop
  | leaf _ => False
  | node _ l r =>
    (l = leaf a ∧ r = leaf b) ∨ (l = leaf b ∧ r = leaf a) ∨ sib a b l ∨ sib a b r

theorem merge_cost {w w' : Nat → Nat} {z a b : Nat} (hz : w' z = w a + w b) (t : Tree) :
    sib a b t → z ∉ t.leaves → (∀ x ∈ t.leaves, w' x = w x) →
    ∃ (V : Tree) (R : List Nat), t.leaves.Perm (a :: b :: R) ∧ V.leaves.Perm (z :: R) ∧
      weight w' V = weight w t ∧ cost w' V + w a + w b = cost w t := by
  induction t with
  | leaf _ => intro hs; exact hs.elim
  | node i l r ihl ihr =>
    intro hs hzt hw
    simp only [leaves, List.mem_append, not_or] at hzt
    have hwl : ∀ x ∈ l.leaves, w' x = w x := fun x hx => hw x (List.mem_append_left _ hx)
    have hwr : ∀ x ∈ r.leaves, w' x = w x := fun x hx => hw x (List.mem_append_right _ hx)
    simp only [sib] at hs
    rcases hs with ⟨rfl, rfl⟩ | ⟨rfl, rfl⟩ | hs | hs
    · exact ⟨leaf z, [], List.Perm.refl _, List.Perm.refl _, hz, by simp only [weight, cost]; ac_rfl⟩
    · exact ⟨leaf z, [], List.Perm.swap _ _ _, List.Perm.refl _, hz.trans (Nat.add_comm _ _),
        by simp only [weight, cost]; ac_rfl⟩
    · obtain ⟨V, R, h1, h2, h3, h4⟩ := ihl hs hzt.1 hwl
      have hc := weight_cost_congr (w := w') (w' := w) r hwr
      refine ⟨node i V r, R ++ r.leaves, h1.append_right r.leaves, h2.append_right r.leaves,
        ?_, ?_⟩
      · rw [weight, weight, h3, hc.1]
      · simp only [cost, h3, hc.1, hc.2, ← h4]; ac_rfl
    · obtain ⟨V, R, h1, h2, h3, h4⟩ := ihr hs hzt.2 hwr
      have hc := weight_cost_congr (w := w') (w' := w) l hwl
      refine ⟨node i l V, l.leaves ++ R,
        (h1.append_left l.leaves).trans (List.perm_middle.trans (List.perm_middle.cons a)),
        (h2.append_left l.leaves).trans List.perm_middle, ?_, ?_⟩
      · rw [weight, weight, h3, hc.1]
      · simp only [cost, h3, hc.1, hc.2, ← h4]; ac_rfl

end Tree

/-! ## the sibling lemma -/

def swp (x y s : Nat) : Nat := if s = x then y else if s = y then x else s

@[simp] theorem swp_left (x y : Nat) : swp x y x = y := if_pos rfl

@[simp] theorem swp_right (x y : Nat) : swp x y y = x := by
  unfold swp; split
  · next h => exact h
  · exact if_pos rfl

theorem swp_other {x y s : Nat} (h1 : s ≠ x) (h2 : s ≠ y) : swp x y s = s := by
  rw [swp, if_neg h1, if_neg h2]

theorem swp_swp (x y s : Nat) : swp x y (swp x y s) = s := by
  by_cases hx : s = x
  · rw [hx, swp_left, swp_right]
  · by_cases hy : s = y
    · rw [hy, swp_right, swp_left]
    · rw [swp_other hx hy, swp_other hx hy]

theorem swp_inj {x y s t : Nat} (h : swp x y s = swp x y t) : s = t := by
  have := congrArg (swp x y) h
  rwa [swp_swp, swp_swp] at this

theorem rearrange {a b c d : Nat} (h1 : a ≤ b) (h2 : c ≤ d) : b * c + a * d ≤ a * c + b * d := by
  obtain ⟨k, rfl⟩ := Nat.exists_eq_add_of_le h1
  obtain ⟨m, rfl⟩ := Nat.exists_eq_add_of_le h2
  simp only [Nat.add_mul, Nat.mul_add]
  omega

theorem nodup_split2 {L : List Nat} (hnd : L.Nodup) {x y : Nat} (hx : x ∈ L) (hy : y ∈ L)
    (hxy : x ≠ y) : ∃ L', L.Perm (x :: y :: L') ∧ x ∉ L' ∧ y ∉ L' := by
  have h1 := List.perm_cons_erase hx
  have hy' : y ∈ L.erase x := (List.mem_erase_of_ne (Ne.symm hxy)).mpr hy
  have h2 := List.perm_cons_erase hy'
  refine ⟨(L.erase x).erase y, h1.trans (List.Perm.cons _ h2), ?_, ?_⟩
  · intro h
    have := (List.Nodup.mem_erase_iff (hnd.erase x)).mp h
    have := (List.Nodup.mem_erase_iff hnd).mp this.2
    exact this.1 rfl
  · intro h
    have := (List.Nodup.mem_erase_iff (hnd.erase x)).mp h
    exact this.1 rfl

namespace Tree

def map (σ : Nat → Nat) : Tree → Tree
  | leaf a => leaf (σ a)
  | node i l r => node i (map σ l) (map σ r)

theorem leaves_map (σ : Nat → Nat) (t : Tree) : (map σ t).leaves = t.leaves.map σ := by
  induction t with
  | leaf a => rfl
  | node _ l r ihl ihr => rw [map, leaves, ihl, ihr, leaves, List.map_append]

theorem height_map (σ : Nat → Nat) (t : Tree) : (map σ t).height = t.height := by
  induction t with
  | leaf a => rfl
  | node _ l r ihl ihr => rw [map, height, ihl, ihr, height]

theorem weight_cost_map (w σ : Nat → Nat) (t : Tree) :
    weight w (map σ t) = weight (fun s => w (σ s)) t ∧
      cost w (map σ t) = cost (fun s => w (σ s)) t := by
  induction t with
  | leaf a => exact ⟨rfl, rfl⟩
  | node _ l r ihl ihr => simp only [map, weight, cost, ihl.1, ihl.2, ihr.1, ihr.2, and_self]

theorem code_map {σ : Nat → Nat} (hσ : ∀ s t, σ s = σ t → s = t) (s : Nat) (t : Tree) :
    (map σ t).code (σ s) = t.code s := by
  induction t with
  | leaf a =>
    simp only [map, code]
    by_cases h : a = s
    · simp [h]
    · have : σ a ≠ σ s := fun e => h (hσ _ _ e)
      simp [h, this]
  | node _ l r ihl ihr => simp only [map, code, ihl, ihr]

theorem depth_map {σ : Nat → Nat} (hσ : ∀ s t, σ s = σ t → s = t) (s : Nat) (t : Tree) :
    (map σ t).depth (σ s) = t.depth s := by
  simp [depth, code_map hσ s t]

theorem sib_map (σ : Nat → Nat) {a b : Nat} (t : Tree) : sib a b t → sib (σ a) (σ b) (map σ t) := by
  induction t with
  | leaf _ => exact False.elim
  | node _ l r ihl ihr =>
    rintro (⟨rfl, rfl⟩ | ⟨rfl, rfl⟩ | h | h)
    · exact Or.inl ⟨rfl, rfl⟩
    · exact Or.inr (Or.inl ⟨rfl, rfl⟩)
    · exact Or.inr (Or.inr (Or.inl (ihl h)))
    · exact Or.inr (Or.inr (Or.inr (ihr h)))

theorem sib_symm {a b : Nat} (t : Tree) : sib a b t → sib b a t := by
  induction t with
  | leaf _ => exact False.elim
  | node _ l r ihl ihr =>
    rintro (h | h | h | h)
    · exact Or.inr (Or.inl h)
    · exact Or.inl h
    · exact Or.inr (Or.inr (Or.inl (ihl h)))
    · exact Or.inr (Or.inr (Or.inr (ihr h)))

theorem sib_perm {a b : Nat} (t : Tree) : sib a b t → ∃ R, t.leaves.Perm (a :: b :: R) := by
  induction t with
  | leaf _ => exact False.elim
  | node _ l r ihl ihr =>
    rintro (⟨rfl, rfl⟩ | ⟨rfl, rfl⟩ | h | h)
    · exact ⟨[], List.Perm.refl _⟩
    · exact ⟨[], List.Perm.swap _ _ _⟩
    · obtain ⟨R, hR⟩ := ihl h
      exact ⟨R ++ r.leaves, hR.append_right r.leaves⟩
    · obtain ⟨R, hR⟩ := ihr h
      exact ⟨l.leaves ++ R, (hR.append_left l.leaves).trans
        (List.perm_middle.trans (List.perm_middle.cons a))⟩

theorem sib_facts {a b : Nat} {t : Tree} (h : sib a b t) (hnd : t.leaves.Nodup) :
    a ∈ t.leaves ∧ b ∈ t.leaves ∧ a ≠ b := by
  obtain ⟨R, hR⟩ := sib_perm t h
  have hnd' := hR.nodup_iff.mp hnd
  refine ⟨hR.mem_iff.mpr (by simp), hR.mem_iff.mpr (by simp), ?_⟩
  simp only [List.nodup_cons, List.mem_cons, not_or] at hnd'
  exact hnd'.1.1

theorem height_eq_zero : ∀ (t : Tree), t.height = 0 → ∃ a, t = leaf a
  | leaf a, _ => ⟨a, rfl⟩
  | node _ _ _, h => nomatch h

theorem exists_deepest_sib (t : Tree) : t.leaves.Nodup → 1 ≤ t.height →
    ∃ c d, sib c d t ∧ t.depth c = t.height ∧ t.depth d = t.height := by
  induction t with
  | leaf a => exact fun _ h => nomatch h
  | node i l r ihl ihr =>
    intro hnd _
    obtain ⟨hl, hr, hdis⟩ := nodup_node hnd
    by_cases h0 : l.height = 0 ∧ r.height = 0
    · obtain ⟨c, rfl⟩ := height_eq_zero l h0.1
      obtain ⟨d, rfl⟩ := height_eq_zero r h0.2
      have hc : c ∈ (leaf c).leaves := List.mem_singleton.mpr rfl
      have hd : d ∈ (leaf d).leaves := List.mem_singleton.mpr rfl
      exact ⟨c, d, Or.inl ⟨rfl, rfl⟩, by rw [depth_node_left hc, depth_leaf]; rfl,
        by rw [depth_node_right (fun h => hdis d h hd) hd, depth_leaf]; rfl⟩
    · rcases Nat.le_total r.height l.height with hlr | hlr
      · have hh : (node i l r).height = l.height + 1 := congrArg (· + 1) (Nat.max_eq_left hlr)
        obtain ⟨c, d, hs, hc, hd⟩ := ihl hl
          (Nat.pos_of_ne_zero fun h => h0 ⟨h, Nat.le_zero.mp (h ▸ hlr)⟩)
        obtain ⟨hcm, hdm, _⟩ := sib_facts hs hl
        exact ⟨c, d, Or.inr (Or.inr (Or.inl hs)), by rw [depth_node_left hcm, hc, hh],
          by rw [depth_node_left hdm, hd, hh]⟩
      · have hh : (node i l r).height = r.height + 1 := congrArg (· + 1) (Nat.max_eq_right hlr)
        obtain ⟨c, d, hs, hc, hd⟩ := ihr hr
          (Nat.pos_of_ne_zero fun h => h0 ⟨Nat.le_zero.mp (h ▸ hlr), h⟩)
        obtain ⟨hcm, hdm, _⟩ := sib_facts hs hr
        exact ⟨c, d, Or.inr (Or.inr (Or.inr hs)),
          by rw [depth_node_right (fun h => hdis c h hcm) hcm, hc, hh],
          by rw [depth_node_right (fun h => hdis d h hdm) hdm, hd, hh]⟩

/-- a light shallow leaf against a heavy deep one -/
theorem map_swp (w : Nat → Nat) {t : Tree} (hnd : t.leaves.Nodup) {x y : Nat}
    (hx : x ∈ t.leaves) (hy : y ∈ t.leaves) (hxy : x ≠ y) (hw : w x ≤ w y)
    (hd : t.depth x ≤ t.depth y) :
    (map (swp x y) t).leaves.Perm t.leaves ∧ cost w (map (swp x y) t) ≤ cost w t := by
  obtain ⟨L', hp, hx', hy'⟩ := nodup_split2 hnd hx hy hxy
  -- a list over the leaves in which `x` and `y` are exchanged in one place
  have key : ∀ {β : Type} (g : Nat → Nat → β), (t.leaves.map fun s => g (swp x y s) s).Perm
      (g y x :: g x y :: L'.map fun s => g s s) := by
    intro β g
    refine (hp.map _).trans ?_
    have hL' : ∀ s ∈ L', g (swp x y s) s = g s s := fun s hs => by
      rw [swp_other (fun e : s = x => hx' (e ▸ hs)) (fun e : s = y => hy' (e ▸ hs))]
    rw [List.map_cons, List.map_cons, swp_left, swp_right, List.map_congr_left hL']
  constructor
  · rw [leaves_map]
    refine (key fun u _ => u).trans ((List.Perm.swap _ _ _).trans ?_)
    rw [List.map_id']
    exact hp.symm
  · rw [(weight_cost_map w (swp x y) t).2, cost_eq_sum _ t hnd, cost_eq_sum _ t hnd,
      (key fun u s => w u * t.depth s).sum_nat, (hp.map _).sum_nat]
    simp only [List.map_cons, List.sum_cons]
    have := rearrange hw hd
    omega

/-- sibling lemma: the two lightest leaves can be made siblings at no cost -/
theorem exists_sib_le (w : Nat → Nat) {t : Tree} (hnd : t.leaves.Nodup) {a b : Nat}
    (ha : a ∈ t.leaves) (hb : b ∈ t.leaves) (hab : a ≠ b)
    (hwab : w a ≤ w b) (hminb : ∀ x ∈ t.leaves, x ≠ a → w b ≤ w x) :
    ∃ t', t'.leaves.Perm t.leaves ∧ sib a b t' ∧ cost w t' ≤ cost w t := by
  have hmina : ∀ x ∈ t.leaves, w a ≤ w x := fun x hx =>
    if e : x = a then e ▸ Nat.le_refl _ else Nat.le_trans hwab (hminb x hx e)
  have hh : 1 ≤ t.height := Nat.pos_of_ne_zero fun hz => by
    obtain ⟨c, rfl⟩ := height_eq_zero t hz
    exact hab ((List.mem_singleton.mp ha).trans (List.mem_singleton.mp hb).symm)
  -- step 1: bring `a` into a deepest sibling pair
  have step1 : ∃ t1 d1, t1.leaves.Perm t.leaves ∧ sib a d1 t1 ∧ cost w t1 ≤ cost w t ∧
      t1.depth d1 = t1.height := by
    obtain ⟨c, d, hs, hc, hd⟩ := exists_deepest_sib t hnd hh
    obtain ⟨hcm, hdm, hcd⟩ := sib_facts hs hnd
    by_cases hac : a = c
    · subst hac; exact ⟨t, d, List.Perm.refl _, hs, Nat.le_refl _, hd⟩
    · by_cases had : a = d
      · subst had; exact ⟨t, c, List.Perm.refl _, sib_symm t hs, Nat.le_refl _, hc⟩
      · obtain ⟨hp, hle⟩ := map_swp w hnd ha hcm hac (hmina c hcm)
          (hc ▸ depth_le_height t a)
        refine ⟨map (swp a c) t, d, hp, ?_, hle, ?_⟩
        · have := sib_map (swp a c) t hs
          rwa [swp_right, swp_other (Ne.symm had) (Ne.symm hcd)] at this
        · have := depth_map (σ := swp a c) (fun s t => swp_inj) d t
          rw [swp_other (Ne.symm had) (Ne.symm hcd)] at this
          rw [this, height_map, hd]
  obtain ⟨t1, d1, hp1, hs1, hc1, hd1⟩ := step1
  have hnd1 : t1.leaves.Nodup := hp1.nodup_iff.mpr hnd
  obtain ⟨ha1, hd1m, had1⟩ := sib_facts hs1 hnd1
  -- step 2: bring `b` next to `a`
  by_cases hbd : b = d1
  · subst hbd; exact ⟨t1, hp1, hs1, hc1⟩
  · have hb1 : b ∈ t1.leaves := hp1.mem_iff.mpr hb
    obtain ⟨hp, hle⟩ := map_swp w hnd1 hb1 hd1m hbd
      (hminb d1 (hp1.mem_iff.mp hd1m) (Ne.symm had1)) (hd1 ▸ depth_le_height t1 b)
    refine ⟨map (swp b d1) t1, hp.trans hp1, ?_, Nat.le_trans hle hc1⟩
    have := sib_map (swp b d1) t1 hs1
    rwa [swp_right, swp_other hab had1] at this

/-- one step of the induction (Blanchette's `optimum_splitLeaf`) -/
theorem optimum_split (w : Nat → Nat) {a b z : Nat} {R : List Nat}
    (hnd : (a :: b :: R).Nodup) (hz : z ∉ a :: b :: R)
    (hab : w a ≤ w b) (hminR : ∀ x ∈ R, w b ≤ w x)
    {T' : Tree} (hT' : T'.leaves.Perm (z :: R))
    (hopt : ∀ U' : Tree, U'.leaves.Perm (z :: R) →
      cost (fun x => if x = z then w a + w b else w x) T' ≤
        cost (fun x => if x = z then w a + w b else w x) U')
    (U : Tree) (hU : U.leaves.Perm (a :: b :: R)) :
    cost w (split z a b T') ≤ cost w U := by
  have hndU : U.leaves.Nodup := hU.nodup_iff.mpr hnd
  obtain ⟨haR, hndb⟩ := List.nodup_cons.mp hnd
  let w' : Nat → Nat := fun x => if x = z then w a + w b else w x
  have hw' : ∀ x, x ≠ z → w' x = w x := fun x hx => if_neg hx
  -- make `a`, `b` siblings in `U`, then merge them into `z`
  obtain ⟨U1, hp1, hs1, hc1⟩ := exists_sib_le w hndU (hU.mem_iff.mpr List.mem_cons_self)
    (hU.mem_iff.mpr (List.mem_cons_of_mem _ List.mem_cons_self))
    (fun e => haR (e ▸ List.mem_cons_self)) hab
    (fun x hx hxa => (List.mem_cons.mp (hU.mem_iff.mp hx)).elim (fun e => absurd e hxa)
      fun hx => (List.mem_cons.mp hx).elim (fun e => e ▸ Nat.le_refl _) (hminR x))
  have hzU1 : z ∉ U1.leaves := fun h => hz ((hp1.trans hU).mem_iff.mp h)
  obtain ⟨V, R1, hl1, hlV, _, hcV⟩ := merge_cost (w := w) (w' := w') (if_pos rfl) U1 hs1 hzU1
    fun x hx => hw' x fun e => hzU1 (e ▸ hx)
  have hRR : R1.Perm R := ((hl1.symm.trans (hp1.trans hU)).cons_inv).cons_inv
  have h1 : cost w' T' ≤ cost w' V := hopt V (hlV.trans (hRR.cons z))
  have hndT' : T'.leaves.Nodup := hT'.nodup_iff.mpr (List.nodup_cons.mpr
    ⟨fun h => hz (List.mem_cons_of_mem _ (List.mem_cons_of_mem _ h)), (List.nodup_cons.mp hndb).2⟩)
  have hsplit := split_cost (w := w) (w' := w') (a := a) (b := b) (if_pos rfl) hndT'
    (hT'.mem_iff.mpr List.mem_cons_self) fun x _ hxz => hw' x hxz
  rw [hsplit.2]
  exact Nat.le_trans (hcV ▸ Nat.add_le_add_right (Nat.add_le_add_right h1 _) _) hc1

end Tree

theorem treeLoop_optimal {top : Nat} (fuel : Nat) : ∀ (heap : List (Nat × Nat)) (next : Nat),
    LoopInv fuel heap next top → ∀ T, treeLoop exactOps fuel heap next = some T →
    ∀ w : Nat → Nat, (∀ p ∈ heap, w p.2 = p.1) →
    ∀ U : Tree, U.leaves.Perm (heap.map (·.2)) → Tree.cost w T ≤ Tree.cost w U := by
  intro heap next hinv T hT
  refine treeLoop_induction (P := fun heap _ T => ∀ w : Nat → Nat, (∀ p ∈ heap, w p.2 = p.1) →
    ∀ U : Tree, U.leaves.Perm (heap.map (·.2)) → Tree.cost w T ≤ Tree.cost w U) ?_ ?_
    fuel heap next hinv T hT
  · intro a next w _ U _; exact Nat.zero_le _
  · intro heap next a b s h2 T' hok hs hleaves ih w hw U hU
    cases step_exact hs
    obtain ⟨hab, hbx⟩ := step_min natOrder_exact hs
    have hp := step_perm hs
    have hpm := step_ids hs
    have hwa : w a.2 = a.1 := hw a (hp.mem_iff.mpr List.mem_cons_self)
    have hwb : w b.2 = b.1 := hw b (hp.mem_iff.mpr (List.mem_cons_of_mem _ List.mem_cons_self))
    have hh2 : ∀ p ∈ h2, p ∈ heap := fun p hp' =>
      hp.mem_iff.mpr (List.mem_cons_of_mem _ (List.mem_cons_of_mem _ hp'))
    have hw' : ∀ p ∈ (a.1 + b.1, next) :: h2,
        (fun x => if x = next then w a.2 + w b.2 else w x) p.2 = p.1 := by
      intro p hp'
      rcases List.mem_cons.mp hp' with rfl | hp'
      · simp only [if_true, hwa, hwb]
      · have hne' : p.2 ≠ next := Nat.ne_of_lt (hok.lt_next p (hh2 p hp'))
        simp only [if_neg hne', hw p (hh2 p hp')]
    refine Tree.optimum_split w (a := a.2) (b := b.2) (z := next)
      (R := h2.map (fun x : Nat × Nat => x.2)) (hpm.nodup_iff.mp hok.nodup) ?_ ?_ ?_ hleaves
      (ih (fun x => if x = next then w a.2 + w b.2 else w x) hw') U (hU.trans hpm)
    · intro hmem
      obtain ⟨p, hp1, hp2⟩ := List.mem_map.mp (hpm.mem_iff.mpr hmem)
      exact Nat.lt_irrefl next ((hp2 : p.2 = next) ▸ hok.lt_next p hp1)
    · rw [hwa, hwb]
      exact keyLe_weight hab
    · intro x hx
      obtain ⟨p, hp1, rfl⟩ := List.mem_map.mp hx
      rw [hwb, hw p (hh2 p hp1)]
      exact keyLe_weight (hbx p hp1)

theorem zipIdx_eq_map_range (ws : List Nat) :
    ws.zipIdx = (List.range ws.length).map (fun s => (ws.getD s 0, s)) := by
  apply List.ext_getElem
  · simp
  · intro i h1 h2
    have hi : i < ws.length := by simpa using h1
    simp [List.getElem_zipIdx, List.getD_eq_getElem?_getD, hi]

theorem sum_zipIdx (ws : List Nat) (f : Nat → Nat → Nat) :
    (ws.zipIdx.map (fun p => f p.1 p.2)).sum =
      ((List.range ws.length).map (fun s => f (ws.getD s 0) s)).sum := by
  rw [zipIdx_eq_map_range]; simp [List.map_map, Function.comp_def]

theorem sum_map_le {α : Type} {l : List α} {f g : α → Nat} (h : ∀ x ∈ l, f x ≤ g x) :
    (l.map f).sum ≤ (l.map g).sum := by
  induction l with
  | nil => exact Nat.le_refl _
  | cons x xs ih =>
    exact Nat.add_le_add (h x List.mem_cons_self) (ih fun y hy => h y (List.mem_cons_of_mem _ hy))

theorem zipIdx_mem {ws : List Nat} {p : Nat × Nat} (hp : p ∈ ws.zipIdx) :
    p.2 < ws.length ∧ ws.getD p.2 0 = p.1 := by
  have h : ws[p.2]? = some p.1 := List.mk_mem_zipIdx_iff_getElem?.mp hp
  obtain ⟨hi, _⟩ := List.getElem?_eq_some_iff.mp h
  exact ⟨hi, by rw [List.getD_eq_getElem?_getD, h]; rfl⟩

theorem zipIdx_sum_le (ws : List Nat) {f g : Nat → Nat} (h : ∀ i < ws.length, f i ≤ g i) :
    (ws.zipIdx.map fun p => p.1 * f p.2).sum ≤ (ws.zipIdx.map fun p => p.1 * g p.2).sum :=
  sum_map_le fun p hp => Nat.mul_le_mul_left _ (h p.2 (zipIdx_mem hp).1)

theorem Tree.wcost_eq_cost (ws : List Nat) {U : Tree} (hU : U.IsCodeTree ws.length) :
    U.wcost ws = Tree.cost (fun s => ws.getD s 0) U := by
  have hnd : U.leaves.Nodup := hU.nodup_iff.mpr List.nodup_range
  rw [Tree.cost_eq_sum _ U hnd, Tree.wcost, sum_zipIdx ws (fun w s => w * U.depth s)]
  exact ((hU.map _).sum_nat).symm

theorem Built.codeCost_eq {ws : List Nat} {en : List Nat} {dn : List (Nat × Nat)} {T : Tree}
    (B : Built ws.length en dn T) : codeCost ws en = T.wcost ws :=
  congrArg List.sum (List.map_congr_left fun p hp => by rw [B.wordLen_eq (zipIdx_mem hp).1])

theorem huffTree_optimal {ws : List Nat} {T : Tree}
    (hT : huffTree exactOps ws = some T) {U : Tree} (hU : U.IsCodeTree ws.length) :
    T.wcost ws ≤ U.wcost ws := by
  rw [Tree.wcost_eq_cost ws (huffTree_shape hT).1, Tree.wcost_eq_cost ws hU]
  exact treeLoop_optimal _ _ _ (loopInv_zipIdx ws) T hT _ (fun p hp => (zipIdx_mem hp).2) U
    (by rw [zipIdx_ids]; exact hU)

/-! ## from a prefix-free code to a code tree that is at least as good -/

theorem eq_cons_tail_of_head? {l : List Bool} {b : Bool} (h : l.head? = some b) :
    l = b :: l.tail := by
  cases l with
  | nil => cases h
  | cons x xs => cases h; rfl

theorem tail_code {c : Nat → List Bool} {b : Bool} {S S' : List Nat} {D : Nat}
    (hsub : ∀ s ∈ S', s ∈ S) (hb : ∀ s ∈ S', c s = b :: (c s).tail)
    (hD : ∀ s ∈ S, (c s).length ≤ D + 1)
    (hpf : ∀ s1 ∈ S, ∀ s2 ∈ S, c s1 <+: c s2 → s1 = s2) :
    (∀ s ∈ S', (c s).tail.length ≤ D) ∧
      ∀ s ∈ S', ∀ t ∈ S', (c s).tail <+: (c t).tail → s = t := by
  refine ⟨fun s hs => ?_, fun s hs t ht hst => hpf s (hsub s hs) t (hsub t ht) ?_⟩
  · have := hD s (hsub s hs)
    rw [hb s hs, List.length_cons] at this
    exact Nat.le_of_succ_le_succ this
  · rw [hb s hs, hb t ht]; exact (List.prefix_cons_inj _).mpr hst

theorem exists_tree_of_prefix_free (D : Nat) : ∀ (S : List Nat) (c : Nat → List Bool),
    S ≠ [] → S.Nodup → (∀ s ∈ S, (c s).length ≤ D) →
    (∀ s1 ∈ S, ∀ s2 ∈ S, c s1 <+: c s2 → s1 = s2) →
    ∃ U : Tree, U.leaves.Perm S ∧ ∀ s ∈ S, U.depth s ≤ (c s).length := by
  have single : ∀ (s : Nat) (c : Nat → List Bool),
      ∃ U : Tree, U.leaves.Perm [s] ∧ ∀ t ∈ [s], U.depth t ≤ (c t).length := fun s _ =>
    ⟨.leaf s, List.Perm.refl _, fun t _ => by rw [Tree.depth_leaf]; exact Nat.zero_le _⟩
  induction D with
  | zero =>
    intro S c hne hnd hD hpf
    match S, hne with
    | [s], _ => exact single s c
    | s1 :: s2 :: rest, _ =>
      have h1 : c s1 = [] :=
        List.eq_nil_of_length_eq_zero (Nat.le_zero.mp (hD s1 List.mem_cons_self))
      have := hpf s1 List.mem_cons_self s2 (List.mem_cons_of_mem _ List.mem_cons_self)
        (h1 ▸ List.nil_prefix)
      exact absurd (this ▸ List.mem_cons_self) (List.nodup_cons.mp hnd).1
  | succ D ih =>
    intro S c hne hnd hD hpf
    match S, hne with
    | [s], _ => exact single s c
    | s1 :: s2 :: rest, _ =>
      have hs12 : s1 ≠ s2 := fun e => (List.nodup_cons.mp hnd).1 (e ▸ List.mem_cons_self)
      -- with two symbols no codeword is empty: it would be a prefix of another one
      have hnonempty : ∀ s ∈ s1 :: s2 :: rest, c s ≠ [] := by
        intro s hs he
        by_cases hs1 : s = s1
        · exact hs12 (hs1 ▸ hpf s hs s2 (List.mem_cons_of_mem _ List.mem_cons_self)
            (he ▸ List.nil_prefix))
        · exact hs1 (hpf s hs s1 List.mem_cons_self (he ▸ List.nil_prefix))
      -- split the symbols by the first bit of their codeword
      let S' := s1 :: s2 :: rest
      let p : Nat → Bool := fun s => (c s).head? == some false
      let S0 := S'.filter p
      let S1 := S'.filter (fun s => !p s)
      have hperm : (S0 ++ S1).Perm S' := List.filter_append_perm p S'
      obtain ⟨hnd0, hnd1, hdis⟩ := List.nodup_append.mp (hperm.nodup_iff.mpr hnd)
      have hsub0 : ∀ s ∈ S0, s ∈ S' := fun s hs => (List.mem_filter.mp hs).1
      have hsub1 : ∀ s ∈ S1, s ∈ S' := fun s hs => (List.mem_filter.mp hs).1
      have hc0 : ∀ s ∈ S0, c s = false :: (c s).tail := fun s hs =>
        eq_cons_tail_of_head? (beq_iff_eq.mp (List.mem_filter.mp hs).2)
      have hc1 : ∀ s ∈ S1, c s = true :: (c s).tail := by
        intro s hs
        have hp : (!p s) = true := (List.mem_filter.mp hs).2
        match hcs : c s with
        | [] => exact absurd hcs (hnonempty s (hsub1 s hs))
        | false :: t => simp [p, hcs] at hp
        | true :: t => rfl
      obtain ⟨hlen0, hpf0⟩ := tail_code hsub0 hc0 hD hpf
      obtain ⟨hlen1, hpf1⟩ := tail_code hsub1 hc1 hD hpf
      -- a tree for the tails of one side serves that side
      have side : ∀ {b : Bool} {Sb : List Nat}, Sb.Perm S' → (∀ s ∈ Sb, c s = b :: (c s).tail) →
          (∃ U : Tree, U.leaves.Perm Sb ∧ ∀ s ∈ Sb, U.depth s ≤ (c s).tail.length) →
          ∃ U : Tree, U.leaves.Perm S' ∧ ∀ s ∈ S', U.depth s ≤ (c s).length := by
        intro b Sb hp hb ⟨U, hU, hdep⟩
        refine ⟨U, hU.trans hp, fun s hs => ?_⟩
        have hs' := hp.mem_iff.mpr hs
        rw [hb s hs', List.length_cons]
        exact Nat.le_succ_of_le (hdep s hs')
      by_cases h0 : S0 = []
      · have hS1 : S1.Perm S' := by rw [h0] at hperm; exact hperm
        exact side hS1 hc1 (ih S1 (fun s => (c s).tail)
          (fun h => List.cons_ne_nil _ _ (h ▸ hS1).symm.eq_nil) hnd1 hlen1 hpf1)
      · by_cases h1 : S1 = []
        · have hS0 : S0.Perm S' := by rw [h1, List.append_nil] at hperm; exact hperm
          exact side hS0 hc0 (ih S0 (fun s => (c s).tail) h0 hnd0 hlen0 hpf0)
        · obtain ⟨U0, hU0, hdep0⟩ :=
            ih S0 (fun s => (c s).tail) h0 hnd0 hlen0 hpf0
          obtain ⟨U1, hU1, hdep1⟩ :=
            ih S1 (fun s => (c s).tail) h1 hnd1 hlen1 hpf1
          refine ⟨.node 0 U0 U1, (hU0.append hU1).trans hperm, fun s hs => ?_⟩
          rcases List.mem_append.mp (hperm.mem_iff.mpr hs) with hs0 | hs1
          · rw [Tree.depth_node_left (hU0.mem_iff.mpr hs0), hc0 s hs0, List.length_cons]
            exact Nat.succ_le_succ (hdep0 s hs0)
          · rw [Tree.depth_node_right (fun h => hdis s (hU0.mem_iff.mp h) s hs1 rfl)
              (hU1.mem_iff.mpr hs1), hc1 s hs1, List.length_cons]
            exact Nat.succ_le_succ (hdep1 s hs1)

theorem huffTree_optimal_codes {ws : List Nat} (hn : 0 < ws.length) {T : Tree}
    (hT : huffTree exactOps ws = some T) {c : Nat → List Bool} (hc : PrefixFree ws.length c) :
    T.wcost ws ≤ assignCost ws c := by
  let D := ((List.range ws.length).map (fun s => (c s).length)).sum
  have hD : ∀ s ∈ List.range ws.length, (c s).length ≤ D := by
    intro s hs
    have := List.perm_cons_erase hs
    have h2 := (this.map (fun s => (c s).length)).sum_nat
    simp only [List.map_cons, List.sum_cons] at h2
    exact Nat.le_trans (Nat.le_add_right _ _) (Nat.le_of_eq h2.symm)
  obtain ⟨U, hU, hdep⟩ := exists_tree_of_prefix_free D (List.range ws.length) c
    (fun h => Nat.ne_of_gt hn (List.range_eq_nil.mp h)) List.nodup_range hD
    (fun s1 h1 s2 h2 hp => hc s1 s2 (List.mem_range.mp h1) (List.mem_range.mp h2) hp)
  exact Nat.le_trans (huffTree_optimal hT (U := U) hU)
    (zipIdx_sum_le ws fun i hi => hdep i (List.mem_range.mpr hi))

end CV.Huff
