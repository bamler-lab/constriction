import CV.Proofs.HuffCode
/-!
# Both arrays describe `huffTree ops ws`, for every weight type; consequences for the codebook
methods; vocabulary of the property statements
-/
namespace CV.Huff

/-- `en` and `dn` are the encoder array and decoder table of the tree `T` on `n` symbols -/
structure Built (n : Nat) (en : List Nat) (dn : List (Nat × Nat)) (T : Tree) : Prop where
  n_pos : 0 < n
  n_max : n ≤ usizeMax / 4
  en_len : en.length = 2 * n - 1
  dn_len : dn.length + 1 = n
  encDesc : EncDesc en T
  root0 : en[T.rootId]? = some 0
  decDesc : DecDesc dn n T
  leaves : T.leaves.Perm (List.range n)
  inner_ge : ∀ i ∈ T.inner, n ≤ i ∧ i < 2 * n - 1
  inner_len : T.inner.length + 1 = n
  root : T.rootId = 2 * n - 2

theorem usizeMax_div4 : usizeMax / 4 < 2^62 := by decide

section
variable {α : Type} (ops : WeightOps α)

/-- the Huffman tree of a weight list, vertices labelled with their array indices
(`none`: an addition panicked, or the list is empty) -/
def huffTree (ws : List α) : Option Tree := treeLoop ops ws.length ws.zipIdx ws.length

theorem zipIdx_ids (ws : List α) : ws.zipIdx.map (·.2) = List.range ws.length := by
  rw [List.zipIdx_map_snd, List.range_eq_range']

theorem loopInv_zipIdx (ws : List α) : LoopInv ws.length ws.zipIdx ws.length (2 * ws.length) where
  nodup := by rw [zipIdx_ids]; exact List.nodup_range
  lt_next p hp := List.mem_range.mp (zipIdx_ids ws ▸ List.mem_map_of_mem hp)
  fuel_eq := List.length_zipIdx.symm
  top_eq := by rw [List.length_zipIdx, Nat.two_mul]

variable {ops}

theorem huffTree_shape {ws : List α} {T : Tree} (hT : huffTree ops ws = some T) :
    T.leaves.Perm (List.range ws.length) ∧
      (∀ i ∈ T.inner, ws.length ≤ i ∧ i + 1 < 2 * ws.length) ∧
      T.inner.length + 1 = ws.length ∧ T.rootId + 2 = 2 * ws.length := by
  have hlen : ws.zipIdx.length = ws.length := List.length_zipIdx
  have hinv := loopInv_zipIdx ws
  obtain ⟨hleaves, hinner, hcount, hroot, hsingle⟩ := treeLoop_spec _ _ _ hinv T hT
  rw [hlen] at hcount hroot
  rw [zipIdx_ids] at hleaves
  refine ⟨hleaves, hinner, hcount, ?_⟩
  by_cases h2 : 2 ≤ ws.length
  · exact hroot h2
  · -- a single symbol: the tree is the leaf `0`
    have h1 : ws.length = 1 :=
      Nat.le_antisymm (Nat.le_of_lt_succ (Nat.not_le.mp h2)) (hcount ▸ Nat.succ_pos _)
    obtain ⟨p, hp⟩ := List.length_eq_one_iff.mp (hlen.trans h1)
    have hp0 : p.2 < 1 := h1 ▸ hinv.lt_next p (hp ▸ List.mem_singleton.mpr rfl)
    rw [hsingle p hp, h1, Tree.rootId, Nat.lt_one_iff.mp hp0]

theorem encTree_cases (ws : List α) :
    (∃ T en, huffTree ops ws = some T ∧ encTree ops ws = .ok en ∧
      0 < ws.length ∧ ws.length ≤ usizeMax / 4 ∧ en.length + 1 = 2 * ws.length ∧
      (∀ j, j + 2 = 2 * ws.length → en[j]? = some 0) ∧ EncDesc en T) ∨
    (∃ f, encTree ops ws = .error f ∧ (∀ site, f ≠ .ub site) ∧
      (0 < ws.length → ws.length ≤ usizeMax / 4 → huffTree ops ws = none)) := by
  have hlen : ws.zipIdx.length = ws.length := List.length_zipIdx
  by_cases hg : ws.length = 0 ∨ ws.length > usizeMax / 4
  · exact Or.inr ⟨.panic "huff.enc.new", by simp only [encTree, hlen, if_pos hg],
      fun _ h => (nomatch h),
      fun hn hmax => absurd hg (not_or.mpr ⟨Nat.ne_of_gt hn, Nat.not_lt.mpr hmax⟩)⟩
  · have hn : 0 < ws.length := Nat.pos_of_ne_zero fun h => hg (Or.inl h)
    have hmax : ws.length ≤ usizeMax / 4 := Nat.le_of_not_gt fun h => hg (Or.inr h)
    have hlen2 : ws.length * 2 - 1 + 1 = 2 * ws.length := by
      rw [Nat.sub_add_cancel (Nat.mul_pos hn (by decide)), Nat.mul_comm]
    have h63 : 2 * ws.length ≤ 2 * 2^62 :=
      Nat.mul_le_mul_left 2 (Nat.le_of_lt (Nat.lt_of_le_of_lt hmax usizeMax_div4))
    simp only [encTree, huffTree, hlen, if_neg hg]
    rcases encLoop_cases (ops := ops) _ _ (List.replicate (ws.length * 2 - 1) 0) _
        (loopInv_zipIdx ws) (by rw [List.length_replicate, hlen2]; exact Nat.le_refl _) h63 with
      ⟨T, en, hT, hen, hl, hkeep, hd⟩ | ⟨hT, f, hen, hf⟩
    · refine Or.inl ⟨T, en, hT, hen, hn, hmax, by rw [hl, List.length_replicate, hlen2],
        fun j hj => ?_, hd⟩
      have : j < ws.length * 2 - 1 :=
        Nat.lt_of_succ_lt_succ (show j + 1 < ws.length * 2 - 1 + 1 by
          rw [hlen2, ← hj]; exact Nat.lt_succ_self _)
      rw [hkeep j (Or.inr (Nat.le_of_eq hj.symm)), List.getElem?_replicate, if_pos this]
    · exact Or.inr ⟨f, hen, hf, fun _ _ => hT⟩

theorem decTree_cases (ws : List α) :
    (∃ T dn, huffTree ops ws = some T ∧ decTree ops ws = .ok dn ∧
      0 < ws.length ∧ dn.length + 1 = ws.length ∧ DecDesc dn ws.length T) ∨
    (∃ f, decTree ops ws = .error f ∧ (∀ site, f ≠ .ub site) ∧
      (0 < ws.length → ws.length ≤ usizeMax / 2 → huffTree ops ws = none)) := by
  have hlen : ws.zipIdx.length = ws.length := List.length_zipIdx
  by_cases hg : ws.length = 0 ∨ ws.length > usizeMax / 2
  · exact Or.inr ⟨.panic "huff.dec.new", by simp only [decTree, hlen, if_pos hg],
      fun _ h => (nomatch h),
      fun hn hmax => absurd hg (not_or.mpr ⟨Nat.ne_of_gt hn, Nat.not_lt.mpr hmax⟩)⟩
  · have hn : 0 < ws.length := Nat.pos_of_ne_zero fun h => hg (Or.inl h)
    have hmax : ws.length < 2^63 :=
      Nat.lt_of_le_of_lt (Nat.le_of_not_gt fun h => hg (Or.inr h)) (by decide)
    have h64 : 2 * ws.length ≤ 2 * 2^63 := Nat.mul_le_mul_left 2 (Nat.le_of_lt hmax)
    simp only [decTree, huffTree, hlen, if_neg hg]
    rcases decLoop_cases (ops := ops) (n := ws.length) _ _ [] _ (loopInv_zipIdx ws) rfl h64
      with ⟨T, dn, hT, hdn, hl, hd⟩ | ⟨hT, f, hdn, hf⟩
    · exact Or.inl ⟨T, dn, hT, hdn, hn, hl.trans hlen, hd⟩
    · exact Or.inr ⟨f, hdn, hf, fun _ _ => hT⟩

variable (ops) in
theorem encTree_no_ub (ws : List α) (site : String) : encTree ops ws ≠ .error (.ub site) := by
  rcases encTree_cases (ops := ops) ws with ⟨_, _, _, he, _⟩ | ⟨f, he, hf, _⟩
  · rw [he]; exact fun h => nomatch h
  · rw [he]; exact fun h => hf site (Except.error.inj h)

variable (ops) in
/-- the decoder constructor has no unsafe block; it never returns a `ub` fault -/
theorem decTree_no_ub (ws : List α) (site : String) : decTree ops ws ≠ .error (.ub site) := by
  rcases decTree_cases (ops := ops) ws with ⟨_, _, _, he, _⟩ | ⟨f, he, hf, _⟩
  · rw [he]; exact fun h => nomatch h
  · rw [he]; exact fun h => hf site (Except.error.inj h)

theorem tryEncTree_fault {ws : List (Option α)} {f : Fault}
    (h : tryEncTree ops ws = .error (.fault f)) : ∃ v, encTree ops v = .error f := by
  unfold tryEncTree at h
  split at h
  · cases h
  · next v _ =>
    split at h
    · cases h
    · next f' hf => cases h; exact ⟨v, hf⟩

theorem tryDecTree_fault {ws : List (Option α)} {f : Fault}
    (h : tryDecTree ops ws = .error (.fault f)) : ∃ v, decTree ops v = .error f := by
  unfold tryDecTree at h
  split at h
  · cases h
  · next v _ =>
    split at h
    · cases h
    · next f' hf => cases h; exact ⟨v, hf⟩

theorem built_of_tree {ws : List α} (hn : 0 < ws.length) (hmax : ws.length ≤ usizeMax / 4)
    {T : Tree} (hT : huffTree ops ws = some T) :
    ∃ en dn, encTree ops ws = .ok en ∧ decTree ops ws = .ok dn ∧ Built ws.length en dn T := by
  have h42 : usizeMax / 4 ≤ usizeMax / 2 := by decide
  obtain ⟨hleaves, hinner, hcount, hroot⟩ := huffTree_shape hT
  rcases encTree_cases (ops := ops) ws with ⟨T1, en, hT1, hen, _, _, hel, he0, hed⟩ | ⟨_, _, _, h⟩
  · rcases decTree_cases (ops := ops) ws with ⟨T2, dn, hT2, hdn, _, hdl, hdd⟩ | ⟨_, _, _, h⟩
    · cases hT.symm.trans hT1
      cases hT.symm.trans hT2
      exact ⟨en, dn, hen, hdn, ⟨hn, hmax, Nat.eq_sub_of_add_eq hel, hdl, hed, he0 _ hroot, hdd,
        hleaves, fun i hi => ⟨(hinner i hi).1, Nat.lt_sub_of_add_lt (hinner i hi).2⟩, hcount,
        Nat.eq_sub_of_add_eq hroot⟩⟩
    · rw [hT] at h; cases h hn (Nat.le_trans hmax h42)
  · rw [hT] at h; cases h hn hmax

/-- an encoder array returned by the constructor comes with the decoder table of the same tree,
whatever the weight type -/
theorem built_of_enc {ws : List α} {en : List Nat} (h : encTree ops ws = .ok en) :
    ∃ dn T, decTree ops ws = .ok dn ∧ huffTree ops ws = some T ∧ Built ws.length en dn T := by
  rcases encTree_cases (ops := ops) ws with ⟨T, _, hT, _, hn, hmax, _⟩ | ⟨f, he, _⟩
  · obtain ⟨en', dn, he, hd, B⟩ := built_of_tree hn hmax hT
    cases h.symm.trans he
    exact ⟨dn, T, hd, hT, B⟩
  · rw [h] at he; cases he

theorem built_of_dec {ws : List α} {dn : List (Nat × Nat)} (h : decTree ops ws = .ok dn)
    (hmax : ws.length ≤ usizeMax / 4) :
    ∃ en T, encTree ops ws = .ok en ∧ huffTree ops ws = some T ∧ Built ws.length en dn T := by
  rcases decTree_cases (ops := ops) ws with ⟨T, _, hT, _, hn, _⟩ | ⟨f, hd, _⟩
  · obtain ⟨en, dn', he, hd, B⟩ := built_of_tree hn hmax hT
    cases h.symm.trans hd
    exact ⟨en, T, he, hT, B⟩
  · rw [h] at hd; cases hd

theorem built_of_both {ws : List α} {en : List Nat} {dn : List (Nat × Nat)}
    (hen : encTree ops ws = .ok en) (hdn : decTree ops ws = .ok dn) :
    ∃ T, huffTree ops ws = some T ∧ Built ws.length en dn T := by
  obtain ⟨dn', T, hd, hT, B⟩ := built_of_enc hen
  cases hdn.symm.trans hd
  exact ⟨T, hT, B⟩

end

section
variable {n : Nat} {en : List Nat} {dn : List (Nat × Nat)} {T : Tree}

theorem Built.nodup (B : Built n en dn T) : T.leaves.Nodup :=
  B.leaves.nodup_iff.mpr List.nodup_range

theorem Built.mem_leaves (B : Built n en dn T) {s : Nat} : s ∈ T.leaves ↔ s < n :=
  B.leaves.mem_iff.trans List.mem_range

theorem Built.height_lt (B : Built n en dn T) : T.height + 1 ≤ n :=
  B.inner_len ▸ Nat.succ_le_succ (Tree.height_le_inner T)

/-- `num_symbols` as the encoder computes it -/
theorem Built.en_half (B : Built n en dn T) : en.length / 2 + 1 = n := by
  obtain ⟨m, hm⟩ : ∃ m, n = m + 1 := ⟨n - 1, (Nat.succ_pred_eq_of_pos B.n_pos).symm⟩
  rw [B.en_len, hm, Nat.mul_succ, Nat.mul_comm]
  exact congrArg (· + 1) (mul_add_div_of_lt (by decide : 1 < 2))

theorem Built.code_of_lt (B : Built n en dn T) {s : Nat} (hs : s < n) : ∃ p, T.code s = some p :=
  Tree.code_of_mem (B.mem_leaves.mpr hs)

theorem Built.code_lt (B : Built n en dn T) {s : Nat} {p} (h : T.code s = some p) : s < n :=
  B.mem_leaves.mp (Tree.mem_of_code h)

theorem Built.code_len (B : Built n en dn T) {s : Nat} {p} (h : T.code s = some p) :
    p.length + 1 ≤ n :=
  Nat.le_trans (Nat.succ_le_succ (Tree.code_length_le_height h)) B.height_lt

theorem Built.suffix (B : Built n en dn T) {s : Nat} {p} (h : T.code s = some p) :
    encodeSuffix en s = .ok p.reverse := by
  have hs : s < en.length / 2 + 1 := B.en_half ▸ B.code_lt h
  have hnot : ¬ (s > en.length / 2) := Nat.not_lt.mpr (Nat.le_of_lt_succ hs)
  -- the walk from the root stops at once, with `k + 1` units of fuel to spare
  have hlt : p.length < en.length := by have := B.code_len h; have := B.en_len; omega
  obtain ⟨k, hk⟩ := Nat.exists_eq_add_of_lt hlt
  rw [Nat.add_assoc, Nat.add_comm] at hk
  have hroot := suffixWalk_root B.root0 k
  have hin : ∀ i ∈ T.inner, 0 < i := fun i hi =>
    Nat.lt_of_lt_of_le B.n_pos (B.inner_ge i hi).1
  rw [encodeSuffix, if_neg hnot, hk, walk_up h B.encDesc hin (k + 1) [] hroot, List.append_nil]

theorem Built.prefix (B : Built n en dn T) {s : Nat} {p} (h : T.code s = some p) :
    encodePrefix en s = .ok p := by
  rw [encodePrefix, B.suffix h]
  simp only [stackWriteAll_eq, List.reverse_reverse, List.append_nil]

theorem Built.suffix_reject (B : Built n en dn T) {s : Nat} (hs : n ≤ s) :
    encodeSuffix en s = .error .impossible := by
  have hs' : en.length / 2 + 1 ≤ s := B.en_half ▸ hs
  have : s > en.length / 2 := hs'
  rw [encodeSuffix, if_pos this]

theorem Built.prefix_reject (B : Built n en dn T) {s : Nat} (hs : n ≤ s) :
    encodePrefix en s = .error .impossible := by
  rw [encodePrefix, B.suffix_reject hs]

theorem Built.code_of_prefix (B : Built n en dn T) {s : Nat} {w} (h : encodePrefix en s = .ok w) :
    T.code s = some w := by
  by_cases hs : s < n
  · obtain ⟨p, hp⟩ := B.code_of_lt hs
    cases (B.prefix hp).symm.trans h
    exact hp
  · rw [B.prefix_reject (Nat.le_of_not_lt hs)] at h; cases h

theorem Built.accepts (B : Built n en dn T) {s : Nat} (hs : s < n) :
    ∃ w, encodePrefix en s = .ok w ∧ encodeSuffix en s = .ok w.reverse := by
  obtain ⟨p, hp⟩ := B.code_of_lt hs
  exact ⟨p, B.prefix hp, B.suffix hp⟩

theorem Built.rejects (B : Built n en dn T) {s : Nat} (hs : n ≤ s) :
    encodeSuffix en s = .error .impossible ∧ encodePrefix en s = .error .impossible :=
  ⟨B.suffix_reject hs, B.prefix_reject hs⟩

theorem Built.decode_start (B : Built n en dn T) (src : List (Option Bool)) :
    CV.Huff.decode dn src = decodeLoop dn n T.rootId src := by
  have hdl := B.dn_len
  have hn : n < 2^62 := Nat.lt_of_le_of_lt B.n_max usizeMax_div4
  have h1 : dn.length + 1 < 2^64 := hdl ▸ Nat.lt_trans hn (by decide)
  have h2 : 2 * dn.length < 2^64 := Nat.lt_of_le_of_lt (Nat.le_add_right _ 2)
    (show 2 * (dn.length + 1) < 2 * 2^63 from
      (Nat.mul_lt_mul_left (by decide)).mpr (hdl ▸ Nat.lt_trans hn (by decide)))
  simp only [decode, cadd_ok h1, cmul_ok h2]
  rw [B.root, ← hdl, Nat.mul_succ, Nat.add_sub_cancel]

theorem Built.dec_word (B : Built n en dn T) {s : Nat} {p} (h : T.code s = some p)
    (rest : List (Option Bool)) : CV.Huff.decode dn (p.map some ++ rest) = .ok (s, rest) := by
  rw [B.decode_start]
  exact walk_down (B.code_lt h) rest h B.decDesc

theorem Built.dec_truncated (B : Built n en dn T) {s : Nat} {p q} (h : T.code s = some (p ++ q))
    (hq : q ≠ []) : CV.Huff.decode dn (p.map some) = .error .outOfData := by
  rw [B.decode_start]
  exact walk_down_truncated h hq B.decDesc

theorem Built.decode_total {n : Nat} {en : List Nat} {dn : List (Nat × Nat)} {T : Tree}
    (B : Built n en dn T) (src : List (Option Bool)) :
    (∃ s p rest, CV.Huff.decode dn src = .ok (s, rest) ∧ s < n ∧ encodePrefix en s = .ok p ∧
        src = p.map some ++ rest) ∨
      CV.Huff.decode dn src = .error .outOfData ∨ CV.Huff.decode dn src = .error .backend := by
  rw [B.decode_start]
  exact (decodeLoop_total T B.decDesc (fun s hs => B.mem_leaves.mp hs) B.nodup src).imp_left
    fun ⟨s, p, rest, h1, h2, h3⟩ => ⟨s, p, rest, h1, B.code_lt h2, B.prefix h2, h3⟩

theorem Built.kraft (B : Built n en dn T) :
    ((List.range n).map (fun s => 2^(n - T.depth s))).sum = 2^n := by
  rw [← Tree.kraft_sum T n B.nodup (Nat.le_of_succ_le B.height_lt)]
  exact ((B.leaves.map _).sum_nat).symm

end

/-! ## vocabulary of the property statements -/

/-- the total weight fits `n` bits; otherwise a checked build panics with an overflow somewhere
in the constructor -/
def WeightsFit (n : Nat) (ws : List Nat) : Prop := ws.sum < 2^n

/-- an admissible number of symbols: the encoder constructor's own guard -/
def SizeOK {α : Type} (ws : List α) : Prop := 0 < ws.length ∧ ws.length ≤ usizeMax / 4

/-- length of the codeword `encode_symbol_prefix` emits for `s` (0 if it is rejected) -/
def wordLen (en : List Nat) (s : Nat) : Nat :=
  match encodePrefix en s with
  | .ok w => w.length
  | .error _ => 0

/-- `Σ_s weight_s · |codeword_s|`, the words being those `encode_symbol_prefix` emits from `en` -/
def codeCost (ws : List Nat) (en : List Nat) : Nat :=
  (ws.zipIdx.map (fun p => p.1 * wordLen en p.2)).sum

/-- the leaves are the symbols `0 … n-1`, each once -/
def Tree.IsCodeTree (t : Tree) (n : Nat) : Prop := t.leaves.Perm (List.range n)

/-- `Σ_s weight_s · depth_s`: the cost of reading the codewords off the tree -/
def Tree.wcost (ws : List Nat) (t : Tree) : Nat :=
  (ws.zipIdx.map (fun p => p.1 * t.depth p.2)).sum

/-- the same cost for an arbitrary assignment of bit strings to the symbols -/
def assignCost (ws : List Nat) (c : Nat → List Bool) : Nat :=
  (ws.zipIdx.map (fun p => p.1 * (c p.2).length)).sum

/-- among the symbols `0 … n-1` no codeword is a prefix of another one -/
def PrefixFree (n : Nat) (c : Nat → List Bool) : Prop :=
  ∀ s1 s2, s1 < n → s2 < n → c s1 <+: c s2 → s1 = s2

theorem checked_eq_exact {n : Nat} {ws : List Nat} (h : WeightsFit n ws) :
    encTree (checkedOps n) ws = encTree exactOps ws ∧
    decTree (checkedOps n) ws = decTree exactOps ws := by
  have hno : NoOverflow n ws.zipIdx := by
    rw [NoOverflow, List.zipIdx_map_fst]; exact h
  obtain ⟨he, hd⟩ := loops_sim (step_checked n) ws.length _ _ ⟨rfl, hno⟩
  constructor
  · simp only [encTree, List.length_zipIdx, he]
  · simp only [decTree, List.length_zipIdx, hd]

theorem total_build {α : Type} {ops : WeightOps α} (ht : Total ops) {ws : List α}
    (hs : SizeOK ws) :
    ∃ en dn T, encTree ops ws = .ok en ∧ decTree ops ws = .ok dn ∧ huffTree ops ws = some T ∧
      Built ws.length en dn T := by
  obtain ⟨T, hT⟩ := treeLoop_total ht _ _ ws.length List.length_zipIdx.symm hs.1
  obtain ⟨en, dn, he, hd, B⟩ := built_of_tree (ops := ops) hs.1 hs.2 hT
  exact ⟨en, dn, T, he, hd, hT, B⟩

theorem Built.wordLen_eq {n : Nat} {en : List Nat} {dn : List (Nat × Nat)} {T : Tree}
    (B : Built n en dn T) {s : Nat} (hs : s < n) : wordLen en s = T.depth s := by
  obtain ⟨p, hp⟩ := B.code_of_lt hs
  rw [wordLen, B.prefix hp, Tree.depth_of_code hp]

end CV.Huff
