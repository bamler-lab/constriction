import CV.Proofs.RangeSpecProps
import CV.Proofs.RangeDec
/-!
# The decoder follows the reference coder

`DRel c st ws d`: the decoder `d` over the buffer `ws` is *the* decoder state that belongs to
the reference state `st`: `lower = Lo mod 2^S`, `range = R`, `point` = the stream truncated to
the scale of `st` (mod `2^S`), cursor right behind that window (or at the end of the data).
`decode_symbol` moves from the decoder of `st` to the decoder of the next reference state
(`dec_step`); `from_compressed` and `seek` construct such decoders (`fromCompressed_eq`, `seek_eq`,
through `readPoint_eq`); `maybe_exhausted` reads off how far the stream is from `Lo`.
-/
namespace CV.Range
variable {c : Cfg} {Sym : Type}
open RangeSpec (St step run)

structure DRel (c : Cfg) (st : St) (ws : List Nat) (d : Decoder) : Prop where
  data : d.data = ws
  lower : d.lower = st.Lo % 2^c.S
  range : d.range = st.R
  point : d.point = pre c.W ws (st.m + nW c) % 2^c.S
  pos : d.pos = min (st.m + nW c) ws.length

theorem DRel.reg {st : St} {ws : List Nat} {d : Decoder} (h : DRel c st ws d)
    (hI : SpecInv c st) (hw : WordsOK c ws) : DReg c d := by
  have hT := Nat.two_pow_pos c.S
  refine ⟨?_, ?_, ?_, ?_, ?_⟩
  · rw [h.lower]; exact Nat.mod_lt _ hT
  · rw [h.range]; exact hI.1
  · rw [h.range]; exact hI.2.1
  · rw [h.point]; exact Nat.mod_lt _ hT
  · rw [h.data]; exact hw

theorem DRel.congr {c c' : Cfg} {st : St} {ws : List Nat} {d : Decoder} (h : DRel c st ws d)
    (hW : c'.W = c.W) (hS : c'.S = c.S) : DRel c' st ws d := by
  obtain ⟨W, S, _, _⟩ := c
  obtain ⟨W', S', _, _⟩ := c'
  dsimp only at hW hS
  subst hW hS
  exact ⟨h.data, h.lower, h.range, h.point, h.pos⟩

/-- `point ⊖ lower` is the true distance of the stream from `Lo` -/
theorem DRel.diff {st : St} {ws : List Nat} {d : Decoder} (h : DRel c st ws d)
    (hI : SpecInv c st) (hc : Contains c st ws) :
    wsub c.S d.point d.lower = pre c.W ws (st.m + nW c) - st.Lo := by
  obtain ⟨h1, h2⟩ := hc
  rw [h.point, h.lower]
  apply wsub_unique (Nat.mod_lt _ (Nat.two_pow_pos c.S))
  · have := hI.2.1; omega
  · rw [Nat.mod_add_mod, Nat.add_sub_cancel' h1]

theorem getD_min (ws : List Nat) (k : Nat) : ws.getD (min k ws.length) 0 = ws.getD k 0 := by
  rcases Nat.lt_or_ge k ws.length with h | h
  · rw [Nat.min_eq_left (Nat.le_of_lt h)]
  · rw [Nat.min_eq_right h, getD_of_length_le _ _ (Nat.le_refl _), getD_of_length_le _ _ h]

theorem dec_step (hc : RValid c) {m : Model Sym} (hm : m.WellFormed c.P)
    {s : Sym} {cum p : Nat} (henc : m.enc s = some (cum, p))
    {st : St} (hI : SpecInv c st) {ws : List Nat} (hw : WordsOK c ws)
    (hcont : Contains c (step c.W c.S st c.P cum p) ws)
    {d : Decoder} (hrel : DRel c st ws d) :
    ∃ d', decode c m d = .ok (s, d') ∧ DRel c (step c.W c.S st c.P cum p) ws d' := by
  obtain ⟨hp, hcp, _, hdecq⟩ := hm.1 s cum p henc
  have hs := scale_pos hc hI.1
  obtain ⟨hb1, hb2⟩ := step_back hw hcont
  -- the quantile falls into the symbol's interval
  have hq : quantileOf c d = (pre c.W ws (st.m + nW c) - st.Lo) / (st.R / 2^c.P) := by
    unfold quantileOf
    rw [hrel.diff hI (contains_of_step hc hI hp hcp hw hcont), hrel.range]
  have hq1 : cum ≤ quantileOf c d := by
    rw [hq, Nat.le_div_iff_mul_le hs, Nat.mul_comm]
    exact Nat.le_sub_of_add_le' hb1
  have hq2 : quantileOf c d < cum + p := by
    rw [hq, Nat.div_lt_iff_lt_mul hs, Nat.mul_comm, Nat.mul_add]
    exact Nat.sub_lt_left_of_lt_add (Nat.le_trans (Nat.le_add_right _ _) hb1)
      (by rwa [Nat.add_assoc] at hb2)
  have hcp' : ¬ quantileOf c d ≥ 2^c.P := Nat.not_le.mpr (Nat.lt_of_lt_of_le hq2 hcp)
  rw [decode_eq_pure hc hm (hrel.reg hI hw), if_neg hcp']
  unfold decPure
  rw [hdecq _ hq1 hq2]
  refine ⟨_, rfl, ?_⟩
  have hlow1 : (d.lower + st.R / 2^c.P * cum) % 2^c.S
      = (st.Lo + st.R / 2^c.P * cum) % 2^c.S := by
    rw [hrel.lower, Nat.mod_add_mod]
  unfold decNext step
  rw [hrel.range]
  dsimp only
  split
  · refine ⟨hrel.data, ?_, rfl, ?_, ?_⟩ <;> dsimp only
    · rw [hlow1, Nat.mod_mul_mod]
    · -- the next word of the zero-padded stream is shifted in
      have hwd := hw.getD (st.m + nW c)
      rw [Nat.add_right_comm st.m 1 (nW c), pre, hrel.point, hrel.data, hrel.pos,
        getD_min, Nat.mod_mul_mod, ← Nat.mod_add_mod]
      exact (Nat.mod_eq_of_lt (shifted_add_lt hc _ _ hwd)).symm
    · rw [hrel.data, hrel.pos]
      rcases Nat.lt_or_ge (st.m + nW c) ws.length with h | h
      · rw [Nat.min_eq_left (Nat.le_of_lt h), if_pos h, Nat.add_right_comm st.m 1,
          Nat.min_eq_left (Nat.succ_le_of_lt h)]
      · rw [Nat.min_eq_right h, if_neg (Nat.lt_irrefl _), Nat.add_right_comm st.m 1,
          Nat.min_eq_right (Nat.le_succ_of_le h)]
  · exact ⟨hrel.data, hlow1, rfl, hrel.point, hrel.pos⟩

/-! ### `read_point`, `from_compressed`, `seek` -/

theorem readPointLoop_eq (hc : RValid c) (rest : List Nat) : ∀ (n pt : Nat),
    WordsOK c rest → n < nW c → pt < (2^c.W)^n →
    readPointLoop c rest n pt =
      .ok (n + (rest.take (nW c - n)).length, valAux c.W pt (rest.take (nW c - n))) := by
  induction rest with
  | nil => intro n pt _ _ _; rw [List.take_nil]; rfl
  | cons w rest ih =>
    intro n pt hw hn hpt
    have hwlt : w < 2^c.W := hw w List.mem_cons_self
    -- `pt·2^W + w` is below `(2^W)^(n+1) ≤ 2^S`: the shift loses nothing and `|` is `+`
    have h1 : (pt + 1) * 2^c.W ≤ (2^c.W)^n * 2^c.W := Nat.mul_le_mul_right _ hpt
    have h2 : (2^c.W)^(n + 1) ≤ 2^c.S := by
      rw [← hc.pow_nW]; exact Nat.pow_le_pow_right (Nat.two_pow_pos _) hn
    rw [Nat.add_mul, Nat.one_mul] at h1
    rw [Nat.pow_succ] at h2
    have hor : pt * 2^c.W % 2^c.S ||| w = pt * 2^c.W + w := by
      rw [shifted_or hc _ _ hwlt, Nat.mod_eq_of_lt (Nat.lt_of_lt_of_le
        (Nat.lt_of_lt_of_le (Nat.lt_add_of_pos_right (Nat.two_pow_pos _)) h1) h2)]
    unfold readPointLoop
    rw [hc.shl_W]
    dsimp only
    rw [hor, show c.S / c.W = nW c from rfl, show nW c - n = nW c - (n + 1) + 1 by omega,
      List.take_succ_cons, List.length_cons, valAux_cons, ← Nat.add_assoc, Nat.add_right_comm n]
    by_cases hlast : n + 1 = nW c
    · rw [if_pos hlast, hlast, Nat.sub_self]; rfl
    · rw [if_neg hlast]
      exact ih (n + 1) _ (fun x hx => hw x (List.mem_cons_of_mem _ hx))
        (Nat.lt_of_le_of_ne hn hlast)
        (by rw [Nat.pow_succ]; exact Nat.lt_of_lt_of_le (Nat.add_lt_add_left hwlt _) h1)

theorem pre_window_lt (hc : RValid c) {ws : List Nat} (hw : WordsOK c ws) :
    pre c.W ws (nW c) < 2^c.S := by
  rw [← hc.pow_nW]; exact pre_lt hw _

theorem readPoint_eq (hc : RValid c) {data : List Nat} (hw : WordsOK c data)
    (pos : Nat) :
    readPoint c data pos =
      .ok (pre c.W (data.drop pos) (nW c), pos + min (nW c) (data.length - pos)) := by
  have hN := hc.two_le_nW
  have hrest := hw.drop pos
  unfold readPoint
  rw [readPointLoop_eq hc _ 0 0 hrest (Nat.lt_of_lt_of_le Nat.two_pos hN)
    (Nat.pow_pos (Nat.two_pow_pos _))]
  simp only [Nat.zero_add, Nat.sub_zero, List.length_take, List.length_drop]
  rw [show c.S / c.W = nW c from rfl, show valAux c.W 0 _ = val c.W _ from rfl]
  by_cases hfull : nW c ≤ data.length - pos
  · simp only [Nat.min_eq_left hfull, Nat.lt_irrefl, if_false]
    rw [pre_eq_val_take _ _ _ (by rw [List.length_drop]; exact hfull)]
  · have hlt : data.length - pos < nW c := Nat.lt_of_not_le hfull
    have hlen : (data.drop pos).length ≤ nW c := by rw [List.length_drop]; exact Nat.le_of_lt hlt
    simp only [Nat.min_eq_right (Nat.le_of_lt hlt), hlt, if_true, List.take_of_length_le hlen]
    -- what was read is padded with zero words
    have hpad : pre c.W (data.drop pos) (nW c)
        = val c.W (data.drop pos) * (2^c.W)^(nW c - (data.length - pos)) := by
      have h := pre_pad c.W (data.drop pos) (data.length - pos)
        (fun j hj => getD_of_length_le _ _ (by rw [List.length_drop]; exact hj))
        (nW c - (data.length - pos))
      rwa [Nat.add_sub_cancel' (Nat.le_of_lt hlt), ← List.length_drop, pre_length,
        List.length_drop] at h
    by_cases hz : data.length - pos = 0
    · simp only [hz, ne_eq, not_true_eq_false, if_false]
      have hnil : data.drop pos = [] :=
        List.eq_nil_of_length_eq_zero (by rw [List.length_drop]; exact hz)
      rw [hpad, hnil, val_nil, Nat.zero_mul]
    · have hle : (data.length - pos) * c.W ≤ c.S := by
        rw [hc.S_eq]; exact Nat.mul_le_mul_right _ (Nat.le_of_lt hlt)
      have hpos : 0 < (data.length - pos) * c.W := Nat.mul_pos (Nat.pos_of_ne_zero hz) hc.W_pos
      have hpow : 2^(c.S - (data.length - pos) * c.W) = (2^c.W)^(nW c - (data.length - pos)) := by
        rw [← Nat.pow_mul, Nat.mul_sub, Nat.mul_comm c.W (nW c), ← hc.S_eq, Nat.mul_comm]
      simp only [hz, ne_eq, not_false_eq_true, if_true, csub_ok hle,
        shl_ok (Nat.sub_lt (Nat.lt_of_lt_of_le hpos hle) hpos), Nat.shiftLeft_eq, hpow,
        ← hpad, Nat.mod_eq_of_lt (pre_window_lt hc hrest)]

/-- the stream at scale `m`, modulo `2^S`, is the window of `S/W` words starting at `m` -/
theorem pre_mod_window (hc : RValid c) {ws : List Nat} (hw : WordsOK c ws) (m : Nat) :
    pre c.W ws (m + nW c) % 2^c.S = pre c.W (ws.drop m) (nW c) := by
  rw [pre_drop, hc.pow_nW, Nat.mul_comm, Nat.mul_add_mod]
  exact Nat.mod_eq_of_lt (pre_window_lt hc (hw.drop m))

/-- seeking to `(st.m, Lo mod 2^S, R)` yields the decoder of `st`, whatever the decoder was before -/
theorem seek_eq (hc : RValid c) {ws : List Nat} (hw : WordsOK c ws) {d : Decoder}
    (hd : d.data = ws) {st : St} (hpos : st.m ≤ ws.length) {lower : Nat}
    (hl : lower = st.Lo % 2^c.S) :
    ∃ d', d.seek c st.m lower st.R = .ok d' ∧ DRel c st ws d' := by
  unfold Decoder.seek
  rw [hd, if_neg (Nat.not_lt.mpr hpos), readPoint_eq hc hw st.m]
  refine ⟨_, rfl, ⟨rfl, hl, rfl, ?_, ?_⟩⟩ <;> dsimp only
  · rw [pre_mod_window hc hw]
  · rw [← Nat.add_min_add_left, Nat.add_sub_cancel' hpos]

theorem seek_no_fault (hc : RValid c) {d : Decoder} (hw : WordsOK c d.data)
    (pos lower range : Nat) :
    (∃ d', d.seek c pos lower range = .ok d') ∨ d.seek c pos lower range = .error .rejected := by
  unfold Decoder.seek
  split
  · exact .inr rfl
  · rw [readPoint_eq hc hw pos]; exact .inl ⟨_, rfl⟩

theorem fromCompressed_eq (hc : RValid c) {ws : List Nat} (hw : WordsOK c ws) :
    ∃ d, Decoder.fromCompressed c ws = .ok d ∧ DRel c (RangeSpec.init c.S) ws d := by
  unfold Decoder.fromCompressed
  rw [readPoint_eq hc hw 0]
  refine ⟨_, rfl, ⟨rfl, (Nat.zero_mod _).symm, rfl, ?_, ?_⟩⟩ <;>
    simp only [RangeSpec.init, Nat.zero_add, List.drop_zero, Nat.sub_zero]
  exact (Nat.mod_eq_of_lt (pre_window_lt hc hw)).symm

theorem fromCompressed_total (hc : RValid c) {ws : List Nat} (hw : WordsOK c ws) :
    ∃ d, Decoder.fromCompressed c ws = .ok d ∧ DReg c d := by
  obtain ⟨d, hd, hrel⟩ := fromCompressed_eq hc hw
  exact ⟨d, hd, hrel.reg (specInv_init hc) hw⟩

/-! ### `maybe_exhausted` -/

/-- `max_difference` of `maybe_exhausted`: `(1 << (S-W) << 1).wrapping_sub(1)` -/
def maxDiff (c : Cfg) : Nat := wsub c.S ((2^(c.S - c.W) * 2) % 2^c.S) 1

theorem maxDiff_ge (hc : RValid c) : 2^(c.S - c.W) ≤ maxDiff c := by
  have hU := Nat.two_pow_pos (c.S - c.W)
  have h2U : 2^(c.S - c.W) * 2 ≤ 2^c.S := by
    rw [hc.pow_S]; exact Nat.mul_le_mul_left _ hc.two_le_pow_W
  unfold maxDiff
  rcases Nat.eq_or_lt_of_le h2U with h | h
  · -- `W = 1`: the doubled threshold wraps to `0`
    rw [h, Nat.mod_self, wsub_of_lt Nat.one_pos hc.one_lt_pow_S, Nat.zero_add]
    exact Nat.le_sub_one_of_lt hc.pow_SW_lt
  · rw [Nat.mod_eq_of_lt h, wsub_of_le (Nat.mul_pos hU Nat.two_pos) h]
    omega

theorem maybeExhausted_eq (hc : RValid c) (d : Decoder) :
    d.maybeExhausted c = .ok (decide (d.data.length ≤ d.pos) &&
      (d.range == maxState c || decide (wsub c.S d.point d.lower < maxDiff c))) := by
  have hWS := hc.W_lt_S
  have hW := hc.W_pos
  unfold Decoder.maybeExhausted maxDiff
  simp only [hc.shl_thr, shl_ok (show 1 < c.S by omega), Nat.shiftLeft_eq, Nat.pow_one]

/-- all data consumed and the stream within `2^(S-W)` of `Lo`: exhaustion is reported -/
theorem exhausted_of_rel (hc : RValid c) {st : St} {ws : List Nat} {d : Decoder}
    (hrel : DRel c st ws d) (hI : SpecInv c st) (hcont : Contains c st ws)
    (hnear : pre c.W ws (st.m + nW c) - st.Lo < 2^(c.S - c.W))
    (hlen : ws.length ≤ st.m + nW c) : d.maybeExhausted c = .ok true := by
  have h1 : d.data.length ≤ d.pos := by rw [hrel.data, hrel.pos]; omega
  have h2 : wsub c.S d.point d.lower < maxDiff c := by
    rw [hrel.diff hI hcont]
    exact Nat.lt_of_lt_of_le hnear (maxDiff_ge hc)
  rw [maybeExhausted_eq hc, decide_eq_true h1, decide_eq_true h2, Bool.or_true, Bool.and_true]

theorem exhausted_init (hc : RValid c) {d : Decoder}
    (hrel : DRel c (RangeSpec.init c.S) [] d) : d.maybeExhausted c = .ok true := by
  have hpre : pre c.W [] (0 + nW c) = 0 := pre_of_getD_zero c.W (fun _ => rfl) _
  have := hc.one_lt_pow_S
  apply exhausted_of_rel hc hrel (specInv_init hc)
  · unfold Contains
    simp only [RangeSpec.init, hpre]; omega
  · simp only [RangeSpec.init, hpre]; exact Nat.two_pow_pos _
  · exact Nat.zero_le _

end CV.Range
