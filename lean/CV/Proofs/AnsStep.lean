import CV.Model.Ans
import CV.Proofs.Arith
/-!
# ANS coder: one step

`encode_symbol` is *flush, then push*; `decode_symbol` is *pop, then refill*.  `push`/`pop` are the
rANS bijection between the interval `[p·2^(S-W-P), p·2^(S-P))` of a symbol of probability `p` and
the normalised states `[2^(S-W), 2^S)`; flush/refill move one word between state and bulk and are
a bijection between the coders satisfying `Inv` and those satisfying `Norm p`.  That each step
keeps the invariant, and that the two steps are mutually inverse, are compositions of these.
-/
namespace CV.Ans
open CV

/-- the rANS state update for a symbol owning `[cum, cum + p)` at scale `M = 2^P` -/
def push (M cum p s : Nat) : Nat := s / p * M + (cum + s % p)

def pop (M cum p y : Nat) : Nat := y / M * p + (y % M - cum)

section
variable {M cum p s y K : Nat}

theorem push_mod (hp : 0 < p) (hM : cum + p ≤ M) : push M cum p s % M = cum + s % p :=
  mul_add_mod_of_lt (by have := Nat.mod_lt s hp; omega)

theorem push_div (hp : 0 < p) (hM : cum + p ≤ M) : push M cum p s / M = s / p :=
  mul_add_div_of_lt (by have := Nat.mod_lt s hp; omega)

theorem pop_push (hp : 0 < p) (hM : cum + p ≤ M) : pop M cum p (push M cum p s) = s := by
  unfold pop
  rw [push_mod hp hM, push_div hp hM, Nat.add_sub_cancel_left]
  exact div_mul_add_mod s p

theorem push_pop (h1 : cum ≤ y % M) (h2 : y % M < cum + p) : push M cum p (pop M cum p y) = y := by
  have hr : y % M - cum < p := by omega
  unfold push pop
  rw [mul_add_div_of_lt hr, mul_add_mod_of_lt hr, Nat.add_sub_cancel' h1]
  exact div_mul_add_mod y M

theorem push_lt (hp : 0 < p) (hM : cum + p ≤ M) (h : s < p * K) : push M cum p s < K * M :=
  mul_add_lt_mul (Nat.div_lt_of_lt_mul h) (by have := Nat.mod_lt s hp; omega)

theorem le_push (hp : 0 < p) (h : p * K ≤ s) : K * M ≤ push M cum p s :=
  Nat.le_add_right_of_le
    (Nat.mul_le_mul_right M ((Nat.le_div_iff_mul_le hp).2 (Nat.mul_comm p K ▸ h)))

theorem pop_lt (h1 : cum ≤ y % M) (h2 : y % M < cum + p) (h : y < M * K) :
    pop M cum p y < p * K :=
  Nat.mul_comm K p ▸ mul_add_lt_mul (Nat.div_lt_of_lt_mul h) (by omega)

theorem le_pop (hM : 0 < M) (h : K * M ≤ y) : p * K ≤ pop M cum p y :=
  Nat.le_add_right_of_le
    (Nat.mul_comm K p ▸ Nat.mul_le_mul_right p ((Nat.le_div_iff_mul_le hM).2 h))

end

def CPok (P cum p : Nat) : Prop := 0 < p ∧ cum + p ≤ 2^P ∧ p < 2^P

theorem _root_.CV.Model.WellFormed.cpok {Sym : Type} {m : Model Sym} {P : Nat} (hm : m.WellFormed P)
    {s : Sym} {cum p : Nat} (h : m.enc s = some (cum, p)) : CPok P cum p :=
  let ⟨h1, h2, h3, _⟩ := hm.1 _ _ _ h
  ⟨h1, h2, h3⟩

variable {c : Cfg} {x z : Coder} {cum p : Nat}

theorem Coder.ext3 {a b : Coder} (h1 : a.bulk = b.bulk) (h2 : a.state = b.state)
    (h3 : a.cap = b.cap) : a = b := by
  cases a; cases b; simp_all

theorem Inv.congr {c c' : Cfg} (hW : c.W = c'.W) (hS : c.S = c'.S) (h : Inv c x) : Inv c' x := by
  unfold Inv at h ⊢; rw [← hW, ← hS]; exact h

/-- `Inv` reads only `W` and `S` (`Inv.congr`).  The property files state it for a history either
    at this configuration (C01 `run_refines_stack`, C06, C12, C18) or as
    `∀ c, c.W = W → c.S = S → Inv c x` (C01 `replay_inv`, C04, C10); `.congr rfl rfl` converts. -/
theorem valid_base {W S : Nat} (hWS : 1 ≤ W ∧ 2 * W ≤ S) :
    ({ W := W, S := S, P := 1, B := 1 } : Cfg).Valid :=
  ⟨Nat.le_refl 1, Nat.le_refl 1, hWS.1, hWS.2⟩

theorem Inv.bulk_nil (hx : Inv c x) (h : x.state < 2^(c.S - c.W)) : x.bulk = [] :=
  Decidable.by_contra fun hne => Nat.lt_irrefl _ (Nat.lt_of_lt_of_le h (hx.2.2 hne))

theorem inv_empty (c : Cfg) : Inv c Ans.empty :=
  ⟨Nat.two_pow_pos _, fun _ h => absurd h List.not_mem_nil, fun h => absurd rfl h⟩

/-- `state >> (S - P) ≥ p` -/
def flushCond (c : Cfg) (x : Coder) (p : Nat) : Prop := p * 2^(c.S - c.P) ≤ x.state

instance (c : Cfg) (x : Coder) (p : Nat) : Decidable (flushCond c x p) := by
  unfold flushCond; exact inferInstance

def afterFlush (c : Cfg) (x : Coder) (p : Nat) : Coder :=
  if flushCond c x p then
    { x with bulk := x.state % 2^c.W :: x.bulk, state := x.state / 2^c.W }
  else x

/-- the refill at the end of `decode_symbol` -/
def refill (c : Cfg) (z : Coder) : Coder :=
  if z.state < 2^(c.S - c.W) then
    match z.bulk with
    | w :: rest => { z with bulk := rest, state := z.state * 2^c.W + w }
    | [] => z
  else z

def encArith (c : Cfg) (x : Coder) (cum p : Nat) : Coder :=
  let y := afterFlush c x p
  { y with state := (y.state / p) * 2^c.P + (cum + y.state % p) }

def decArith {Sym : Type} (c : Cfg) (m : Model Sym) (x : Coder) : Sym × Coder :=
  let q := x.state % 2^c.P
  let r := m.dec q
  let st := (x.state / 2^c.P) * r.2.2 + (q - r.2.1)
  (r.1,
    if st < 2^(c.S - c.W) then
      match x.bulk with
      | w :: rest => { x with bulk := rest, state := st * 2^c.W + w }
      | [] => { x with state := st }
    else { x with state := st })

theorem encArith_eq (c : Cfg) (x : Coder) (cum p : Nat) :
    encArith c x cum p =
      { afterFlush c x p with state := push (2^c.P) cum p (afterFlush c x p).state } := rfl

theorem decArith_eq {Sym : Type} {m : Model Sym} {s : Sym}
    (h : m.dec (x.state % 2^c.P) = (s, cum, p)) :
    decArith c m x = (s, refill c { x with state := pop (2^c.P) cum p x.state }) := by
  simp only [decArith, h]; rfl

theorem cap_afterFlush (c : Cfg) (x : Coder) (p : Nat) : (afterFlush c x p).cap = x.cap := by
  unfold afterFlush; split <;> rfl

/-- the states from which `push` for a symbol of probability `p` lands in `Inv` -/
def Norm (c : Cfg) (p : Nat) (z : Coder) : Prop :=
  z.state < p * 2^(c.S - c.P) ∧ (∀ w ∈ z.bulk, w < 2^c.W) ∧
    (z.bulk ≠ [] → p * 2^(c.S - c.W - c.P) ≤ z.state)

/-! More of what `Cfg.Valid` gives (continuing the section of `Proofs/Arith.lean`): the powers of
two that the step lemmas compare, named by what is split off:
`2^S = 2^(S-P)·2^P = 2^(S-W)·2^W`, `2^(S-P) = 2^(S-W-P)·2^W`, `2^(S-W) = 2^(S-W-P)·2^P`. -/

theorem _root_.CV.Cfg.Valid.pow_S_P (hc : c.Valid) : (2:Nat)^c.S = 2^(c.S - c.P) * 2^c.P :=
  pow_split (Nat.le_of_lt hc.P_lt_S)

theorem _root_.CV.Cfg.Valid.pow_S_W (hc : c.Valid) : (2:Nat)^c.S = 2^(c.S - c.W) * 2^c.W :=
  pow_split hc.W_le_S

theorem _root_.CV.Cfg.Valid.pow_SP_W (hc : c.Valid) :
    (2:Nat)^(c.S - c.P) = 2^(c.S - c.W - c.P) * 2^c.W :=
  Nat.sub_right_comm .. ▸ pow_split (Nat.le_sub_of_add_le hc.W_add_P_le_S)

theorem _root_.CV.Cfg.Valid.pow_SW_P (hc : c.Valid) :
    (2:Nat)^(c.S - c.W) = 2^(c.S - c.W - c.P) * 2^c.P :=
  pow_split (Nat.le_sub_of_add_le (Nat.add_comm .. ▸ hc.W_add_P_le_S))

theorem Norm.state_lt (hz : Norm c p z) (hc : c.Valid) (hp1 : p ≤ 2^c.P) : z.state < 2^c.S :=
  Nat.lt_of_lt_of_le hz.1 (hc.pow_S_P ▸ Nat.mul_comm _ _ ▸ Nat.mul_le_mul_left _ hp1)

theorem flush_norm (hc : c.Valid) (hx : Inv c x) (hp : 0 < p) (hp1 : p ≤ 2^c.P) :
    Norm c p (afterFlush c x p) := by
  obtain ⟨hs, hb, hne⟩ := hx
  unfold afterFlush
  by_cases hf : flushCond c x p
  · rw [if_pos hf]
    refine ⟨?_, ?_, fun _ => ?_⟩
    · -- one word less than `2^S`, which is below every symbol's interval end
      have h1 : x.state / 2^c.W < 2^(c.S - c.W) :=
        Nat.div_lt_of_lt_mul (Nat.mul_comm _ _ ▸ hc.pow_S_W ▸ hs)
      have h2 : 2^(c.S - c.W) ≤ 2^(c.S - c.P) := pow_le_pow2 (Nat.sub_le_sub_left hc.P_le_W _)
      exact Nat.lt_of_lt_of_le h1 (Nat.le_trans h2 (Nat.le_mul_of_pos_left _ hp))
    · intro w hw
      rcases List.mem_cons.mp hw with h | h
      · exact h ▸ Nat.mod_lt _ (Nat.two_pow_pos _)
      · exact hb w h
    · rw [flushCond, hc.pow_SP_W, ← Nat.mul_assoc] at hf
      exact (Nat.le_div_iff_mul_le (Nat.two_pow_pos _)).2 hf
  · rw [if_neg hf]
    refine ⟨Nat.lt_of_not_le hf, hb, fun h => ?_⟩
    have := Nat.mul_le_mul_left (2^(c.S - c.W - c.P)) hp1
    rw [← hc.pow_SW_P, Nat.mul_comm] at this
    exact Nat.le_trans this (hne h)

theorem refill_flush (hc : c.Valid) (hx : Inv c x) (p : Nat) : refill c (afterFlush c x p) = x := by
  unfold afterFlush refill
  by_cases hf : flushCond c x p
  · have h1 : x.state / 2^c.W < 2^(c.S - c.W) :=
      Nat.div_lt_of_lt_mul (Nat.mul_comm _ _ ▸ hc.pow_S_W ▸ hx.1)
    simp only [if_pos hf, if_pos h1]
    exact Coder.ext3 rfl (div_mul_add_mod _ _) rfl
  · simp only [if_neg hf]
    split
    · next h => rw [hx.bulk_nil h]
    · rfl

theorem flush_refill (hc : c.Valid) (hz : Norm c p z) : afterFlush c (refill c z) p = z := by
  obtain ⟨hs, hb, hne⟩ := hz
  have hnf : ¬ flushCond c z p := Nat.not_le_of_lt hs
  unfold refill
  split
  · cases hbulk : z.bulk with
    | nil => simp only [afterFlush, if_neg hnf]
    | cons w rest =>
      have hw : w < 2^c.W := hb w (hbulk ▸ List.mem_cons_self)
      have hf : flushCond c { z with bulk := rest, state := z.state * 2^c.W + w } p := by
        have := Nat.mul_le_mul_right (2^c.W) (hne (hbulk ▸ List.cons_ne_nil _ _))
        rw [Nat.mul_assoc, ← hc.pow_SP_W] at this
        exact Nat.le_add_right_of_le this
      simp only [afterFlush, if_pos hf, mul_add_mod_of_lt hw, mul_add_div_of_lt hw]
      exact Coder.ext3 hbulk.symm rfl rfl
  · simp only [afterFlush, if_neg hnf]

theorem refill_inv (hc : c.Valid) (hz : Norm c p z) (hp : 0 < p) (hp1 : p ≤ 2^c.P) :
    Inv c (refill c z) := by
  have hS := hz.state_lt hc hp1
  obtain ⟨hs, hb, hne⟩ := hz
  unfold refill
  split
  · next hlt =>
    cases hbulk : z.bulk with
    | nil => exact ⟨hS, fun w hw => hb w hw, fun h => absurd hbulk h⟩
    | cons w rest =>
      have hw : w < 2^c.W := hb w (hbulk ▸ List.mem_cons_self)
      refine ⟨hc.pow_S_W ▸ mul_add_lt_mul hlt hw, fun w' hw' => hb w' (hbulk ▸ List.mem_cons_of_mem _ hw'),
        fun _ => ?_⟩
      -- `z.state ≥ p·2^(S-W-P) ≥ 2^(S-W-P)`, so a word more is at least `2^(S-P) ≥ 2^(S-W)`
      have h1 : 2^(c.S - c.W - c.P) ≤ z.state :=
        Nat.le_trans (Nat.le_mul_of_pos_left _ hp) (hne (hbulk ▸ List.cons_ne_nil _ _))
      have h2 := Nat.mul_le_mul_right (2^c.W) h1
      rw [← hc.pow_SP_W] at h2
      have h3 : 2^(c.S - c.W) ≤ 2^(c.S - c.P) := pow_le_pow2 (Nat.sub_le_sub_left hc.P_le_W _)
      exact Nat.le_trans h3 (Nat.le_add_right_of_le h2)
  · next hge => exact ⟨hS, hb, fun _ => Nat.le_of_not_lt hge⟩

theorem push_inv (hc : c.Valid) (hz : Norm c p z) (hcp : CPok c.P cum p) :
    Inv c { z with state := push (2^c.P) cum p z.state } :=
  ⟨hc.pow_S_P ▸ push_lt hcp.1 hcp.2.1 hz.1, hz.2.1,
    fun h => hc.pow_SW_P ▸ le_push hcp.1 (hz.2.2 h)⟩

theorem pop_norm (hc : c.Valid) (hx : Inv c x) (h1 : cum ≤ x.state % 2^c.P)
    (h2 : x.state % 2^c.P < cum + p) : Norm c p { x with state := pop (2^c.P) cum p x.state } :=
  ⟨pop_lt h1 h2 (Nat.mul_comm _ _ ▸ hc.pow_S_P ▸ hx.1), hx.2.1,
    fun h => le_pop (Nat.two_pow_pos _) (hc.pow_SW_P ▸ hx.2.2 h)⟩

theorem cap_encArith (c : Cfg) (x : Coder) (cum p : Nat) : (encArith c x cum p).cap = x.cap := by
  unfold encArith; exact cap_afterFlush c x p

theorem cap_decArith {Sym : Type} (c : Cfg) (m : Model Sym) (x : Coder) :
    (decArith c m x).2.cap = x.cap := by
  simp only [decArith]
  split
  · split <;> rfl
  · rfl

theorem encArith_inv (hc : c.Valid) (hx : Inv c x) (hcp : CPok c.P cum p) :
    Inv c (encArith c x cum p) :=
  push_inv hc (flush_norm hc hx hcp.1 (Nat.le_of_add_left_le hcp.2.1)) hcp

variable {Sym : Type} {m : Model Sym}

theorem decArith_encArith (hc : c.Valid) (hm : m.WellFormed c.P) (hx : Inv c x) {s : Sym}
    (henc : m.enc s = some (cum, p)) : decArith c m (encArith c x cum p) = (s, x) := by
  obtain ⟨hp, hsum, _, hdec⟩ := hm.1 _ _ _ henc
  have hq : (encArith c x cum p).state % 2^c.P = cum + (afterFlush c x p).state % p :=
    push_mod hp hsum
  have hr := Nat.mod_lt (afterFlush c x p).state hp
  rw [decArith_eq (hq ▸ hdec _ (Nat.le_add_right _ _) (Nat.add_lt_add_left hr _))]
  simp only [encArith_eq, pop_push hp hsum]
  exact congrArg _ (refill_flush hc hx p)

theorem encArith_decArith (hc : c.Valid) (hm : m.WellFormed c.P) (hx : Inv c x) :
    ∃ cum p, m.enc (decArith c m x).1 = some (cum, p) ∧ CPok c.P cum p ∧
      Inv c (decArith c m x).2 ∧ encArith c (decArith c m x).2 cum p = x := by
  obtain ⟨henc, h1, h2⟩ := hm.2 _ (Nat.mod_lt x.state (Nat.two_pow_pos c.P))
  obtain ⟨hp, hsum, hp1, _⟩ := hm.1 _ _ _ henc
  have hz := pop_norm hc hx h1 h2
  rw [decArith_eq (x := x) rfl]
  refine ⟨_, _, henc, ⟨hp, hsum, hp1⟩, refill_inv hc hz hp (Nat.le_of_lt hp1), ?_⟩
  simp only [encArith_eq, flush_refill hc hz, push_pop h1 h2]

/-- the new `state` of `encode_symbol` from the `state` after the flush -/
def encTail (c : Cfg) (st cum p : Nat) : Except EncErr Nat :=
  if p = 0 then .error (.fault (.panic "ans.enc.div0")) else
  match cadd "ans.enc.quantile" c.B cum (narrow c.B (narrow c.W (st % p))) with
  | .error f => .error (.fault f)
  | .ok quantile =>
    match shl "ans.enc.prefix" c.S (st / p) c.P with
    | .error f => .error (.fault f)
    | .ok hiPart => .ok (hiPart ||| quantile)

/-- the tail of every transcription of `encode_symbol`, which builds its result `g state'` in the
    last line -/
theorem encTail_map {α : Type} (g : Nat → α) (c : Cfg) (st cum p : Nat) :
    (if p = 0 then (.error (.fault (.panic "ans.enc.div0")) : Except EncErr α) else
      match cadd "ans.enc.quantile" c.B cum (narrow c.B (narrow c.W (st % p))) with
      | .error f => .error (.fault f)
      | .ok quantile =>
        match shl "ans.enc.prefix" c.S (st / p) c.P with
        | .error f => .error (.fault f)
        | .ok hiPart => .ok (g (hiPart ||| quantile))) = (encTail c st cum p).map g := by
  unfold encTail
  split
  · rfl
  · cases cadd "ans.enc.quantile" c.B cum (narrow c.B (narrow c.W (st % p))) with
    | error f => rfl
    | ok q => cases shl "ans.enc.prefix" c.S (st / p) c.P <;> rfl

/-- on a state below the end of the symbol's interval the tail is `push`: no narrowing loses
    anything, nothing overflows -/
theorem encode_tail (hc : c.Valid) (hcp : CPok c.P cum p) {st : Nat}
    (hst : st < p * 2^(c.S - c.P)) : encTail c st cum p = .ok (push (2^c.P) cum p st) := by
  obtain ⟨hp, hsum, _⟩ := hcp
  have hq : cum + st % p < 2^c.P :=
    Nat.lt_of_lt_of_le (Nat.add_lt_add_left (Nat.mod_lt st hp) cum) hsum
  have hqB : cum + st % p < 2^c.B := Nat.lt_of_lt_of_le hq (pow_le_pow2 hc.2.1)
  have hrB : st % p < 2^c.B := Nat.lt_of_le_of_lt (Nat.le_add_left _ _) hqB
  unfold encTail
  rw [if_neg (Nat.ne_of_gt hp), narrow_of_lt (Nat.lt_of_lt_of_le hrB (pow_le_pow2 hc.2.2.1)),
    narrow_of_lt hrB, cadd_ok hqB, shl_ok hc.P_lt_S]
  simp only [shl_mod_or (Nat.le_of_lt hc.P_lt_S) (Nat.div_lt_of_lt_mul hst) hq, push]

/-- with any backend: the only failure is a refused write, before anything changed -/
theorem encodeCP_eq (hc : c.Valid) (hx : Inv c x) (hcp : CPok c.P cum p) :
    encodeCP c x cum p =
      if flushCond c x p ∧ canWrite x = false then .error .backendFull
      else .ok (encArith c x cum p) := by
  have hflush : (x.state >>> (c.S - c.P) ≥ p) = flushCond c x p := by
    rw [shr_eq]; exact propext (Nat.le_div_iff_mul_le (Nat.two_pow_pos _))
  have hn := (flush_norm hc hx hcp.1 (Nat.le_of_add_left_le hcp.2.1)).1
  unfold encodeCP
  rw [shr_ok (Nat.sub_lt (Nat.zero_lt_of_lt hc.P_lt_S) hc.1)]
  simp only [hflush, encArith_eq, afterFlush] at hn ⊢
  by_cases hf : flushCond c x p
  · cases hw : canWrite x
    · simp only [hf, if_true, true_and]
      rfl
    · simp only [hf, if_true, shr_eq, true_and, reduceCtorEq, if_false] at hn ⊢
      refine (encTail_map (fun s => { x with bulk := narrow c.W x.state :: x.bulk, state := s }) c _ cum p).trans ?_
      rw [encode_tail hc hcp hn]
      rfl
  · simp only [hf, if_false, false_and] at hn ⊢
    refine (encTail_map (fun s => { x with state := s }) c _ cum p).trans ?_
    rw [encode_tail hc hcp hn]
    rfl

theorem encodeCP_spec (hc : c.Valid) (hx : Inv c x) (hcap : x.cap = none)
    (hcp : CPok c.P cum p) : encodeCP c x cum p = .ok (encArith c x cum p) := by
  have hw : canWrite x = true := by simp [canWrite, hcap]
  rw [encodeCP_eq hc hx hcp, hw]; simp

theorem encode_spec (hc : c.Valid) (hm : m.WellFormed c.P) (hx : Inv c x) (hcap : x.cap = none)
    {s : Sym} (henc : m.enc s = some (cum, p)) : encode c m s x = .ok (encArith c x cum p) := by
  simp only [encode, henc]; exact encodeCP_spec hc hx hcap (hm.cpok henc)

theorem decode_spec (hc : c.Valid) (hm : m.WellFormed c.P) (hx : Inv c x) :
    decode c m x = .ok (decArith c m x) := by
  have hq := Nat.mod_lt x.state (Nat.two_pow_pos c.P)
  obtain ⟨henc, h1, h2⟩ := hm.2 _ hq
  have hadd := (pop_norm hc hx h1 h2).state_lt hc (Nat.le_of_lt (hm.cpok henc).2.2)
  have hqB : x.state % 2^c.P < 2^c.B := Nat.lt_of_lt_of_le hq (pow_le_pow2 hc.2.1)
  have hone : (1 <<< c.P) % 2^c.S = 2^c.P := by
    rw [Nat.shiftLeft_eq, Nat.one_mul]
    exact Nat.mod_eq_of_lt (Nat.pow_lt_pow_right Nat.one_lt_two hc.P_lt_S)
  unfold pop at hadd
  unfold decode decArith
  rw [shl_ok hc.P_lt_S]
  simp only [hone, narrow_of_lt (Nat.lt_of_lt_of_le hqB (pow_le_pow2 hc.2.2.1)), narrow_of_lt hqB,
    csub_ok h1, shr_eq, cmul_ok (Nat.lt_of_le_of_lt (Nat.le_add_right _ _) hadd), cadd_ok hadd]
  split
  · next hlt =>
    cases hbulk : x.bulk with
    | nil => rfl
    | cons w rest =>
      simp only [shl_mod_or hc.W_le_S hlt (hx.2.1 w (hbulk ▸ List.mem_cons_self))]
  · rfl

end CV.Ans
