import CV.Model.Quant
import CV.Proofs.Arith
/-!
# `fast_quantized_cdf` and the lazy categorical model: integer layer

`h i = toInt (c_i * scale)` is an arbitrary sequence.  From `Mono h n`, `h 0 = 0` (TB-F1: a hypothesis
here, a theorem for the software IEEE model, `soft_tbf1`) and the constructor guards (`FastOk`):
`cumF i = min (h i) free + i` tiles `[0, 2^P)`, no `Fault` is reachable, eager and lazy encoder
coincide, the lazy decoder returns the bin of every quantile for every admissible skip count (TB-F2).
No hypothesis `h i ≤ free` is needed: the clamp (D4) makes it hold by construction.
-/
namespace CV.Quant

def Mono (h : Nat → Nat) (n : Nat) : Prop := ∀ i, i < n → h i ≤ h (i + 1)

instance (h : Nat → Nat) (n : Nat) : Decidable (Mono h n) := by
  unfold Mono; exact Nat.decidableBallLT n (fun i _ => h i ≤ h (i + 1))

/-- what the static assertions and the length guard of the `…_fast` constructors establish -/
structure FastOk (B P n : Nat) : Prop where
  hP1 : 1 ≤ P
  hPB : P ≤ B
  hn2 : 2 ≤ n
  hn : n + 2 ≤ 2 ^ P

/-- TB-F1 (fast / lazy): what monotone IEEE `+`, `* scale`, float→int and `0.0 * scale = 0` give -/
structure TBF1Fast (h : Nat → Nat) (n : Nat) : Prop where
  mono : Mono h n
  zero : h 0 = 0

theorem lenOk_iff {P n : Nat} (hP : P ≤ 64) : lenOk P n = true ↔ 2 ≤ n ∧ n + 2 ≤ 2 ^ P := by
  have hpos : 0 < 2 ^ P := Nat.pow_pos (by omega)
  unfold lenOk
  rw [wsub_total hP (by omega) hpos (by omega)]
  simp
  omega

theorem FastOk.of_lenOk {B P n : Nat} (hP1 : 1 ≤ P) (hPB : P ≤ B) (hB : B ≤ 64)
    (h : lenOk P n = true) : FastOk B P n := by
  have := (lenOk_iff (by omega)).mp h
  exact ⟨hP1, hPB, this.1, this.2⟩

theorem narrow_small {B P n : Nat} (ok : FastOk B P n) {i : Nat} (hi : i ≤ n) : narrow B i = i := by
  have := pow_le_pow2 ok.hPB
  have := ok.hn
  exact narrow_of_lt (by omega)

theorem freeWeight_eq {B P n : Nat} (ok : FastOk B P n) : freeWeight B P n = 2 ^ P - n := by
  have hPB := pow_le_pow2 ok.hPB
  have hn := ok.hn
  have hn2 := ok.hn2
  unfold freeWeight
  rw [narrow_small ok (Nat.le_refl _), wsub_total ok.hPB (by omega) (by omega) (by omega)]

def cumF (P n free : Nat) (h : Nat → Nat) (i : Nat) : Nat :=
  if i < n then min (h i) free + i else 2 ^ P

section
variable {B P n free : Nat} {h : Nat → Nat}

theorem cumF_zero (ok : FastOk B P n) (h0 : h 0 = 0) : cumF P n free h 0 = 0 := by
  have := ok.hn2
  unfold cumF; rw [if_pos (by omega), h0]; simp

theorem cumF_last : cumF P n free h n = 2 ^ P := by
  unfold cumF; rw [if_neg (by omega)]

theorem cumF_lt_total (ok : FastOk B P n) (hf : free = 2 ^ P - n) {i : Nat} (hi : i < n) :
    cumF P n free h i + 1 ≤ 2 ^ P := by
  have := ok.hn
  unfold cumF; rw [if_pos hi]
  have : min (h i) free ≤ free := Nat.min_le_right _ _
  omega

theorem cumF_step (ok : FastOk B P n) (hf : free = 2 ^ P - n) (hm : Mono h n) {i : Nat}
    (hi : i < n) : cumF P n free h i < cumF P n free h (i + 1) := by
  by_cases hi1 : i + 1 < n
  · unfold cumF
    rw [if_pos hi, if_pos hi1]
    exact Nat.lt_succ_of_le (Nat.add_le_add_right (Nat.le_min.2
      ⟨Nat.le_trans (Nat.min_le_left _ _) (hm i hi), Nat.min_le_right _ _⟩) i)
  · have e : i + 1 = n := Nat.le_antisymm hi (Nat.not_lt.1 hi1)
    rw [e, cumF_last]
    exact cumF_lt_total ok hf hi

theorem cumF_mono (ok : FastOk B P n) (hf : free = 2 ^ P - n) (hm : Mono h n) {i j : Nat}
    (hij : i ≤ j) (hj : j ≤ n) : cumF P n free h i ≤ cumF P n free h j := by
  induction hij with
  | refl => exact Nat.le_refl _
  | step _ ih => exact Nat.le_trans (ih (Nat.le_of_succ_le hj)) (Nat.le_of_lt (cumF_step ok hf hm hj))

theorem cumF_strict (ok : FastOk B P n) (hf : free = 2 ^ P - n) (hm : Mono h n) {i j : Nat}
    (hij : i < j) (hj : j ≤ n) : cumF P n free h i < cumF P n free h j := by
  exact Nat.lt_of_lt_of_le (cumF_step ok hf hm (Nat.lt_of_lt_of_le hij hj)) (cumF_mono ok hf hm hij hj)

theorem cadd_cum (ok : FastOk B P n) (hf : free = 2 ^ P - n) (site : String) {i : Nat}
    (hi : i < n) : cadd site B (min (h i) free) (narrow B i) = .ok (cumF P n free h i) := by
  have hl := cumF_lt_total (h := h) ok hf hi
  unfold cumF at hl ⊢
  rw [if_pos hi] at hl ⊢
  rw [narrow_small ok (Nat.le_of_lt hi)]
  exact cadd_ok (Nat.lt_of_lt_of_le hl (pow_le_pow2 ok.hPB))

theorem fastEntry_eq (ok : FastOk B P n) (hf : free = 2 ^ P - n) {i : Nat} (hi : i < n) :
    fastEntry B free h i = .ok (cumF P n free h i) := cadd_cum ok hf _ hi

theorem fastEntries_eq (ok : FastOk B P n) (hf : free = 2 ^ P - n) (k i : Nat) (hik : i + k ≤ n) :
    fastEntries B free h k i = .ok ((List.range' i k).map (cumF P n free h)) := by
  induction k generalizing i with
  | zero => rfl
  | succ k ih =>
    unfold fastEntries
    rw [fastEntry_eq ok hf (by omega), ih (i + 1) (by omega), List.range'_succ, List.map_cons]

def cdfList (B P n free : Nat) (h : Nat → Nat) : List Nat :=
  (List.range' 0 n).map (cumF P n free h) ++ [wrappingPow2 B P]

theorem fastCdf_eq (ok : FastOk B P n) (hf : free = 2 ^ P - n) :
    fastCdf B P n free h = .ok (cdfList B P n free h) := by
  unfold fastCdf; rw [fastEntries_eq ok hf n 0 (by omega)]; rfl

theorem cdfList_length : (cdfList B P n free h).length = n + 1 := by simp [cdfList]

/-- entry `i` of the table as stored: the last one is the (possibly wrapped) total -/
def cumW (B P n free : Nat) (h : Nat → Nat) (i : Nat) : Nat :=
  if i < n then cumF P n free h i else wrappingPow2 B P

theorem cumW_lt {i : Nat} (hi : i < n) : cumW B P n free h i = cumF P n free h i := by
  unfold cumW; rw [if_pos hi]

theorem cdfList_get {i : Nat} (hi : i ≤ n) :
    (cdfList B P n free h)[i]? = some (cumW B P n free h i) := by
  unfold cdfList cumW
  by_cases hlt : i < n
  · rw [if_pos hlt, List.getElem?_append_left (by simpa using hlt)]
    simp [hlt]
  · obtain rfl : i = n := by omega
    rw [if_neg hlt, List.getElem?_append_right (by simp)]
    simp

def widthF (P n free : Nat) (h : Nat → Nat) (s : Nat) : Nat :=
  cumF P n free h (s + 1) - cumF P n free h s

theorem width_pos (ok : FastOk B P n) (hf : free = 2 ^ P - n) (hm : Mono h n) {s : Nat}
    (hs : s < n) : 0 < widthF P n free h s := by
  have := cumF_step ok hf hm hs
  unfold widthF; omega

/-- there are at least two non-empty bins -/
theorem cumF_pos_last (ok : FastOk B P n) (hf : free = 2 ^ P - n) (hm : Mono h n) {s : Nat}
    (h1 : s + 1 = n) : 0 < cumF P n free h s := by
  have hpos : 0 < s := by have := ok.hn2; omega
  exact Nat.lt_of_le_of_lt (Nat.zero_le _) (cumF_strict ok hf hm hpos (h1 ▸ Nat.le_succ s))

theorem width_lt (ok : FastOk B P n) (hf : free = 2 ^ P - n) (hm : Mono h n) {s : Nat}
    (hs : s < n) : widthF P n free h s < 2 ^ P := by
  unfold widthF
  by_cases h1 : s + 1 < n
  · exact Nat.lt_of_le_of_lt (Nat.sub_le _ _) (cumF_lt_total ok hf h1)
  · have e : s + 1 = n := Nat.le_antisymm hs (Nat.not_lt.1 h1)
    rw [e, cumF_last]
    exact Nat.sub_lt (Nat.pow_pos (by decide)) (cumF_pos_last ok hf hm e)

theorem wsub_inner (ok : FastOk B P n) (hf : free = 2 ^ P - n) (hm : Mono h n) {s : Nat}
    (h1 : s + 1 < n) :
    wsub B (cumF P n free h (s + 1)) (cumF P n free h s) = widthF P n free h s :=
  wsub_of_le (Nat.le_of_lt (cumF_step ok hf hm (Nat.lt_of_succ_lt h1)))
    (Nat.lt_of_lt_of_le (cumF_lt_total ok hf h1) (pow_le_pow2 ok.hPB))

theorem wsub_last (ok : FastOk B P n) (hf : free = 2 ^ P - n) (hm : Mono h n) {s : Nat}
    (h1 : s + 1 = n) :
    wsub B (wrappingPow2 B P) (cumF P n free h s) = widthF P n free h s := by
  have hl := cumF_lt_total (h := h) ok hf (i := s) (h1 ▸ Nat.lt_succ_self s)
  unfold widthF
  rw [h1, cumF_last]
  exact wsub_total ok.hPB (cumF_pos_last ok hf hm h1) (Nat.le_of_succ_le hl)
    (Nat.lt_of_lt_of_le hl (pow_le_pow2 ok.hPB))

theorem wsub_cumW (ok : FastOk B P n) (hf : free = 2 ^ P - n) (hm : Mono h n) {s : Nat}
    (hs : s < n) :
    wsub B (cumW B P n free h (s + 1)) (cumF P n free h s) = widthF P n free h s := by
  unfold cumW
  by_cases h1 : s + 1 < n
  · rw [if_pos h1]; exact wsub_inner ok hf hm h1
  · rw [if_neg h1]; exact wsub_last ok hf hm (by omega)

def encF (P n free : Nat) (h : Nat → Nat) (s : Nat) : Option (Nat × Nat) :=
  if s < n then some (cumF P n free h s, widthF P n free h s) else none

theorem eagerEnc_eq (ok : FastOk B P n) (hf : free = 2 ^ P - n) (hm : Mono h n)
    (s : Nat) : eagerEnc B (cdfList B P n free h) s = .ok (encF P n free h s) := by
  unfold eagerEnc encF
  rw [cdfList_length]
  by_cases hs : s < n
  · rw [if_neg (by omega), if_pos hs, cdfList_get (Nat.le_of_lt hs), cdfList_get hs]
    simp only
    rw [cumW_lt hs, wsub_cumW ok hf hm hs, if_neg (Nat.ne_of_gt (width_pos ok hf hm hs))]
  · rw [if_pos (by omega), if_neg hs]

theorem cadd_right (ok : FastOk B P n) (hf : free = 2 ^ P - n) {s : Nat} (h1 : s + 1 < n) :
    cadd "lazy.enc.right" B (min (h (s + 1)) free) (narrow B s)
      = .ok (min (h (s + 1)) free + s) ∧
    cadd "lazy.enc.right1" B (min (h (s + 1)) free + s) 1 = .ok (cumF P n free h (s + 1)) := by
  have hPB := pow_le_pow2 ok.hPB
  have hl := cumF_lt_total (h := h) ok hf h1
  rw [narrow_small ok (by omega)]
  unfold cumF at hl ⊢; rw [if_pos h1] at hl ⊢
  unfold cadd
  rw [if_pos (by omega), if_pos (by omega)]
  exact ⟨rfl, by rw [Nat.add_assoc]⟩

theorem lazyEnc_eq (ok : FastOk B P n) (hf : free = 2 ^ P - n) (hm : Mono h n)
    (s : Nat) : lazyEnc B P n free h s = .ok (encF P n free h s) := by
  unfold lazyEnc encF
  by_cases hs : s < n
  · rw [if_neg (by omega), if_pos hs, cadd_cum ok hf _ hs]
    have hp := Nat.ne_of_gt (width_pos ok hf hm hs)
    by_cases h1 : s + 1 < n
    · rw [if_neg (by omega)]
      -- the right end is computed in two checked additions: `+ s`, then `+ 1`
      obtain ⟨hr, hr1⟩ := cadd_right (h := h) ok hf h1
      rw [hr]
      simp only
      rw [hr1]
      simp only
      rw [wsub_inner ok hf hm h1, if_neg hp]
    · have e : s + 1 = n := Nat.le_antisymm hs (Nat.not_lt.1 h1)
      rw [if_pos (by omega)]
      simp only
      rw [wsub_last ok hf hm e, if_neg hp]
  · rw [if_pos (by omega), if_neg hs]

/-- **C05** eager.enc = lazy.enc: both are `cdf i = min (h i) free + i` over the same `h` -/
theorem eager_enc_eq_lazy_enc (ok : FastOk B P n) (hf : free = 2 ^ P - n) (hm : Mono h n)
    (s : Nat) :
    eagerEnc B (cdfList B P n free h) s = lazyEnc B P n free h s := by
  rw [eagerEnc_eq ok hf hm, lazyEnc_eq ok hf hm]

theorem usizePred_eq {j : Nat} (h1 : 1 ≤ j) : usizePred j = j - 1 := by
  unfold usizePred; rw [if_neg (by omega)]

def IsBin (P n free : Nat) (h : Nat → Nat) (q s : Nat) : Prop :=
  s < n ∧ cumF P n free h s ≤ q ∧ q < cumF P n free h (s + 1)

theorem lazyDecLoop_spec (ok : FastOk B P n) (hf : free = 2 ^ P - n)
    (hm : Mono h n) {q : Nat} (hq : q < 2 ^ P) :
    ∀ (fuel j : Nat), j + 1 + fuel = n → cumF P n free h j ≤ q →
      ∃ s, IsBin P n free h q s ∧
        lazyDecLoop B P n free h q fuel (j + 1) (cumF P n free h j)
          = .ok (s, cumF P n free h s, widthF P n free h s) := by
  intro fuel
  induction fuel with
  | zero =>
    intro j hjn hle
    have e : j + 1 = n := hjn
    have hjs : j < n := e ▸ Nat.lt_succ_self j
    refine ⟨j, ⟨hjs, hle, ?_⟩, ?_⟩
    · rw [e, cumF_last]; exact hq
    · unfold lazyDecLoop
      simp only
      rw [wsub_last ok hf hm e, if_neg (Nat.ne_of_gt (width_pos ok hf hm hjs)),
        usizePred_eq (Nat.le_add_left 1 j)]
      rfl
  | succ fuel ih =>
    intro j hjn hle
    have hj1 : j + 1 < n := by omega
    have hjs : j < n := Nat.lt_of_succ_lt hj1
    unfold lazyDecLoop
    rw [cadd_cum ok hf _ hj1]
    simp only
    by_cases hgt : cumF P n free h (j + 1) > q
    · rw [if_pos hgt]
      refine ⟨j, ⟨hjs, hle, hgt⟩, ?_⟩
      rw [wsub_inner ok hf hm hj1, if_neg (Nat.ne_of_gt (width_pos ok hf hm hjs)),
        usizePred_eq (Nat.le_add_left 1 j)]
      rfl
    · rw [if_neg hgt]
      exact ih (j + 1) (by omega) (Nat.le_of_not_gt hgt)

/-- the lazy decoder returns the bin of `q` for every admissible skip count `k0`;
    TB-F2 (soundness of the float-only skip phase) is exactly `cumF (k0 - 1) ≤ q` -/
theorem lazyDec_spec (ok : FastOk B P n) (hf : free = 2 ^ P - n)
    (hm : Mono h n) {q k0 : Nat} (hq : q < 2 ^ P)
    (hk1 : 1 ≤ k0) (hkn : k0 ≤ n) (tbf2 : cumF P n free h (k0 - 1) ≤ q) :
    ∃ s, IsBin P n free h q s ∧
      lazyDec B P n free h k0 q = .ok (s, cumF P n free h s, widthF P n free h s) := by
  cases k0 with
  | zero => exact absurd hk1 (Nat.not_succ_le_zero 0)
  | succ j =>
    have tbf2' : cumF P n free h j ≤ q := tbf2
    unfold lazyDec
    rw [usizePred_eq hk1, Nat.add_sub_cancel, cadd_cum ok hf _ hkn]
    exact lazyDecLoop_spec ok hf hm hq (n - (j + 1)) j (Nat.add_sub_of_le hkn) tbf2'

theorem IsBin.unique (ok : FastOk B P n) (hf : free = 2 ^ P - n) (hm : Mono h n) {q s t : Nat}
    (hs : IsBin P n free h q s) (ht : IsBin P n free h q t) : s = t := by
  obtain ⟨hs, h1, h2⟩ := hs
  obtain ⟨ht, h3, h4⟩ := ht
  rcases Nat.lt_trichotomy s t with hlt | heq | hgt
  · exact absurd (Nat.lt_of_lt_of_le h2 (Nat.le_trans (cumF_mono ok hf hm hlt (Nat.le_of_lt ht)) h3))
      (Nat.lt_irrefl q)
  · exact heq
  · exact absurd (Nat.lt_of_lt_of_le h4 (Nat.le_trans (cumF_mono ok hf hm hgt (Nat.le_of_lt hs)) h1))
      (Nat.lt_irrefl q)

theorem IsBin.exists (ok : FastOk B P n) (hB : B ≤ 64) (hf : free = 2 ^ P - n) (hm : Mono h n)
    (h0 : h 0 = 0) {q : Nat} (hq : q < 2 ^ P) : ∃ s, IsBin P n free h q s := by
  have hn2 := ok.hn2
  have := lazyDec_spec ok hf hm (k0 := 1) hq (by omega) (by omega)
    (by rw [cumF_zero ok h0]; omega)
  obtain ⟨s, hs, _⟩ := this
  exact ⟨s, hs⟩

end

end CV.Quant
