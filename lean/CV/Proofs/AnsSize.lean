import CV.Proofs.AnsExport
import Mathlib.Tactic.Ring
/-!
# ANS coder: compressed size (multiplicative potential argument)

`Q x = max state 2^(S-W) · (2^W)^|bulk|`.  One encode step with probability `p` at precision
`P` satisfies `Q' · p · 2^k ≤ Q · 2^P · (2^k + 1)` with `k = S - W - P`.
-/
namespace CV.Ans
open CV

section
variable {M cum p s K U : Nat}

theorem push_mul_le (hp : 0 < p) (hcum : cum + p ≤ M) : push M cum p s * p ≤ (s + p) * M := by
  have h2 := Nat.mod_lt s hp
  calc push M cum p s * p = (s / p * p) * M + (cum + s % p) * p := by unfold push; ring
    _ ≤ s * M + M * p :=
      Nat.add_le_add (Nat.mul_le_mul_right M (Nat.div_mul_le_self s p))
        (Nat.mul_le_mul_right p (by omega))
    _ = (s + p) * M := by ring

/-- the state grows by `M / p` up to rounding, which costs at most a factor `1 + 1/K` -/
theorem push_potential (hp : 0 < p) (hcum : cum + p ≤ M) (hs : s ≤ U) (hU : p * K ≤ U) :
    max (push M cum p s) (K * M) * p * K ≤ U * M * (K + 1) := by
  rcases Nat.le_total (push M cum p s) (K * M) with h | h
  · rw [Nat.max_eq_right h]
    calc K * M * p * K = p * K * M * K := by ring
      _ ≤ U * M * K := Nat.mul_le_mul_right K (Nat.mul_le_mul_right M hU)
      _ ≤ U * M * (K + 1) := Nat.mul_le_mul_left _ (Nat.le_succ K)
  · rw [Nat.max_eq_left h]
    calc push M cum p s * p * K ≤ (s + p) * M * K := Nat.mul_le_mul_right K (push_mul_le hp hcum)
      _ = s * M * K + p * K * M := by ring
      _ ≤ U * M * K + U * M :=
        Nat.add_le_add (Nat.mul_le_mul_right K (Nat.mul_le_mul_right M hs)) (Nat.mul_le_mul_right M hU)
      _ = U * M * (K + 1) := by ring

end

def Q (c : Cfg) (x : Coder) : Nat := max x.state (2^(c.S - c.W)) * (2^c.W)^x.bulk.length

variable {c : Cfg} {x : Coder} {cum p : Nat}

theorem flush_potential (hc : c.Valid) (hp1 : p ≤ 2^c.P) :
    ∃ U, (afterFlush c x p).state ≤ U ∧ p * 2^(c.S - c.W - c.P) ≤ U ∧
      U * (2^c.W)^(afterFlush c x p).bulk.length ≤ Q c x := by
  unfold afterFlush Q
  by_cases hf : flushCond c x p
  · refine ⟨x.state / 2^c.W, by rw [if_pos hf], ?_, ?_⟩
    · exact (Nat.le_div_iff_mul_le (Nat.two_pow_pos _)).2
        (Nat.mul_assoc .. ▸ hc.pow_SP_W ▸ (hf : p * 2^(c.S - c.P) ≤ x.state))
    · rw [if_pos hf, List.length_cons, Nat.pow_succ, Nat.mul_comm _ (2^c.W), ← Nat.mul_assoc]
      exact Nat.mul_le_mul_right _
        (Nat.le_trans (Nat.div_mul_le_self _ _) (Nat.le_max_left _ _))
  · refine ⟨max x.state (2^(c.S - c.W)), by rw [if_neg hf]; exact Nat.le_max_left _ _, ?_,
      by rw [if_neg hf]⟩
    exact Nat.le_trans (hc.pow_SW_P ▸ Nat.mul_comm _ p ▸ Nat.mul_le_mul_left _ hp1) (Nat.le_max_right _ _)

theorem potential_step (hc : c.Valid) (hcp : CPok c.P cum p) :
    Q c (encArith c x cum p) * p * 2^(c.S - c.W - c.P)
      ≤ Q c x * 2^c.P * (2^(c.S - c.W - c.P) + 1) := by
  obtain ⟨hp, hsum, hp1⟩ := hcp
  obtain ⟨U, h1, h2, h3⟩ := flush_potential (x := x) hc (Nat.le_of_lt hp1)
  have h4 := push_potential hp hsum h1 h2
  rw [← hc.pow_SW_P] at h4
  generalize Q c x = Q₀ at h3 ⊢
  unfold Q
  rw [encArith_eq]
  generalize (2^c.W)^(afterFlush c x p).bulk.length = Bn at h3 ⊢
  generalize max (push (2^c.P) cum p (afterFlush c x p).state) (2^(c.S - c.W)) = s' at h4 ⊢
  generalize 2^(c.S - c.W - c.P) = K at *
  generalize 2^c.P = M at *
  calc s' * Bn * p * K = (s' * p * K) * Bn := by ring
    _ ≤ (U * M * (K + 1)) * Bn := Nat.mul_le_mul_right _ h4
    _ = (U * Bn) * M * (K + 1) := by ring
    _ ≤ Q₀ * M * (K + 1) := Nat.mul_le_mul_right _ (Nat.mul_le_mul_right _ h3)

theorem two_pow_numBits_le (hc : c.Valid) (x : Coder) : 2^(numBits c x) ≤ Q c x * 2^c.W := by
  have hW := hc.W_pos
  -- the words of the state: all but the top one are below the state itself
  have key : 2^(c.W * nchunks c.W x.state) ≤ max x.state (2^(c.S - c.W)) * 2^c.W := by
    rcases Nat.eq_zero_or_pos x.state with h0 | h0
    · rw [h0, nchunks_zero _ hW]
      exact Nat.mul_pos (Nat.lt_of_lt_of_le (Nat.two_pow_pos _) (Nat.le_max_right _ _)) (Nat.two_pow_pos _)
    · obtain ⟨n, hn⟩ := Nat.exists_eq_add_one.2 (nchunks_pos hW h0)
      rw [hn, Nat.mul_comm, Nat.succ_mul, Nat.pow_add]
      exact Nat.mul_le_mul_right _ (Nat.le_trans (nchunks_succ hW hn).1 (Nat.le_max_left _ _))
  unfold numBits numWords Q
  rw [chunksLE_length]
  calc 2^(c.W * (x.bulk.length + nchunks c.W x.state))
      = (2^c.W)^x.bulk.length * 2^(c.W * nchunks c.W x.state) := by
        rw [Nat.mul_add, Nat.pow_add, Nat.pow_mul]
    _ ≤ (2^c.W)^x.bulk.length * (max x.state (2^(c.S - c.W)) * 2^c.W) := Nat.mul_le_mul_left _ key
    _ = max x.state (2^(c.S - c.W)) * (2^c.W)^x.bulk.length * 2^c.W := by ring

theorem numWords_step (c : Cfg) (x : Coder) (cum p : Nat) :
    (encArith c x cum p).bulk.length ≤ x.bulk.length + 1 := by
  simp only [encArith, afterFlush]
  split <;> simp

end CV.Ans
