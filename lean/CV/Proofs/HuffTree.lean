import CV.Proofs.HuffHeap
/-!
# Binary trees whose vertices carry array indices

Every vertex of a `Tree` carries the index it has in the Rust arrays: leaves are symbols
`0 … n-1`, the internal node created in the `k`-th loop iteration is `n + k`.  The merge loop
builds its tree by *splitting* the leaf that stands for a merged pair — there is no forest.
-/
namespace CV.Huff

inductive Tree where
  | leaf (id : Nat)
  | node (id : Nat) (l r : Tree)
  deriving Repr, DecidableEq

namespace Tree

def rootId : Tree → Nat
  | leaf i => i
  | node i _ _ => i

/-- leaf labels, left to right -/
def leaves : Tree → List Nat
  | leaf i => [i]
  | node _ l r => l.leaves ++ r.leaves

def inner : Tree → List Nat
  | leaf _ => []
  | node i l r => i :: (l.inner ++ r.inner)

def height : Tree → Nat
  | leaf _ => 0
  | node _ l r => max l.height r.height + 1

/-- replace every leaf `z` by an internal node `z` with children `leaf a`, `leaf b` -/
def split (z a b : Nat) : Tree → Tree
  | leaf x => if x = z then node z (leaf a) (leaf b) else leaf x
  | node i l r => node i (split z a b l) (split z a b r)

/-- root-to-leaf path of the (first) leaf labelled `s`; `false` = child 0 -/
def code (s : Nat) : Tree → Option (List Bool)
  | leaf i => if i = s then some [] else none
  | node _ l r =>
    match code s l with
    | some p => some (false :: p)
    | none =>
      match code s r with
      | some p => some (true :: p)
      | none => none

/-- length of the root-to-leaf path of `s` (0 if `s` is not a leaf) -/
def depth (t : Tree) (s : Nat) : Nat :=
  match t.code s with
  | some p => p.length
  | none => 0

theorem height_le_inner (t : Tree) : t.height ≤ t.inner.length := by
  induction t with
  | leaf _ => exact Nat.le_refl 0
  | node _ l r ihl ihr =>
    simp only [height, inner, List.length_cons, List.length_append]; omega

theorem nodup_node {i : Nat} {l r : Tree} (h : (node i l r).leaves.Nodup) :
    l.leaves.Nodup ∧ r.leaves.Nodup ∧ ∀ s, s ∈ l.leaves → s ∉ r.leaves := by
  obtain ⟨hl, hr, hdis⟩ := List.nodup_append.mp h
  exact ⟨hl, hr, fun s hs hs' => hdis s hs s hs' rfl⟩

/-! ## splitting a leaf -/

@[simp] theorem rootId_split (z a b : Nat) : ∀ t : Tree, (split z a b t).rootId = t.rootId
  | leaf x => by
    simp only [split]
    split
    · next h => exact h.symm
    · rfl
  | node _ _ _ => rfl

theorem split_of_not_mem (z a b : Nat) (t : Tree) : z ∉ t.leaves → split z a b t = t := by
  induction t with
  | leaf x =>
    intro h
    have : ¬ x = z := fun e => h (List.mem_singleton.mpr e.symm)
    simp only [split, if_neg this]
  | node i l r ihl ihr =>
    intro h
    simp only [leaves, List.mem_append, not_or] at h
    simp only [split, ihl h.1, ihr h.2]

/-- in a tree with distinct leaves `split z a b` rewrites the one path that leads to `z` -/
theorem split_induction {P : Tree → Tree → Prop} {z a b : Nat}
    (leaf : P (leaf z) (node z (leaf a) (leaf b)))
    (left : ∀ i l r, z ∈ l.leaves → z ∉ r.leaves → P l (split z a b l) →
      P (node i l r) (node i (split z a b l) r))
    (right : ∀ i l r, z ∉ l.leaves → z ∈ r.leaves → P r (split z a b r) →
      P (node i l r) (node i l (split z a b r))) :
    ∀ t : Tree, z ∈ t.leaves → t.leaves.Nodup → P t (split z a b t) := by
  intro t
  induction t with
  | leaf x =>
    intro hm _
    obtain rfl : z = x := List.mem_singleton.mp hm
    simpa only [split, if_pos] using leaf
  | node i l r ihl ihr =>
    intro hm hnd
    obtain ⟨hl, hr, hdis⟩ := nodup_node hnd
    simp only [split]
    rcases List.mem_append.mp hm with hzl | hzr
    · rw [split_of_not_mem z a b r (hdis z hzl)]
      exact left i l r hzl (hdis z hzl) (ihl hzl hl)
    · have hzl : z ∉ l.leaves := fun h => hdis z h hzr
      rw [split_of_not_mem z a b l hzl]
      exact right i l r hzl hzr (ihr hzr hr)

theorem leaves_split {z a b : Nat} {t : Tree} (hz : z ∈ t.leaves) (hnd : t.leaves.Nodup) :
    (z :: (split z a b t).leaves).Perm (a :: b :: t.leaves) := by
  refine split_induction (P := fun t t' => (z :: t'.leaves).Perm (a :: b :: t.leaves))
    ?_ ?_ ?_ t hz hnd
  · exact (List.Perm.swap a z [b]).trans ((List.Perm.swap b z []).cons a)
  · intro i l r _ _ ih
    exact ih.append_right r.leaves
  · intro i l r _ _ ih
    exact List.perm_middle.symm.trans ((ih.append_left l.leaves).trans
      (List.perm_middle.trans (List.perm_middle.cons a)))

theorem inner_split {z a b : Nat} {t : Tree} (hz : z ∈ t.leaves) (hnd : t.leaves.Nodup) :
    (split z a b t).inner.Perm (z :: t.inner) := by
  refine split_induction (P := fun t t' => t'.inner.Perm (z :: t.inner)) ?_ ?_ ?_ t hz hnd
  · exact List.Perm.refl _
  · intro i l r _ _ ih
    exact ((ih.append_right r.inner).cons i).trans (List.Perm.swap z i _)
  · intro i l r _ _ ih
    exact (((ih.append_left l.inner).trans List.perm_middle).cons i).trans (List.Perm.swap z i _)

/-! ## root-to-leaf paths -/

theorem code_leaf_eq_some {i s : Nat} {p : List Bool} :
    (leaf i).code s = some p ↔ i = s ∧ p = [] := by
  simp only [code]
  split <;> simp_all [eq_comm]

theorem code_node_eq_some {i s : Nat} {l r : Tree} {p : List Bool} :
    (node i l r).code s = some p ↔
      (∃ q, l.code s = some q ∧ p = false :: q) ∨
      (∃ q, l.code s = none ∧ r.code s = some q ∧ p = true :: q) := by
  simp only [code]
  cases code s l <;> cases code s r <;> simp [eq_comm]

theorem code_induction {s : Nat} {P : Tree → List Bool → Prop}
    (leaf : P (leaf s) [])
    (left : ∀ i l r q, l.code s = some q → P l q → P (node i l r) (false :: q))
    (right : ∀ i l r q, l.code s = none → r.code s = some q → P r q → P (node i l r) (true :: q)) :
    ∀ (t : Tree) (p : List Bool), t.code s = some p → P t p := by
  intro t
  induction t with
  | leaf i =>
    intro p h
    obtain ⟨rfl, rfl⟩ := code_leaf_eq_some.mp h
    exact leaf
  | node i l r ihl ihr =>
    intro p h
    rcases code_node_eq_some.mp h with ⟨q, hq, rfl⟩ | ⟨q, hn, hq, rfl⟩
    · exact left i l r q hq (ihl q hq)
    · exact right i l r q hn hq (ihr q hq)

theorem mem_of_code {s : Nat} {t : Tree} {p} (h : t.code s = some p) : s ∈ t.leaves := by
  refine code_induction (P := fun t _ => s ∈ t.leaves) ?_ ?_ ?_ t p h
  · exact List.mem_singleton.mpr rfl
  · intro i l r q _ ih; exact List.mem_append_left _ ih
  · intro i l r q _ _ ih; exact List.mem_append_right _ ih

theorem code_of_mem {s : Nat} {t : Tree} : s ∈ t.leaves → ∃ p, t.code s = some p := by
  induction t with
  | leaf i => exact fun h => ⟨[], code_leaf_eq_some.mpr ⟨(List.mem_singleton.mp h).symm, rfl⟩⟩
  | node i l r ihl ihr =>
    intro h
    cases hl : code s l with
    | some q => exact ⟨_, code_node_eq_some.mpr (Or.inl ⟨q, hl, rfl⟩)⟩
    | none =>
      rcases List.mem_append.mp h with h | h
      · obtain ⟨q, hq⟩ := ihl h
        rw [hq] at hl; cases hl
      · obtain ⟨q, hq⟩ := ihr h
        exact ⟨_, code_node_eq_some.mpr (Or.inr ⟨q, hl, hq, rfl⟩)⟩

theorem code_none_of_not_mem {s : Nat} {t : Tree} (h : s ∉ t.leaves) : t.code s = none := by
  cases e : t.code s with
  | none => rfl
  | some p => exact absurd (mem_of_code e) h

theorem code_length_le_height {s : Nat} {t : Tree} {p : List Bool} (h : t.code s = some p) :
    p.length ≤ t.height := by
  refine code_induction (P := fun t p => p.length ≤ t.height) ?_ ?_ ?_ t p h
  · exact Nat.le_refl 0
  · intro i l r q _ ih; simp only [height, List.length_cons]; omega
  · intro i l r q _ _ ih; simp only [height, List.length_cons]; omega

theorem code_prefix_free {s1 s2 : Nat} (t : Tree) : ∀ {p1 p2 : List Bool},
    t.code s1 = some p1 → t.code s2 = some p2 → p1 <+: p2 → s1 = s2 := by
  induction t with
  | leaf i =>
    exact fun h1 h2 _ => (code_leaf_eq_some.mp h1).1.symm.trans (code_leaf_eq_some.mp h2).1
  | node _ l r ihl ihr =>
    intro p1 p2 h1 h2 hp
    rcases code_node_eq_some.mp h1 with ⟨q1, e1, rfl⟩ | ⟨q1, _, e1, rfl⟩ <;>
      rcases code_node_eq_some.mp h2 with ⟨q2, e2, rfl⟩ | ⟨q2, _, e2, rfl⟩
    · exact ihl e1 e2 ((List.prefix_cons_inj _).mp hp)
    · simp at hp
    · simp at hp
    · exact ihr e1 e2 ((List.prefix_cons_inj _).mp hp)

theorem depth_of_code {s : Nat} {t : Tree} {p} (h : t.code s = some p) : t.depth s = p.length := by
  simp only [depth, h]

theorem depth_leaf (a s : Nat) : (leaf a).depth s = 0 := by
  cases h : (leaf a).code s with
  | none => rw [depth, h]
  | some p => rw [depth_of_code h, (code_leaf_eq_some.mp h).2]; rfl

theorem depth_node_left {i : Nat} {l r : Tree} {s : Nat} (h : s ∈ l.leaves) :
    (node i l r).depth s = l.depth s + 1 := by
  obtain ⟨p, hp⟩ := code_of_mem h
  rw [depth_of_code hp, depth_of_code (code_node_eq_some.mpr (Or.inl ⟨p, hp, rfl⟩))]
  rfl

theorem depth_node_right {i : Nat} {l r : Tree} {s : Nat} (hl : s ∉ l.leaves) (h : s ∈ r.leaves) :
    (node i l r).depth s = r.depth s + 1 := by
  obtain ⟨p, hp⟩ := code_of_mem h
  rw [depth_of_code hp, depth_of_code
    (code_node_eq_some.mpr (Or.inr ⟨p, code_none_of_not_mem hl, hp, rfl⟩))]
  rfl

theorem depth_le_height (t : Tree) (s : Nat) : t.depth s ≤ t.height := by
  unfold depth
  cases h : t.code s with
  | none => exact Nat.zero_le _
  | some p => exact code_length_le_height h

theorem map_depth_node {β : Type} (f : Nat → Nat → β) {i : Nat} {l r : Tree}
    (hnd : (node i l r).leaves.Nodup) :
    (node i l r).leaves.map (fun s => f s ((node i l r).depth s)) =
      l.leaves.map (fun s => f s (l.depth s + 1)) ++ r.leaves.map (fun s => f s (r.depth s + 1)) := by
  obtain ⟨_, _, hdis⟩ := nodup_node hnd
  simp only [leaves, List.map_append]
  congr 1
  · exact List.map_congr_left fun s hs => by rw [depth_node_left hs]
  · exact List.map_congr_left fun s hs => by
      rw [depth_node_right (fun h => hdis s h hs) hs]

/-! ## paths and depths after a split -/

theorem code_split_other {z a b x : Nat} (hz : x ≠ z) (ha : x ≠ a) (hb : x ≠ b) (t : Tree) :
    (split z a b t).code x = t.code x := by
  induction t with
  | leaf y =>
    simp only [split]
    split
    · next e => subst e; simp [code, Ne.symm ha, Ne.symm hb, Ne.symm hz]
    · rfl
  | node _ l r ihl ihr => simp only [split, code, ihl, ihr]

theorem code_split_a {z a b : Nat} (t : Tree) : a ∉ t.leaves →
    (split z a b t).code a = (t.code z).map (· ++ [false]) := by
  induction t with
  | leaf y =>
    intro h
    simp only [leaves, List.mem_singleton] at h
    simp only [split]
    split
    · next e => subst e; simp [code]
    · next e => simp [code, e, Ne.symm h]
  | node _ l r ihl ihr =>
    intro h
    simp only [leaves, List.mem_append, not_or] at h
    simp only [split, code, ihl h.1, ihr h.2]
    cases code z l <;> cases code z r <;> rfl

theorem code_split_b {z a b : Nat} (hab : a ≠ b) (t : Tree) : b ∉ t.leaves →
    (split z a b t).code b = (t.code z).map (· ++ [true]) := by
  induction t with
  | leaf y =>
    intro h
    simp only [leaves, List.mem_singleton] at h
    simp only [split]
    split
    · next e => subst e; simp [code, hab]
    · next e => simp [code, e, Ne.symm h]
  | node _ l r ihl ihr =>
    intro h
    simp only [leaves, List.mem_append, not_or] at h
    simp only [split, code, ihl h.1, ihr h.2]
    cases code z l <;> cases code z r <;> rfl

theorem depth_split_other {z a b x : Nat} (hz : x ≠ z) (ha : x ≠ a) (hb : x ≠ b) (t : Tree) :
    (split z a b t).depth x = t.depth x := by
  simp only [depth, code_split_other hz ha hb t]

theorem depth_split_a {z a b : Nat} {t : Tree} (ha : a ∉ t.leaves) (hz : z ∈ t.leaves) :
    (split z a b t).depth a = t.depth z + 1 := by
  obtain ⟨p, hp⟩ := code_of_mem hz
  simp [depth, code_split_a t ha, hp]

theorem depth_split_b {z a b : Nat} {t : Tree} (hab : a ≠ b) (hb : b ∉ t.leaves)
    (hz : z ∈ t.leaves) : (split z a b t).depth b = t.depth z + 1 := by
  obtain ⟨p, hp⟩ := code_of_mem hz
  simp [depth, code_split_b hab t hb, hp]

end Tree

end CV.Huff
