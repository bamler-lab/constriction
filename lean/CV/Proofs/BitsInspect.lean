import CV.Proofs.BitsHistory
/-!
# Inspection is a no-op on the bit coders (C08); the default codebook methods, Exp-Golomb over any
bit source and the overshooting iterator (C16); `maybe_exhausted` (C18)
-/
namespace CV.Bits
variable {W : Nat} {c : Coder} {d : QDecoder}
variable {σ : Type} {src : Src σ} {I : σ → Prop} {view : σ → List Bool}

/-- the inspections of a stack coder: `len`, `is_empty`, `get_compressed()` (guard), `iter()` -/
def SOp.isInspection : SOp → Bool
  | .len => true
  | .isEmpty => true
  | .getCompressed => true
  | .iter => true
  | _ => false

theorem SOp.inspection_spec (op : SOp) (h : op.isInspection = true) (l : List Bool) :
    op.Lawful ∧ (Stack.spec W op l).2 = l :=
  match op, h with
  | .len, _ | .isEmpty, _ | .getCompressed, _ | .iter, _ => ⟨trivial, rfl⟩

/-- only `bits`: the representation may change (a full current word moves to the backend when a
    `StackCoderGuard` is dropped) -/
theorem Stack.inspection_bits (hW : 1 ≤ W) (op : SOp) (h : op.isInspection = true)
    (hI : Inv W c) :
    Inv W (Stack.step W op c).2 ∧ bits W (Stack.step W op c).2 = bits W c := by
  obtain ⟨hop, hspec⟩ := SOp.inspection_spec (W := W) op h (bits W c)
  have hr := Stack.step_refines hW op hop hI
  exact ⟨hr.2.1, hr.2.2.trans hspec⟩

/-- like `run`, but the outputs of inspections are not recorded (a fault still ends the run) -/
def runObs (W : Nat) : List SOp → Coder → List Out × Coder
  | [], c => ([], c)
  | op :: ops, c =>
    let r := Stack.step W op c
    if r.1.isFault then ([r.1], r.2)
    else if op.isInspection then runObs W ops r.2
    else (r.1 :: (runObs W ops r.2).1, (runObs W ops r.2).2)

def noFault (outs : List Out) : Prop := ∀ o ∈ outs, o.isFault = false

theorem Stack.step_congr (hW : 1 ≤ W) (op : SOp) (hop : op.Lawful) {c₁ c₂ : Coder}
    (h₁ : Inv W c₁) (h₂ : Inv W c₂) (h : bits W c₁ = bits W c₂) :
    (Stack.step W op c₁).1 = (Stack.step W op c₂).1 ∧
      bits W (Stack.step W op c₁).2 = bits W (Stack.step W op c₂).2 := by
  have r₁ := Stack.step_refines hW op hop h₁
  have r₂ := Stack.step_refines hW op hop h₂
  rw [r₁.1, r₂.1, r₁.2.2, r₂.2.2, h]
  exact ⟨rfl, rfl⟩

/-- erasing inspections, stated for two start states with the same bits, which is what the induction
    needs (after an inspection the representations may differ) -/
theorem inspect_erasure_aux (hW : 1 ≤ W) (ops : List SOp) (hops : ∀ op ∈ ops, op.Lawful)
    (c c' : Coder) (hI : Inv W c) (hI' : Inv W c') (hb : bits W c = bits W c')
    (hnf : noFault (run (Stack.step W) ops c).1) :
    (run (Stack.step W) (ops.filter (fun o => !o.isInspection)) c').1 = (runObs W ops c).1 ∧
      bits W (run (Stack.step W) (ops.filter (fun o => !o.isInspection)) c').2 =
        bits W (runObs W ops c).2 ∧
      bits W (runObs W ops c).2 = bits W (run (Stack.step W) ops c).2 := by
  induction ops generalizing c c' with
  | nil => exact ⟨rfl, hb.symm, rfl⟩
  | cons op ops ih =>
    have hop : op.Lawful := hops op List.mem_cons_self
    have hops' : ∀ o ∈ ops, o.Lawful := fun o ho => hops o (List.mem_cons_of_mem _ ho)
    have hr := Stack.step_refines hW op hop hI
    have hnof : (Stack.step W op c).1.isFault = false := by
      apply hnf
      simp only [run]
      cases hf : (Stack.step W op c).1.isFault <;> simp
    have hnf' : noFault (run (Stack.step W) ops (Stack.step W op c).2).1 := by
      intro o ho
      apply hnf
      simp only [run, hnof, Bool.false_eq_true, if_false]
      exact List.mem_cons_of_mem _ ho
    cases hinsp : op.isInspection
    · have hc := Stack.step_congr hW op hop hI' hI hb.symm
      have hr' := Stack.step_refines hW op hop hI'
      have ih := ih hops' (Stack.step W op c).2 (Stack.step W op c').2
        hr.2.1 hr'.2.1 hc.2.symm hnf'
      have hnof' : (Stack.step W op c').1.isFault = false := by rw [hc.1]; exact hnof
      simp only [List.filter_cons, hinsp, Bool.not_false, if_true, run, runObs, hnof, hnof',
        Bool.false_eq_true, if_false]
      exact ⟨by rw [ih.1, hc.1], ih.2.1, ih.2.2⟩
    · -- an inspection: skipped on the left, a no-op on the bits on the right
      have hi := Stack.inspection_bits hW op hinsp hI
      have ih := ih hops' (Stack.step W op c).2 c' hi.1 hI' (by rw [hi.2, hb]) hnf'
      simp only [List.filter_cons, hinsp, Bool.not_true, Bool.false_eq_true, if_false, run, runObs,
        hnof, if_true]
      exact ih

theorem viaSmallBitStack_spec (bs : List Bool) : viaSmallBitStack bs = .ok bs.reverse := by
  have h := writeBits_spec (W := 64) (by decide) bs (inv_empty 64)
  rw [viaSmallBitStack, iter_spec (by decide) h.1, h.2, bits_empty, List.nil_append]

/-- the default trait methods produce the mirror image of the method they are derived from -/
theorem encBook_ofSuffix_prefix {Sym : Type} (sfx : Sym → M (List Bool)) (s : Sym) (bs : List Bool)
    (h : sfx s = .ok bs) : (EncBook.ofSuffix sfx).prefixBits s = .ok bs.reverse := by
  simp [EncBook.ofSuffix, h, viaSmallBitStack_spec]

theorem encBook_ofPrefix_suffix {Sym : Type} (pfx : Sym → M (List Bool)) (s : Sym) (bs : List Bool)
    (h : pfx s = .ok bs) : (EncBook.ofPrefix pfx).suffixBits s = .ok bs.reverse := by
  simp [EncBook.ofPrefix, h, viaSmallBitStack_spec]

theorem log2_lt_length_code (v : Nat) : Nat.log2 (v+1) < (EG.code v).length := by
  simp [EG.code]

theorem EG.decode_src (R : Src.Refines src I view) {N v : Nat} (hN : EG.ValidN N) (hv : v < 2^N) {s : σ} (hI : I s)
    {rest : List Bool} (hb : view s = EG.code v ++ rest) {f : Nat} (hf : (view s).length < f) :
    ∃ s', EG.decode N src f s = .ok (s', .ok v) ∧ I s' ∧ view s' = rest := by
  obtain ⟨h1, h2⟩ := EG.decode_refines R N f s hI
  have hfuel : Nat.log2 (v+1) < f := by
    have := log2_lt_length_code v
    rw [hb, List.length_append] at hf
    omega
  rw [hb, EG.decode_code hN hv rest f hfuel] at h1
  cases hd : EG.decode N src f s with
  | error e => rw [hd] at h1; cases h1
  | ok p =>
    obtain ⟨s', r⟩ := p
    rw [hd] at h1
    cases h1
    exact ⟨s', rfl, h2 s' _ hd, rfl⟩

/-- the mask of the positions not yet read: bits `j … W-1` -/
theorem testBit_pow_sub_pow {j : Nat} (hj : j ≤ W) (i : Nat) :
    (2^W - 2^j).testBit i = (decide (j ≤ i) && decide (i < W)) := by
  have e : 2^W - 2^j = 2^j * (2^(W-j) - 1) := by
    rw [Nat.mul_sub, ← Nat.pow_add, Nat.mul_one, Nat.add_sub_cancel' hj]
  rw [e, Nat.testBit_two_pow_mul, Nat.testBit_two_pow_sub_one]
  by_cases h : j ≤ i
  · rw [decide_eq_true h, Bool.true_and, Bool.true_and]
    exact decide_eq_decide.mpr (Nat.sub_lt_sub_iff_right h)
  · rw [decide_eq_false h, Bool.false_and, Bool.false_and]

theorem maybeExhausted_of_mask_zero (hW : 1 ≤ W) (hm : d.mask = 0) :
    QDecoder.maybeExhausted W d = d.rest.isEmpty := by
  rw [QDecoder.maybeExhausted, hm, wsub_zero_one hW, Nat.sub_self, Nat.and_zero]
  rfl

theorem maybeExhausted_of_mask_pow {j : Nat} (hj : j < W) (hm : d.mask = 2^j) :
    QDecoder.maybeExhausted W d = ((d.cw &&& (2^W - 2^j)) == 0 && d.rest.isEmpty) := by
  rw [QDecoder.maybeExhausted, hm,
    wsub_of_le (Nat.two_pow_pos j) (pow_lt_pow2 hj),
    Nat.sub_sub_sub_cancel_right (Nat.two_pow_pos j)]

theorem maybeExhausted_of_zero_tail (hW : 1 ≤ W) (hI : QDecoder.Inv W d)
    (hr : d.rest = []) (hz : ∀ b ∈ QDecoder.bits W d, b = false) :
    QDecoder.maybeExhausted W d = true := by
  rcases hI with hm | ⟨j, hj, hm⟩
  · rw [maybeExhausted_of_mask_zero hW hm, hr]
    rfl
  · have hand : d.cw &&& (2^W - 2^j) = 0 := by
      apply Nat.eq_of_testBit_eq
      intro i
      rw [Nat.testBit_and, Nat.zero_testBit, testBit_pow_sub_pow (Nat.le_of_lt hj)]
      by_cases hi : j ≤ i ∧ i < W
      · -- an unread position of the current word: one of the remaining bits
        have hmem : d.cw.testBit i ∈ QDecoder.bits W d := by
          rw [QDecoder.bits, QDecoder.pos_pow hj hm, hr, List.flatMap_nil, List.append_nil]
          have hlen : i - j < ((lowBits W d.cw).drop j).length := by simp; omega
          have hget : ((lowBits W d.cw).drop j)[i - j] = d.cw.testBit i := by
            simp [lowBits, Nat.add_sub_cancel' hi.1]
          exact hget ▸ List.getElem_mem hlen
        rw [hz _ hmem, Bool.false_and]
      · have : (decide (j ≤ i) && decide (i < W)) = false := by simpa using hi
        rw [this, Bool.and_false]
    rw [maybeExhausted_of_mask_pow hj hm, hand, hr]
    rfl

/-- after draining a queue decoder `maybe_exhausted` answers `true` -/
theorem maybeExhausted_of_bits_nil {W : Nat} (hW : 1 ≤ W) {d : QDecoder} (hI : QDecoder.Inv W d)
    (h : QDecoder.bits W d = []) : QDecoder.maybeExhausted W d = true :=
  maybeExhausted_of_zero_tail hW hI (QDecoder.rest_eq_nil (by rw [h]; exact hW))
    (by rw [h]; exact fun _ hb => nomatch hb)

theorem Queue.intoOvershootingIter_spec (hW : 1 ≤ W) (hI : Inv W c) :
    ∃ d', Queue.intoOvershootingIter W c = .ok (padTo W (bits W c), d') ∧ QDecoder.Inv W d' ∧
      QDecoder.bits W d' = [] := by
  have hd := queue_intoDecoder_padTo hW hI
  rw [← hd.2]
  exact QDecoder.iter_spec hW hd.1

theorem stack_spec_reads (W n : Nat) (l : List Bool) (h : l.length = n) :
    run (Stack.spec W) (List.replicate n SOp.read) l =
      (l.reverse.map (fun b => Out.bit (some b)), []) := by
  induction n generalizing l with
  | zero =>
    have : l = [] := List.length_eq_zero_iff.mp h
    subst this; rfl
  | succ n ih =>
    rcases List.eq_nil_or_concat l with rfl | ⟨l', b, rfl⟩
    · simp at h
    · have hl' : l'.length = n := by simpa using h
      have ih := ih l' hl'
      simp only [List.replicate_succ, run, Stack.spec, Out.isFault, Bool.false_eq_true, if_false]
      simp [ih]

theorem qdecoder_spec_reads (l : List Bool) :
    run QDecoder.spec (List.replicate l.length DOp.read) l =
      (l.map (fun b => Out.bit (some b)), []) := by
  induction l with
  | nil => rfl
  | cons b t ih =>
    simp only [List.length_cons, List.replicate_succ, run, QDecoder.spec, List.head?_cons,
      List.tail_cons, Out.isFault, Bool.false_eq_true, if_false, ih, List.map_cons]

end CV.Bits
