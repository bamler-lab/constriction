import CV.Proofs.RangeBasic
import CV.Spec.RangeSpec
/-!
# Word lists as big-endian numbers in base `2^W`

`val W l` is the value of the digit list `l`; `pre W ws k` is the value of the first `k`
digits of `ws` padded with zero words (what a decoder sees of a finite stream).
-/
namespace CV.Range
variable {c : Cfg} {Sym : Type}

/-- value of a word list behind an accumulator: the shape of the reading loop of `read_point`,
    which shifts each word into `point` (`readPointLoop_eq`) -/
def valAux (W : Nat) (acc : Nat) (l : List Nat) : Nat := l.foldl (fun a w => a * 2^W + w) acc

def val (W : Nat) (l : List Nat) : Nat := valAux W 0 l

theorem valAux_nil (W acc : Nat) : valAux W acc [] = acc := rfl
theorem valAux_cons (W acc w : Nat) (l : List Nat) :
    valAux W acc (w :: l) = valAux W (acc * 2^W + w) l := rfl

theorem valAux_append (W acc : Nat) (l r : List Nat) :
    valAux W acc (l ++ r) = valAux W (valAux W acc l) r := by
  unfold valAux; rw [List.foldl_append]

theorem valAux_eq (W : Nat) (l : List Nat) : ∀ acc, valAux W acc l = acc * (2^W)^l.length + val W l := by
  induction l with
  | nil => intro acc; simp [valAux_nil, val]
  | cons w l ih =>
    intro acc
    have h1 : val W (w :: l) = w * (2^W)^l.length + val W l := by
      show valAux W 0 (w :: l) = _
      rw [valAux_cons, ih]; simp
    rw [valAux_cons, ih, h1, List.length_cons, Nat.pow_succ', Nat.add_mul, Nat.mul_assoc,
      Nat.add_assoc]

@[simp] theorem val_nil (W : Nat) : val W [] = 0 := rfl

theorem val_append (W : Nat) (l r : List Nat) :
    val W (l ++ r) = val W l * (2^W)^r.length + val W r := by
  rw [val, valAux_append, valAux_eq]; rfl

theorem val_singleton (W w : Nat) : val W [w] = w := by simp [val, valAux]

theorem val_snoc (W : Nat) (l : List Nat) (w : Nat) : val W (l ++ [w]) = val W l * 2^W + w := by
  rw [val_append, val_singleton]; simp

theorem val_cons (W w : Nat) (l : List Nat) : val W (w :: l) = w * (2^W)^l.length + val W l := by
  have := val_append W [w] l
  rw [val_singleton] at this
  exact this

theorem val_replicate_zero (W k : Nat) : val W (List.replicate k 0) = 0 := by
  induction k with
  | zero => rfl
  | succ k ih => rw [List.replicate_succ, val_cons, ih]; simp

theorem val_replicate_max (W k : Nat) : val W (List.replicate k (2^W - 1)) + 1 = (2^W)^k := by
  induction k with
  | zero => rfl
  | succ k ih =>
    have hb := Nat.two_pow_pos W
    rw [List.replicate_succ', val_snoc, Nat.pow_succ, ← ih, Nat.add_mul, Nat.one_mul]
    omega

theorem val_carry (W : Nat) (l : List Nat) (first k : Nat) :
    val W (l ++ (first + 1) :: List.replicate k 0)
      = val W (l ++ first :: List.replicate k (2^W - 1)) + 1 := by
  rw [val_append, val_append, val_cons, val_cons, val_replicate_zero, Nat.add_mul, Nat.one_mul]
  simp only [List.length_cons, List.length_replicate]
  have := val_replicate_max W k
  omega

/-! ### prefixes of a zero-padded stream -/

/-- value of the first `k` words of `ws ++ 0 0 0 …` -/
def pre (W : Nat) (ws : List Nat) : Nat → Nat
  | 0 => 0
  | k + 1 => pre W ws k * 2^W + ws.getD k 0

theorem pre_eq_val_take (W : Nat) (ws : List Nat) : ∀ k, k ≤ ws.length →
    pre W ws k = val W (ws.take k) := by
  intro k
  induction k with
  | zero => intro _; simp [pre]
  | succ k ih =>
    intro hk
    have hk' : k < ws.length := hk
    rw [pre, ih (Nat.le_of_lt hk'), List.take_add_one, val_append]
    simp [List.getD, List.getElem?_eq_getElem hk', val_singleton]

theorem pre_length (W : Nat) (ws : List Nat) : pre W ws ws.length = val W ws := by
  rw [pre_eq_val_take W ws _ (Nat.le_refl _), List.take_length]

theorem pre_append_left (W : Nat) (l r : List Nat) : ∀ k, k ≤ l.length →
    pre W (l ++ r) k = pre W l k := by
  intro k
  induction k with
  | zero => intro _; rfl
  | succ k ih =>
    intro hk
    have hk' : k < l.length := hk
    rw [pre, pre, ih (Nat.le_of_lt hk')]
    simp [List.getD, List.getElem?_append_left hk']

theorem pre_pad (W : Nat) (ws : List Nat) (k : Nat) (hz : ∀ j, k ≤ j → ws.getD j 0 = 0) :
    ∀ j, pre W ws (k + j) = pre W ws k * (2^W)^j := by
  intro j
  induction j with
  | zero => simp
  | succ j ih =>
    rw [← Nat.add_assoc, pre, ih, hz (k + j) (Nat.le_add_right _ _), Nat.pow_succ, Nat.add_zero,
      Nat.mul_assoc]

theorem getD_of_length_le (ws : List Nat) (j : Nat) (h : ws.length ≤ j) : ws.getD j 0 = 0 := by
  simp [List.getD, List.getElem?_eq_none h]

theorem pre_drop (W : Nat) (ws : List Nat) (p : Nat) : ∀ k,
    pre W ws (p + k) = pre W ws p * (2^W)^k + pre W (ws.drop p) k := by
  intro k
  induction k with
  | zero => simp [pre]
  | succ k ih =>
    rw [← Nat.add_assoc, pre, ih, pre, Nat.pow_succ]
    have : (ws.drop p).getD k 0 = ws.getD (p + k) 0 := by
      simp only [List.getD, List.getElem?_drop]
    rw [this, Nat.add_mul, Nat.mul_assoc, Nat.add_assoc]

theorem pre_cons (W w : Nat) (rest : List Nat) (k : Nat) :
    pre W (w :: rest) (k + 1) = w * (2^W)^k + pre W rest k := by
  have := pre_drop W (w :: rest) 1 k
  rw [Nat.add_comm] at this
  rw [this]
  simp only [pre, Nat.zero_mul, Nat.zero_add, List.getD_cons_zero, List.drop_succ_cons,
    List.drop_zero]

theorem pre_of_getD_zero (W : Nat) {l : List Nat} (h : ∀ j, l.getD j 0 = 0) :
    ∀ k, pre W l k = 0
  | 0 => rfl
  | k + 1 => by rw [pre, pre_of_getD_zero W h k, h k, Nat.zero_mul]

theorem pre_lt {ws : List Nat} (h : WordsOK c ws) : ∀ k, pre c.W ws k < (2^c.W)^k := by
  intro k
  induction k with
  | zero => simp [pre]
  | succ k ih =>
    rw [pre, Nat.pow_succ]
    exact mul_add_lt_mul ih (h.getD k)

theorem val_lt {c : Cfg} {l : List Nat} (h : WordsOK c l) : val c.W l < (2^c.W)^l.length := by
  rw [← pre_length]; exact pre_lt h _

/-! ### the reference's `digits` -/

open RangeSpec in
theorem length_digits (W : Nat) : ∀ k x, (digits W k x).length = k := by
  intro k
  induction k with
  | zero => intro x; rfl
  | succ k ih => intro x; simp [digits, ih]

open RangeSpec in
theorem digits_wordsOK (c : Cfg) : ∀ k x, WordsOK c (digits c.W k x) := by
  intro k
  induction k with
  | zero => intro x; exact WordsOK.nil
  | succ k ih =>
    intro x
    exact (ih (x / 2^c.W)).append
      (WordsOK.cons (Nat.mod_lt _ (Nat.two_pow_pos _)) WordsOK.nil)

open RangeSpec in
theorem val_digits (W : Nat) : ∀ k x, val W (digits W k x) = x % (2^W)^k := by
  intro k
  induction k with
  | zero => intro x; simp [digits, Nat.mod_one]
  | succ k ih =>
    intro x
    rw [digits, val_snoc, ih, Nat.pow_succ, Nat.mul_comm ((2^W)^k) (2^W), Nat.mod_mul,
      Nat.mul_comm, Nat.add_comm]

open RangeSpec in
theorem digits_val_aux : ∀ k (l : List Nat), l.length = k → WordsOK c l →
    digits c.W k (val c.W l) = l := by
  intro k
  induction k with
  | zero =>
    intro l hl _
    rw [List.length_eq_zero_iff.mp hl]; rfl
  | succ k ih =>
    intro l hlen h
    rcases List.eq_nil_or_concat l with hnil | ⟨L, w, rfl⟩
    · rw [hnil] at hlen; simp at hlen
    · have hw : w < 2^c.W := h w (by simp)
      have hL : WordsOK c L := fun x hx => h x (by simp [hx])
      have hLlen : L.length = k := by simpa using hlen
      rw [List.concat_eq_append]
      rw [digits, val_snoc]
      rw [mul_add_div_of_lt hw, mul_add_mod_of_lt hw, ih L hLlen hL]

open RangeSpec in
theorem digits_val (l : List Nat) (h : WordsOK c l) :
    digits c.W l.length (val c.W l) = l := digits_val_aux l.length l rfl h

open RangeSpec in
theorem pre_digits_append (W : Nat) {k Y : Nat} (hY : Y < (2^W)^k) (rest : List Nat) (j : Nat) :
    pre W (digits W k Y ++ rest) (k + j) = Y * (2^W)^j + pre W rest j := by
  have hlen := length_digits W k Y
  have h1 := pre_length W (digits W k Y)
  rw [hlen, val_digits, Nat.mod_eq_of_lt hY] at h1
  rw [pre_drop, pre_append_left _ _ _ _ (Nat.le_of_eq hlen.symm), List.drop_left' hlen, h1]

end CV.Range
