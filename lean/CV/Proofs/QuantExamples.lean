import CV.Proofs.QuantModels
/-!
# Concrete instances satisfying the hypotheses of the `quant` theorems (non-vacuity), and
pre-repair variants of the code on which the same obligations fail (`…_counterexample`)
-/
namespace CV.Quant

/-! ### fast / lazy: `P = 12`, `u16`, four symbols -/

def exH : Nat → Nat := fun i => i * 1000

theorem exFastOk : FastOk 16 12 4 := ⟨by decide, by decide, by decide, by decide⟩
theorem exFree : freeWeight 16 12 4 = 2 ^ 12 - 4 := freeWeight_eq exFastOk
theorem exTBF1 : TBF1Fast exH 4 := ⟨fun i _ => by unfold exH; omega, rfl⟩
theorem exTBF2 : TBF2 12 4 (2 ^ 12 - 4) exH (fun _ => 1) := by
  intro q _
  show 1 ≤ 1 ∧ 1 ≤ 4 ∧ cumF 12 4 (2 ^ 12 - 4) exH (1 - 1) ≤ q
  refine ⟨Nat.le_refl _, by omega, ?_⟩
  rw [cumF_zero exFastOk exTBF1.zero]; omega

/-- `P = B`: the total wraps to `0` in `Probability` -/
theorem exFastOkFull : FastOk 8 8 3 := ⟨by decide, by decide, by decide, by decide⟩

/-! ### leaky quantizer: `i8` symbols (narrower than `Probability = u16`), `P = 12` -/

def exLQ : LQ := { t := ⟨8, true⟩, B := 16, P := 12, min := -3, max := 3, free := 4089 }
def exG : Int → Nat := fun s => (s + 3).toNat * 600

theorem exLQ_ok : exLQ.Ok :=
  ⟨by decide, by decide, by decide, by decide, by decide, by decide, by decide, by decide⟩

theorem exG_ok : GOk exLQ exG := by
  constructor
  · intro s _ _
    exact Nat.mul_le_mul_right 600 (Int.toNat_le_toNat (by omega))
  · intro s _ h2
    have h2' : s ≤ 3 := h2
    have : (s + 3).toNat ≤ 6 := by omega
    exact Nat.le_trans (Nat.mul_le_mul_right 600 this) (by decide)

/-- a signed symbol type whose support spans more than half of the type (accepted since D10) -/
def exLQwide : LQ := { t := ⟨8, true⟩, B := 16, P := 12, min := -128, max := 126, free := 3841 }
theorem exLQwide_ok : exLQwide.Ok :=
  ⟨by decide, by decide, by decide, by decide, by decide, by decide, by decide, by decide⟩
theorem exLQwide_new : LQ.new ⟨8, true⟩ 16 12 (-128) 126 = .ok exLQwide := by rfl

/-- `P = B = 8` with a full `u8` support: `free = 0` -/
def exLQfull : LQ := { t := ⟨8, false⟩, B := 8, P := 8, min := 0, max := 255, free := 0 }
theorem exLQfull_ok : exLQfull.Ok :=
  ⟨by decide, by decide, by decide, by decide, by decide, by decide, by decide, by decide⟩
theorem exGfull_ok : GOk exLQfull (fun _ => 0) := ⟨fun _ _ _ => Nat.le_refl _, fun _ _ _ => Nat.le_refl _⟩

/-! ### the code before the repairs: the obligations fail -/

/-- D4: without the clamp, `h` one quantum above `free` leaves nothing for the last symbol:
    `P = 3`, three symbols, `free = 5`, `h = [0, 3, 6]` gives the cdf `[0, 4, 8, 8]` -/
theorem D4_counterexample :
    let h : Nat → Nat := fun i => i * 3
    Mono h 3 ∧ h 0 = 0 ∧
    (List.range 3).map (fun i => h i + i) ++ [2 ^ 3] = [0, 4, 8, 8] := by decide

/-- D1: the pre-repair iterator used `g symbol` instead of `g next_symbol` for the right end of
    `symbol`: on `exLQ`/`exG` its first entry is `(min, 0, g min + 1) = (-3, 0, 1)`, while the
    encoder answers `(0, 601)` for `-3` -/
theorem D1_counterexample :
    exG (-3) + slack exLQ.t exLQ.B (-3 + 1) exLQ.min = 1 ∧
    exLQ.enc (extL exG) (extR exG) (-3) = .ok (some (0, 601)) := ⟨by decide, by rfl⟩

/-- D16: `step << 1 != 0` lets an `i8` step of `64` become `-128` -/
theorem D16_counterexample :
    (⟨8, true⟩ : SymTy).wrap (64 * 2) = -128 ∧ (⟨8, true⟩ : SymTy).wrap (64 * 2) ≠ 0 ∧
    exLQ.dbl 64 = 64 := by decide

/-- D10: `65542` symbols at `u16`/`P = 12` truncate to `6`; the repaired `new` rejects them -/
theorem D10_counterexample :
    narrow 16 65541 = 5 ∧ ∃ f, LQ.new ⟨32, true⟩ 16 12 0 65541 = .error f := by
  refine ⟨by decide, ?_⟩
  exact LQ.new_rejects (by decide) (by decide)

end CV.Quant
