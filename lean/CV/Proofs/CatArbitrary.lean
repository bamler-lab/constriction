import CV.Proofs.CatComplete
/-!
# `from_iterable_entropy_model` on an arbitrary symbol table (D31, D32)

`IterableEntropyModel` is a safe trait: the table handed to the non-contiguous constructors
may be anything of the right *type* (`Typed`: probabilities are `NonZero`, all values `< 2^B`).
-/
namespace CV.Cat
open CV

def Typed {Sym : Type} (B : Nat) (t : List (Sym × Nat × Nat)) : Prop :=
  ∀ e ∈ t, 0 < e.2.2 ∧ e.2.2 < 2 ^ B ∧ e.2.1 < 2 ^ B

theorem Typed.tail {Sym : Type} {B : Nat} {x : Sym × Nat × Nat} {t : List (Sym × Nat × Nat)}
    (h : Typed B (x :: t)) : Typed B t := fun e he => h e (by simp [he])

theorem Typed.probs_pos {Sym : Type} {B : Nat} {t : List (Sym × Nat × Nat)} (h : Typed B t) :
    ∀ q ∈ t.map (fun x => x.2.2), 0 < q := by
  intro q hq
  obtain ⟨e, he, rfl⟩ := List.mem_map.mp hq
  exact (h e he).1

theorem fromTableCheck_error {Sym : Type} {B T1 : Nat} {t : List (Sym × Nat × Nat)} (ht : Typed B t)
    {e : Nat} {c : Bool} {cdf : List (Nat × Sym)} {f : Fault}
    (h : NcDec.fromTableCheck B T1 t e c cdf = .error f) : ∃ site, f = .panic site := by
  induction t generalizing e c cdf with
  | nil => simp [NcDec.fromTableCheck] at h
  | cons x t ih =>
    obtain ⟨s, l, p⟩ := x
    have hp : 0 < p := (ht (s, l, p) (by simp)).1
    simp only [NcDec.fromTableCheck] at h
    by_cases h1 : c = true ∨ l ≠ e
    · rw [if_pos h1] at h
      simp only [Except.error.injEq] at h
      exact ⟨_, h.symm⟩
    · rw [if_neg h1] at h
      unfold csub at h
      rw [if_pos (by omega)] at h
      simp only at h
      by_cases h2 : ¬ (p - 1 ≤ wsub B T1 l)
      · rw [if_pos h2] at h
        simp only [Except.error.injEq] at h
        exact ⟨_, h.symm⟩
      · rw [if_neg h2] at h
        exact ih ht.tail h

theorem fromTableCheck_complete {Sym : Type} {B T1 e : Nat} {t : List (Sym × Nat × Nat)}
    {cdf : List (Nat × Sym)} {r : Bool × List (Nat × Sym)}
    (h : NcDec.fromTableCheck B T1 t e true cdf = .ok r) : t = [] ∧ r = (true, cdf) := by
  cases t with
  | nil => simp [NcDec.fromTableCheck] at h; exact ⟨rfl, h.symm⟩
  | cons x t => obtain ⟨s, l, p⟩ := x; simp [NcDec.fromTableCheck] at h

theorem fromTableCheck_ok {Sym : Type} {B P : Nat} (hP : P ≤ B)
    {t : List (Sym × Nat × Nat)} (ht : Typed B t) :
    ∀ {e : Nat} {cdf0 cdf : List (Nat × Sym)} {c : Bool}, e < 2 ^ P →
      NcDec.fromTableCheck B (2 ^ P - 1) t e false cdf0 = .ok (c, cdf) →
      cdf = cdf0 ++ t.map (fun x => (x.2.1, x.1)) ∧
      t.map (fun x => x.2.1) = psums e (t.map (fun x => x.2.2)) ∧
      (c = true → t ≠ [] ∧ e + (t.map (fun x => x.2.2)).sum = 2 ^ P) := by
  induction t with
  | nil =>
    intro e cdf0 cdf c he h
    simp only [NcDec.fromTableCheck, Except.ok.injEq, Prod.mk.injEq] at h
    refine ⟨by simp [h.2], by simp [psums], ?_⟩
    intro hc; rw [← h.1] at hc; simp at hc
  | cons x t ih =>
    intro e cdf0 cdf c he h
    obtain ⟨s, l, p⟩ := x
    have hp0 : 0 < p := (ht (s, l, p) (by simp)).1
    have hpB : p < 2 ^ B := (ht (s, l, p) (by simp)).2.1
    obtain ⟨rfl, hle, h⟩ := (fromTableCheck_cons_ok hP hp0 he).mp h
    by_cases hc : l + p = 2 ^ P
    · rw [decide_eq_true hc] at h
      obtain ⟨rfl, hr⟩ := fromTableCheck_complete h
      simp only [Prod.mk.injEq] at hr
      exact ⟨by rw [hr.2]; simp, by simp [psums], fun _ => ⟨by simp, by simpa using hc⟩⟩
    · rw [decide_eq_false hc, wadd_of_lt (by have := pow_le_pow2 hP; omega)] at h
      obtain ⟨a1, a2, a3⟩ := ih ht.tail (e := l + p) (by omega) h
      refine ⟨by rw [a1]; simp, by simp [psums, a2], fun hct => ?_⟩
      obtain ⟨_, b2⟩ := a3 hct
      exact ⟨by simp, by simp only [List.map_cons, List.sum_cons]; omega⟩

/-- a single symbol that carries the whole mass: only a lying source can present it, and only
    if `P < B` -/
theorem NcDec.dec_single {Sym : Type} {B P : Nat} (hlt : P < B) (s last : Sym) (q : Nat) :
    ∃ r, NcDec.dec B { cdf := [(0, s), (wrappingPow2 B P, last)] } q = .ok r := by
  have hw : wsub B (2 ^ P) 0 = 2 ^ P := wsub_of_le (Nat.zero_le _) (pow_lt_pow2 hlt)
  rw [wrappingPow2_of_lt hlt]
  -- the search over the one-element slice `[0]` answers `1`, whatever `q` is
  exact ⟨(s, 0, 2 ^ P), by simp [NcDec.dec, cdfQuantile, csub, bsearch, bsearchLoop, hw]⟩

/-- **D32**: `NonContiguousCategoricalDecoderModel::from_iterable_entropy_model` on an arbitrary
    typed table panics cleanly or returns a model whose `quantile_function` never faults -/
theorem NcDec.fromTable_arbitrary {Sym : Type} [Inhabited Sym] {B P : Nat} (hP1 : 1 ≤ P) (hP : P ≤ B)
    {t : List (Sym × Nat × Nat)} (ht : Typed B t) :
    (∃ site, NcDec.fromTable B P t = .error (.panic site)) ∨
    (∃ m, NcDec.fromTable B P t = .ok m ∧ ∀ q, ∃ r, m.dec B q = .ok r) := by
  have h2P := Nat.two_pow_pos P
  unfold NcDec.fromTable
  rw [wsub_total_one hP1 hP]
  cases hck : NcDec.fromTableCheck B (2 ^ P - 1) t 0 false [] with
  | error f =>
    obtain ⟨site, rfl⟩ := fromTableCheck_error ht hck
    exact Or.inl ⟨site, rfl⟩
  | ok r =>
    obtain ⟨c, cdf⟩ := r
    simp only
    cases c with
    | false => exact Or.inl ⟨_, rfl⟩
    | true =>
      obtain ⟨a1, a2, a3⟩ := fromTableCheck_ok hP ht (e := 0) h2P hck
      obtain ⟨hne, hsum⟩ := a3 rfl
      simp only [List.nil_append, Nat.zero_add] at a1 hsum
      rw [if_neg (by simp)]
      cases hl : cdf.getLast? with
      | none =>
        exfalso
        have := List.getLast?_eq_none_iff.mp hl
        rw [a1] at this
        exact hne (List.map_eq_nil_iff.mp this)
      | some x =>
        obtain ⟨cl, last⟩ := x
        right
        refine ⟨_, rfl, ?_⟩
        have hpos := ht.probs_pos
        have hfst : (cdf ++ [(wrappingPow2 B P, last)]).map (·.1) =
            wrapCdf B P (extOf (t.map (fun x => x.2.2))) := by
          rw [wrapCdf_extOf, List.map_append, a1, List.map_map]
          simp only [List.map_cons, List.map_nil]
          rw [← a2]
          simp [Function.comp_def]
        rcases Nat.lt_or_ge (t.map (fun x => x.2.2)).length 2 with hshort | hlong
        · -- exactly one entry
          match t, hne, hshort, a1, a2, hsum, ht with
          | [(s, l, p)], _, _, a1, a2, hsum, ht =>
            simp only [List.map_cons, List.map_nil, psums, List.cons.injEq, and_true] at a2
            simp only [List.map_cons, List.map_nil, List.sum_cons, List.sum_nil, Nat.add_zero] at hsum
            have hpB := (ht (s, l, p) (by simp)).2.1
            simp only at hpB
            -- the one probability `2^P` is of type `Probability`
            have hlt : P < B := lt_of_pow_le_lt (Nat.le_of_eq hsum.symm) hpB
            intro q
            rw [a1]
            simp only [List.map_cons, List.map_nil, List.cons_append, List.nil_append, a2]
            exact NcDec.dec_single hlt s last q
        · have hv : ValidProbs P (t.map (fun x => x.2.2)) := ⟨hlong, hpos, hsum⟩
          have hvalid : ValidCdf B P ((cdf ++ [(wrappingPow2 B P, last)]).map (·.1)) := by
            rw [hfst]; exact wrapCdf_valid (extOf_valid hv)
          intro q
          exact NcDec.dec_total (m := { cdf := cdf ++ [(wrappingPow2 B P, last)] }) hvalid hP q

theorem fromTableLoop_error {Sym : Type} {B : Nat} {dbg : Bool} {t : List (Sym × Nat × Nat)}
    {cdf : List (Nat × Sym)} {tbl : Array Nat} {f : Fault}
    (h : NcLookup.fromTableLoop B dbg t cdf tbl = .error f) : ∃ site, f = .panic site := by
  induction t generalizing cdf tbl with
  | nil => simp [NcLookup.fromTableLoop] at h
  | cons x t ih =>
    obtain ⟨s, l, p⟩ := x
    simp only [NcLookup.fromTableLoop] at h
    split at h
    · simp only [Except.error.injEq] at h; exact ⟨_, h.symm⟩
    · exact ih h

/-- the debug assertion only adds panics -/
theorem fromTableLoop_dbg {Sym : Type} {B : Nat} {dbg : Bool} {t : List (Sym × Nat × Nat)}
    {cdf : List (Nat × Sym)} {tbl : Array Nat} {r : List (Nat × Sym) × Array Nat}
    (h : NcLookup.fromTableLoop B dbg t cdf tbl = .ok r) :
    NcLookup.fromTableLoop B false t cdf tbl = .ok r := by
  induction t generalizing cdf tbl with
  | nil => simpa [NcLookup.fromTableLoop] using h
  | cons x t ih =>
    obtain ⟨s, l, p⟩ := x
    simp only [NcLookup.fromTableLoop] at h ⊢
    split at h
    · simp at h
    · rw [if_neg (by simp)]; exact ih h

/-- without the debug assertion the claimed left cumulatives are ignored -/
theorem fromTableLoop_false_congr {Sym : Type} {B : Nat} (t t' : List (Sym × Nat × Nat))
    (hs : t.map (fun x => x.1) = t'.map (fun x => x.1))
    (hp : t.map (fun x => x.2.2) = t'.map (fun x => x.2.2))
    (cdf : List (Nat × Sym)) (tbl : Array Nat) :
    NcLookup.fromTableLoop B false t cdf tbl = NcLookup.fromTableLoop B false t' cdf tbl := by
  induction t generalizing t' cdf tbl with
  | nil =>
    cases t' with
    | nil => rfl
    | cons y t' => cases hs
  | cons x t ih =>
    cases t' with
    | nil => cases hs
    | cons y t' =>
      obtain ⟨s, l, p⟩ := x
      obtain ⟨s', l', p'⟩ := y
      simp only [List.map_cons, List.cons.injEq] at hs hp
      obtain ⟨⟨rfl, hs⟩, rfl, hp⟩ := hs, hp
      simp only [NcLookup.fromTableLoop]
      rw [if_neg (by simp), if_neg (by simp)]
      exact ih t' hs hp _ _

theorem vecResize_size (v : Array Nat) (p x : Nat) : (vecResize v (v.size + p) x).size = v.size + p := by
  unfold vecResize
  by_cases h : v.size + p ≤ v.size
  · rw [if_pos h]
    have : p = 0 := by omega
    subst this; simp
  · rw [if_neg h]; simp

theorem fromTableLoop_size {Sym : Type} {B : Nat} {t : List (Sym × Nat × Nat)}
    {cdf cdf' : List (Nat × Sym)} {tbl tbl' : Array Nat}
    (h : NcLookup.fromTableLoop B false t cdf tbl = .ok (cdf', tbl')) :
    tbl'.size = tbl.size + (t.map (fun x => x.2.2)).sum := by
  induction t generalizing cdf tbl with
  | nil =>
    simp only [NcLookup.fromTableLoop, Except.ok.injEq, Prod.mk.injEq] at h
    simp [h.2]
  | cons x t ih =>
    obtain ⟨s, l, p⟩ := x
    simp only [NcLookup.fromTableLoop] at h
    rw [if_neg (by simp)] at h
    rw [ih h, vecResize_size, List.map_cons, List.sum_cons, Nat.add_assoc]

theorem NcLookup.dec_single {Sym : Type} {B P : Nat} (hlt : P < B) (s last : Sym) {q : Nat}
    (hq : q < 2 ^ P) :
    ∃ r, NcLookup.dec B P { tbl := vecResize #[] (0 + 2 ^ P) (narrow B 0),
                            cdf := [(narrow B 0, s), (wrappingPow2 B P, last)] } q = .ok r := by
  have hw : wsub B (2 ^ P) 0 = 2 ^ P := wsub_of_le (Nat.zero_le _) (pow_lt_pow2 hlt)
  rw [wrappingPow2_of_lt hlt]
  -- every entry of the table is `0`, and the one bin `[0, 2^P)` has non-zero width
  exact ⟨(s, 0, 2 ^ P), by simp [NcLookup.dec, lookupQuantile, vecResize, narrow, hq, hw]⟩

/-- **D31**: `NonContiguousLookupDecoderModel::from_iterable_entropy_model`, with or without
    debug assertions, on an arbitrary typed table -/
theorem NcLookup.fromTableWith_arbitrary {Sym : Type} [DecidableEq Sym] [Inhabited Sym] {B P : Nat}
    (hP : P ≤ B) (dbg : Bool) {t : List (Sym × Nat × Nat)} (ht : Typed B t) :
    (∃ site, NcLookup.fromTableWith B P dbg t = .error (.panic site)) ∨
    (∃ m, NcLookup.fromTableWith B P dbg t = .ok m ∧ ∀ q, q < 2 ^ P → ∃ r, m.dec B P q = .ok r) := by
  have h2P := Nat.two_pow_pos P
  unfold NcLookup.fromTableWith
  cases hloop : NcLookup.fromTableLoop B dbg t [] #[] with
  | error f =>
    obtain ⟨site, rfl⟩ := fromTableLoop_error hloop
    exact Or.inl ⟨site, rfl⟩
  | ok r =>
    obtain ⟨cdf, tbl⟩ := r
    simp only
    cases hl : cdf.getLast? with
    | none => exact Or.inl ⟨_, rfl⟩
    | some x =>
      obtain ⟨cl, last⟩ := x
      simp only
      by_cases hsz : tbl.size ≠ 2 ^ P
      · rw [if_pos hsz]; exact Or.inl ⟨_, rfl⟩
      · rw [if_neg hsz]
        right
        refine ⟨_, rfl, ?_⟩
        have hsz' : tbl.size = 2 ^ P := by omega
        have hfalse := fromTableLoop_dbg hloop
        have hsum := fromTableLoop_size hfalse
        simp only [Array.size_empty, Nat.zero_add] at hsum
        rw [hsz'] at hsum
        have hpos := ht.probs_pos
        rcases Nat.lt_or_ge (t.map (fun x => x.2.2)).length 2 with hshort | hlong
        · match t, hshort, hsum, ht, hfalse with
          | [], _, hsum, _, _ => exfalso; simp at hsum
          | [(s, l, p)], _, hsum, ht, hfalse =>
            simp only [List.map_cons, List.map_nil, List.sum_cons, List.sum_nil, Nat.add_zero] at hsum
            have hpB := (ht (s, l, p) (by simp)).2.1
            simp only at hpB
            have hlt : P < B := lt_of_pow_le_lt (Nat.le_of_eq hsum) hpB
            simp only [NcLookup.fromTableLoop] at hfalse
            rw [if_neg (by simp)] at hfalse
            simp only [List.nil_append, List.length_nil, Array.size_empty, Except.ok.injEq,
              Prod.mk.injEq] at hfalse
            obtain ⟨rfl, rfl⟩ := hfalse
            subst hsum
            intro q hq
            simp only [List.cons_append, List.nil_append]
            exact NcLookup.dec_single (B := B) hlt s last hq
        · -- at least two entries: a valid table; the loop is the one on the specification's table
          have hv : ValidProbs P (t.map (fun x => x.2.2)) := ⟨hlong, hpos, hsum.symm⟩
          have hext := extOf_valid hv
          have hlen : (t.map (fun x => x.1)).length = (t.map (fun x => x.2.2)).length := by simp
          have hcongr := fromTableLoop_false_congr (B := B) t
            (triples (t.map (fun x => x.1)) (t.map (fun x => x.2.2)))
            (triples_syms hlen).symm (triples_probs hlen).symm [] #[]
          rw [hcongr, triples_eq_specTable hlen] at hfalse
          obtain ⟨tbl', f1, hok⟩ := fromTableLoop_specTable (B := B) hext hP
            (fun i => (t.map (fun x => x.1)).getD i default) false
          rw [f1] at hfalse
          simp only [Except.ok.injEq, Prod.mk.injEq] at hfalse
          obtain ⟨hc, htb⟩ := hfalse
          have hll : (labelsOf (fun i => (t.map (fun x => x.1)).getD i default)
              ((extOf (t.map (fun x => x.2.2))).length - 1)).length + 1 =
              (extOf (t.map (fun x => x.2.2))).length := by
            rw [labelsOf_length]; have := hext.1; omega
          intro q hq
          have := NcLookup.dec_canon (B := B) (last := last) (tbl := tbl') hext hll hP hok hq
          rw [← hc, ← htb]
          exact ⟨_, this⟩

end CV.Cat
