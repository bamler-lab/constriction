import CV.Model.Machine
/-!
# Arithmetic shared by all components (core Lean only)

Powers of two, the conversion of bit operations to `* / % +`, the nonlinear facts about `/` and `%`
that `omega` does not see, what the checked and wrapping operations of `CV.Model.Machine`
return on arguments that fit (and how the checked ones fail), and the inequalities between `W`, `S`,
`P` that `Cfg.Valid` gives.
-/
namespace CV

theorem two_pow_pos' (n : Nat) : 0 < 2^n := Nat.two_pow_pos n

theorem pow_split {a b : Nat} (h : b ≤ a) : (2:Nat)^a = 2^(a-b) * 2^b := by
  rw [← Nat.pow_add, Nat.sub_add_cancel h]

theorem pow_le_pow2 {a b : Nat} (h : a ≤ b) : 2^a ≤ 2^b := Nat.pow_le_pow_right Nat.two_pos h

theorem pow_lt_pow2 {a b : Nat} (h : a < b) : 2^a < 2^b := by
  have := pow_le_pow2 (show a + 1 ≤ b from h)
  rw [Nat.pow_succ] at this
  have := Nat.two_pow_pos a
  omega

theorem lt_of_pow_le_lt {a b x : Nat} (h1 : 2^a ≤ x) (h2 : x < 2^b) : a < b :=
  (Nat.pow_lt_pow_iff_right (by omega : 1 < 2)).mp (Nat.lt_of_le_of_lt h1 h2)

theorem mul_pow_mod {x P W : Nat} (h : P ≤ W) : (x * 2^P) % 2^W = (x % 2^(W-P)) * 2^P := by
  rw [pow_split h, Nat.mul_mod_mul_right]

/-- `(a << k) | b = a * 2^k + b` when `b < 2^k` -/
theorem shl_or_eq {a b k : Nat} (hb : b < 2^k) : (a <<< k) ||| b = a * 2^k + b := by
  rw [← Nat.shiftLeft_add_eq_or_of_lt hb, Nat.shiftLeft_eq]

theorem shr_eq (a k : Nat) : a >>> k = a / 2^k := Nat.shiftRight_eq_div_pow a k

theorem div_mul_add_mod (a b : Nat) : a / b * b + a % b = a := by
  rw [Nat.mul_comm]; exact Nat.div_add_mod a b

theorem mul_add_mod_of_lt {a b q : Nat} (h : b < q) : (a * q + b) % q = b := by
  rw [Nat.add_comm, Nat.add_mul_mod_self_right, Nat.mod_eq_of_lt h]

theorem mul_add_div_of_lt {a b q : Nat} (h : b < q) : (a * q + b) / q = a := by
  have hq : 0 < q := by omega
  rw [Nat.add_comm, Nat.add_mul_div_right _ _ hq, Nat.div_eq_of_lt h, Nat.zero_add]

theorem mul_add_lt_mul {a r K m : Nat} (ha : a < K) (hr : r < m) : a * m + r < K * m := by
  have := Nat.mul_le_mul_right m ha
  rw [Nat.succ_mul] at this
  omega

/-- pushing a word `w` below a state `a` that leaves room for it: `(a << W) as State | w` -/
theorem shl_mod_or {a w W S : Nat} (hWS : W ≤ S) (ha : a < 2^(S - W)) (hw : w < 2^W) :
    (a <<< W) % 2^S ||| w = a * 2^W + w := by
  have hlt : a <<< W < 2^S := by
    rw [Nat.shiftLeft_eq, pow_split hWS]
    exact Nat.mul_lt_mul_of_pos_right ha (Nat.two_pow_pos _)
  rw [Nat.mod_eq_of_lt hlt, shl_or_eq hw]

theorem div_lt_of_lt_mul' {a b c : Nat} (h : a < b * c) : a / b < c :=
  Nat.div_lt_of_lt_mul h

theorem div_mul_le' (a b : Nat) : a / b * b ≤ a := Nat.div_mul_le_self a b

theorem lt_mul_div_succ' (a : Nat) {b : Nat} (hb : 0 < b) : a < (a / b + 1) * b := by
  have := div_mul_add_mod a b
  have := Nat.mod_lt a hb
  rw [Nat.succ_mul]
  omega

theorem shl_ok {site : String} {n a k : Nat} (h : k < n) :
    shl site n a k = .ok ((a <<< k) % 2^n) := if_pos h

theorem shr_ok {site : String} {n a k : Nat} (h : k < n) :
    shr site n a k = .ok (a >>> k) := if_pos h

theorem cmul_ok {site : String} {n a b : Nat} (h : a * b < 2^n) :
    cmul site n a b = .ok (a * b) := if_pos h

theorem cadd_ok {site : String} {n a b : Nat} (h : a + b < 2^n) :
    cadd site n a b = .ok (a + b) := if_pos h

theorem csub_ok {site : String} {a b : Nat} (h : b ≤ a) :
    csub site a b = .ok (a - b) := if_pos h

theorem cdiv_ok {site : String} {a b : Nat} (h : b ≠ 0) :
    cdiv site a b = .ok (a / b) := if_neg h

/-- a checked `+`, `-`, `*` fails with an overflow panic at its own site, nothing else -/
theorem cadd_error {site : String} {n a b : Nat} {f : Fault}
    (h : cadd site n a b = .error f) : f = .overflow site := by
  unfold cadd at h
  split at h
  · cases h
  · cases h; rfl

theorem csub_error {site : String} {a b : Nat} {f : Fault}
    (h : csub site a b = .error f) : f = .overflow site := by
  unfold csub at h
  split at h
  · cases h
  · cases h; rfl

theorem cmul_error {site : String} {n a b : Nat} {f : Fault}
    (h : cmul site n a b = .error f) : f = .overflow site := by
  unfold cmul at h
  split at h
  · cases h
  · cases h; rfl

theorem narrow_of_lt {n a : Nat} (h : a < 2^n) : narrow n a = a := Nat.mod_eq_of_lt h

theorem narrow_lt (n a : Nat) : narrow n a < 2^n := Nat.mod_lt _ (Nat.two_pow_pos n)

/-! ### what the crate's static assertions give (`Cfg.Valid`) -/

section
variable {c : Cfg}

theorem Cfg.Valid.P_le_W (hc : c.Valid) : c.P ≤ c.W := Nat.le_trans hc.2.1 hc.2.2.1

theorem Cfg.Valid.W_pos (hc : c.Valid) : 0 < c.W := Nat.lt_of_lt_of_le hc.1 hc.P_le_W

theorem Cfg.Valid.W_le_S (hc : c.Valid) : c.W ≤ c.S :=
  Nat.le_trans (Nat.le_mul_of_pos_left _ Nat.two_pos) hc.2.2.2

theorem Cfg.Valid.W_add_P_le_S (hc : c.Valid) : c.W + c.P ≤ c.S :=
  Nat.le_trans (Nat.add_le_add_left hc.P_le_W _) (Nat.two_mul _ ▸ hc.2.2.2)

theorem Cfg.Valid.P_lt_S (hc : c.Valid) : c.P < c.S :=
  Nat.lt_of_lt_of_le (Nat.lt_add_of_pos_left hc.W_pos) hc.W_add_P_le_S

theorem Cfg.Valid.pow_W_le (hc : c.Valid) : 2^c.W ≤ 2^(c.S - c.W) :=
  pow_le_pow2 (Nat.le_sub_of_add_le (Nat.two_mul _ ▸ hc.2.2.2))

end

/-! ### wrapping operations at width `B` -/

theorem wadd_lt {B a b : Nat} : wadd B a b < 2^B := Nat.mod_lt _ (Nat.two_pow_pos B)

theorem wadd_of_lt {B a b : Nat} (h : a + b < 2^B) : wadd B a b = a + b := Nat.mod_eq_of_lt h

theorem wadd_cases {B a b : Nat} (ha : a < 2^B) (hb : b < 2^B) :
    a + b < 2^B ∧ wadd B a b = a + b ∨ 2^B ≤ a + b ∧ wadd B a b + 2^B = a + b := by
  rcases Nat.lt_or_ge (a + b) (2^B) with h | h
  · exact .inl ⟨h, wadd_of_lt h⟩
  · refine .inr ⟨h, ?_⟩
    unfold wadd
    rw [Nat.mod_eq_sub_mod h, Nat.mod_eq_of_lt (by omega)]
    omega

theorem wmul_of_lt {B a b : Nat} (h : a * b < 2^B) : wmul B a b = a * b := Nat.mod_eq_of_lt h

theorem wsub_of_le {B a b : Nat} (hab : b ≤ a) (ha : a < 2^B) : wsub B a b = a - b := by
  unfold wsub
  rw [Nat.mod_eq_of_lt (Nat.lt_of_le_of_lt hab ha), Nat.sub_add_comm hab, Nat.add_mod_right]
  exact Nat.mod_eq_of_lt (Nat.lt_of_le_of_lt (Nat.sub_le a b) ha)

theorem wsub_of_lt {B a b : Nat} (hab : a < b) (hb : b < 2^B) : wsub B a b = a + 2^B - b := by
  unfold wsub
  rw [Nat.mod_eq_of_lt hb]
  exact Nat.mod_eq_of_lt (by omega)

theorem mod_two {x T : Nat} (h : x < 2 * T) : x % T = if x < T then x else x - T := by
  split
  · next h1 => exact Nat.mod_eq_of_lt h1
  · next h1 =>
    rw [Nat.mod_eq_sub_mod (Nat.le_of_not_lt h1)]; exact Nat.mod_eq_of_lt (by omega)

theorem wsub_add {n a b : Nat} (ha : a < 2^n) (hb : b < 2^n) : (b + wsub n a b) % 2^n = a := by
  unfold wsub
  rw [Nat.mod_eq_of_lt hb, Nat.add_mod_mod, show b + (a + 2^n - b) = a + 2^n by omega,
    Nat.add_mod_right, Nat.mod_eq_of_lt ha]

/-- `wsub n a b` is the one `d < 2^n` with `b + d ≡ a` -/
theorem wsub_unique {n a b d : Nat} (hb : b < 2^n) (hd : d < 2^n) (h : (b + d) % 2^n = a) :
    wsub n a b = d := by
  unfold wsub
  rw [Nat.mod_eq_of_lt hb, ← h, mod_two (show b + d < 2 * 2^n by omega)]
  split
  · rw [show b + d + 2^n - b = d + 2^n by omega, Nat.add_mod_right, Nat.mod_eq_of_lt hd]
  · rw [show b + d - 2^n + 2^n - b = d by omega, Nat.mod_eq_of_lt hd]

theorem wsub_advance {n pt l off : Nat} (hpt : pt < 2^n) (hl : l < 2^n)
    (hoff : off ≤ wsub n pt l) : wsub n pt ((l + off) % 2^n) = wsub n pt l - off := by
  have hlt : wsub n pt l < 2^n := Nat.mod_lt _ (Nat.two_pow_pos n)
  apply wsub_unique (Nat.mod_lt _ (Nat.two_pow_pos n)) (by omega)
  rw [Nat.mod_add_mod, show l + off + (wsub n pt l - off) = l + wsub n pt l by omega]
  exact wsub_add hpt hl

theorem wsub_shift {n pt l b w : Nat} (hpt : pt < 2^n) (hl : l < 2^n)
    (hfit : wsub n pt l * b + w < 2^n) (hw : pt * b % 2^n + w < 2^n) :
    wsub n (pt * b % 2^n + w) (l * b % 2^n) = wsub n pt l * b + w := by
  apply wsub_unique (Nat.mod_lt _ (Nat.two_pow_pos n)) hfit
  calc (l * b % 2^n + (wsub n pt l * b + w)) % 2^n
      = ((l + wsub n pt l) * b + w) % 2^n := by rw [Nat.mod_add_mod, Nat.add_mul, Nat.add_assoc]
    _ = ((l + wsub n pt l) % 2^n * b % 2^n + w) % 2^n := by rw [Nat.mod_mul_mod, Nat.mod_add_mod]
    _ = pt * b % 2^n + w := by rw [wsub_add hpt hl, Nat.mod_eq_of_lt hw]

/-- `wrapping_pow2(P)` is the total `2^P`, except that it wraps to `0` at `P = B` -/
theorem wrappingPow2_cases {B P : Nat} (hP : P ≤ B) :
    P < B ∧ wrappingPow2 B P = 2^P ∧ 2^P < 2^B ∨
      P = B ∧ wrappingPow2 B P = 0 ∧ 2^P = 2^B := by
  unfold wrappingPow2
  rcases Nat.lt_or_ge P B with h | h
  · exact .inl ⟨h, if_neg (by omega), pow_lt_pow2 h⟩
  · obtain rfl : P = B := by omega
    exact .inr ⟨rfl, if_pos (Nat.le_refl _), rfl⟩

theorem wrappingPow2_lt {B P : Nat} : wrappingPow2 B P < 2^B := by
  unfold wrappingPow2
  split
  · exact Nat.two_pow_pos B
  · exact pow_lt_pow2 (by omega)

theorem wrappingPow2_of_lt {B P : Nat} (h : P < B) : wrappingPow2 B P = 2^P := if_neg (by omega)

/-- `wrapping_pow2(P).wrapping_sub(l)` is the true `2^P - l`, also when `P = B` and the total
    itself has wrapped to `0` -/
theorem wsub_total {B P l : Nat} (hP : P ≤ B) (h0 : 0 < l) (hl : l ≤ 2^P) (hlB : l < 2^B) :
    wsub B (wrappingPow2 B P) l = 2^P - l := by
  rcases wrappingPow2_cases hP with ⟨_, e, hlt⟩ | ⟨rfl, e, _⟩
  · rw [e]; exact wsub_of_le hl hlt
  · rw [e, wsub_of_lt h0 hlB]; omega

theorem wsub_total_of_lt {B P l : Nat} (hP : P ≤ B) (h0 : 0 < l) (hl : l < 2^P) :
    wsub B (wrappingPow2 B P) l = 2^P - l :=
  wsub_total hP h0 (Nat.le_of_lt hl) (Nat.lt_of_lt_of_le hl (pow_le_pow2 hP))

theorem wsub_total_one {B P : Nat} (hP1 : 1 ≤ P) (hP : P ≤ B) :
    wsub B (wrappingPow2 B P) 1 = 2^P - 1 :=
  wsub_total_of_lt hP Nat.one_pos (Nat.one_lt_two_pow (by omega))

end CV
