import CV.Proofs.CatBsearch
/-!
# The cdf-based models compute the specification; the contiguous constructor

`ValidCdf B P cdf`: the Rust vector `cdf` is a strictly increasing list of true left
cumulatives starting at `0`, followed by `wrapping_pow2(P)`.  From it the contiguous model's
encoder lookup and binary-search quantile function are `specModel` of the unwrapped table and
no `Fault` is reachable.  (The symbol table is in `CatNonContiguous`, with `iter_extended_cdf`.)
`wrapCdf` / `extOf` pass from a probability table to its cdf; the contiguous constructor
accepts exactly the valid tables (`Contiguous.fromNonzeroFixedPoint_eq_some_iff`).
-/
namespace CV.Cat
open CV

/-- replace the (possibly wrapped) last entry by the true total -/
def unwrap (P : Nat) (cdf : List Nat) : List Nat := cdf.dropLast ++ [2 ^ P]

/-- invariant of every `cdf` field built by a constructor -/
def ValidCdf (B P : Nat) (cdf : List Nat) : Prop :=
  cdf.getLast? = some (wrappingPow2 B P) ∧ ValidExt P (unwrap P cdf)

theorem ValidCdf.ne_nil {B P : Nat} {cdf : List Nat} (h : ValidCdf B P cdf) : cdf ≠ [] := by
  intro hn; subst hn; simp [ValidCdf] at h

theorem ValidCdf.length_eq {B P : Nat} {cdf : List Nat} (h : ValidCdf B P cdf) :
    (unwrap P cdf).length = cdf.length := by
  rw [unwrap, List.length_append, List.length_dropLast, List.length_singleton]
  exact Nat.sub_add_cancel (List.length_pos_iff.mpr h.ne_nil)

theorem ValidCdf.three_le {B P : Nat} {cdf : List Nat} (h : ValidCdf B P cdf) : 3 ≤ cdf.length := by
  rw [← h.length_eq]; exact h.2.1

theorem unwrap_getD {P : Nat} {cdf : List Nat} {i : Nat} (hi : i + 1 < cdf.length) :
    cdf[i]? = some ((unwrap P cdf).getD i 0) := by
  have h1 : i < cdf.dropLast.length := List.length_dropLast ▸ Nat.lt_sub_of_add_lt hi
  rw [unwrap, List.getD_eq_getElem?_getD, List.getElem?_append_left h1, List.getElem?_dropLast,
    if_pos (Nat.lt_sub_of_add_lt hi), List.getElem?_eq_getElem (Nat.lt_of_succ_lt hi)]
  rfl

theorem ValidCdf.get_last {B P : Nat} {cdf : List Nat} (h : ValidCdf B P cdf) :
    cdf[cdf.length - 1]? = some (wrappingPow2 B P) := by
  have := h.1
  rw [List.getLast?_eq_getElem?] at this
  exact this

theorem unwrap_get_last {P : Nat} {cdf : List Nat} (h : cdf ≠ []) :
    (unwrap P cdf).getD (cdf.length - 1) 0 = 2 ^ P := by
  have : 0 < cdf.length := List.length_pos_iff.mpr h
  unfold unwrap
  rw [List.getD_eq_getElem?_getD, List.getElem?_append_right (by simp)]
  simp

/-- `right.wrapping_sub(left)` is the true width of bin `i` -/
theorem ValidCdf.prob {B P : Nat} {cdf : List Nat} (h : ValidCdf B P cdf) (hP : P ≤ B) {i : Nat}
    (hi : i + 1 < cdf.length) :
    ∃ l r, cdf[i]? = some l ∧ cdf[i + 1]? = some r ∧ l = (unwrap P cdf).getD i 0 ∧
      wsub B r l = (unwrap P cdf).getD (i + 1) 0 - (unwrap P cdf).getD i 0 ∧
      0 < wsub B r l := by
  have hlen := h.length_eq
  obtain ⟨hlt, hle, -⟩ := h.2.bin (s := i) (hlen ▸ hi)
  have hPB := pow_le_pow2 hP
  rcases Nat.lt_or_ge (i + 2) cdf.length with hlt2 | hge
  · refine ⟨_, _, unwrap_getD hi, unwrap_getD (P := P) (i := i + 1) hlt2, rfl, ?_⟩
    rw [wsub_of_le (Nat.le_of_lt hlt)
      (Nat.lt_of_lt_of_le (h.2.inner_lt (i := i + 1) (hlen ▸ hlt2)) hPB)]
    exact ⟨rfl, Nat.sub_pos_of_lt hlt⟩
  · have hi1 : i + 1 = cdf.length - 1 :=
      Nat.le_antisymm (Nat.le_sub_one_of_lt hi) (Nat.sub_le_of_le_add hge)
    have hlast : (unwrap P cdf).getD (i + 1) 0 = 2 ^ P := by
      rw [hi1]; exact unwrap_get_last h.ne_nil
    -- the last bin does not start at `0`: there are at least two bins
    have hpos : 0 < (unwrap P cdf).getD i 0 := by
      have hi0 : 0 < i := by have := h.three_le; omega
      exact Nat.lt_of_le_of_lt (Nat.zero_le _)
        (pairwise_getD h.2.2.2.2 hi0 (hlen ▸ Nat.lt_of_succ_lt hi))
    rw [hlast] at hlt ⊢
    refine ⟨_, wrappingPow2 B P, unwrap_getD hi, by rw [hi1]; exact h.get_last, rfl, ?_⟩
    rw [wsub_total_of_lt hP hpos hlt]
    exact ⟨rfl, Nat.sub_pos_of_lt hlt⟩

/-- for every `usize` symbol (no narrowing: C09), no unsafe precondition reached (C20) -/
theorem Contiguous.enc_eq {B P : Nat} {m : Contiguous} (h : ValidCdf B P m.cdf) (hP : P ≤ B)
    (s : Nat) : m.enc B s = .ok (specEnc (unwrap P m.cdf) s) := by
  unfold Contiguous.enc Contiguous.supportSize
  rw [csub_ok (Nat.le_trans (by decide) h.three_le)]
  simp only
  unfold specEnc
  rw [h.length_eq]
  by_cases hs : s ≥ m.cdf.length - 1
  · rw [if_pos hs, if_neg (Nat.not_lt.mpr (Nat.sub_le_iff_le_add.mp hs))]
  · have hs1 : s + 1 < m.cdf.length := Nat.add_lt_of_lt_sub (Nat.lt_of_not_le hs)
    obtain ⟨l, r, h1, h2, h3, h4, h5⟩ := h.prob hP hs1
    rw [if_neg hs, if_pos hs1, h1, h2]
    simp only
    rw [if_neg (Nat.ne_of_gt h5), h4, h3]

/-- out-of-contract quantiles `≥ 2^P` pass every boundary of the searched part and land in
    the last bin; in particular the search never faults -/
theorem cdfQuantile_clamped {B P : Nat} {cdf : List Nat} (h : ValidCdf B P cdf) (hP : P ≤ B)
    (q : Nat) : cdfQuantile B cdf q = .ok (specDec (unwrap P cdf) (min q (2 ^ P - 1))) := by
  have h3 := h.three_le
  have hlen := h.length_eq
  have hpw := h.2.2.2.2
  have hdl : cdf.dropLast.length = cdf.length - 1 := List.length_dropLast
  have hpos : 0 < cdf.length := Nat.lt_of_lt_of_le (by decide) h3
  have hpos1 : 0 < cdf.length - 1 := Nat.sub_pos_of_lt (Nat.lt_of_lt_of_le (by decide) h3)
  -- the searched part is sorted, and its entries are entries of the unwrapped table
  have hmono : MonoIdx cdf.dropLast :=
    MonoIdx.of_pairwise (List.pairwise_append.mp (show (cdf.dropLast ++ [2 ^ P]).Pairwise _ from hpw)).1
  have hget : ∀ i, i < cdf.length - 1 → cdf.dropLast.getD i 0 = (unwrap P cdf).getD i 0 := by
    intro i hi
    unfold unwrap
    rw [List.getD_eq_getElem?_getD, List.getD_eq_getElem?_getD,
      List.getElem?_append_left (hdl.symm ▸ hi)]
  obtain ⟨k, hk, hkle, hlo, hhi⟩ := bsearch_spec q hmono
  rw [hdl] at hkle hhi
  -- `k ≥ 1` because `cdf[0] = 0 ≤ q`
  have hk1 : 1 ≤ k := by
    rcases Nat.eq_zero_or_pos k with rfl | hp
    · have := hhi 0 (Nat.le_refl 0) hpos1
      rw [hget 0 hpos1, h.2.2.1] at this
      exact absurd this (Nat.not_lt_zero q)
    · exact hp
  have hk' : k - 1 + 1 = k := Nat.sub_add_cancel hk1
  have hkn : k - 1 + 1 < cdf.length :=
    hk'.symm ▸ Nat.lt_of_le_of_lt hkle (Nat.sub_lt hpos Nat.one_pos)
  -- bin `k - 1` contains the clamped quantile
  have hin : InBin (unwrap P cdf) (k - 1) (min q (2 ^ P - 1)) := by
    have hlow := hlo (k - 1) (Nat.sub_lt hk1 Nat.one_pos)
    rw [hget (k - 1) (Nat.lt_of_lt_of_le (Nat.sub_lt hk1 Nat.one_pos) hkle)] at hlow
    refine ⟨hlen ▸ hkn, Nat.le_min.mpr ⟨hlow,
      Nat.le_sub_one_of_lt (h.2.inner_lt (hlen ▸ hkn))⟩, ?_⟩
    rw [hk']
    rcases Nat.lt_or_ge k (cdf.length - 1) with hlt | hge
    · have := hhi k (Nat.le_refl k) hlt
      rw [hget k hlt] at this
      exact Nat.lt_of_le_of_lt (Nat.min_le_left _ _) this
    · rw [Nat.le_antisymm hkle hge, unwrap_get_last h.ne_nil]
      exact Nat.lt_of_le_of_lt (Nat.min_le_right _ _) (Nat.sub_lt (Nat.two_pow_pos P) Nat.one_pos)
  obtain ⟨l, r, e1, e2, e3, e4, e5⟩ := h.prob hP hkn
  rw [hk'] at e2 e4
  -- one guard of `cdfQuantile` at a time; `simp only` steps into the next `match`
  unfold cdfQuantile
  rw [csub_ok hpos]                           -- `len - 1`
  simp only
  rw [← List.dropLast_eq_take, hk]            -- the search
  simp only
  rw [csub_ok hk1]                            -- `next - 1`
  simp only
  rw [e2, e1]                                 -- the two unchecked reads
  simp only
  rw [if_neg (Nat.ne_of_gt e5), e4,           -- the probability is non-zero
    specDec_eq_of_inBin h.2 hin, hk', e3]

theorem Contiguous.dec_eq {B P : Nat} {m : Contiguous} (h : ValidCdf B P m.cdf) (hP : P ≤ B)
    {q : Nat} (hq : q < 2 ^ P) : m.dec B q = .ok (specDec (unwrap P m.cdf) q) :=
  (cdfQuantile_clamped h hP q).trans (by rw [Nat.min_eq_left (Nat.le_sub_one_of_lt hq)])

/-- the wrapped vector for an unwrapped table -/
def wrapCdf (B P : Nat) (ext : List Nat) : List Nat := ext.dropLast ++ [wrappingPow2 B P]

/-- the unwrapped table of a valid probability list -/
def extOf (qs : List Nat) : List Nat := psums 0 qs ++ [qs.sum]

theorem extOf_dropLast (qs : List Nat) : (extOf qs).dropLast = psums 0 qs := by
  simp [extOf]

theorem extOf_length (qs : List Nat) : (extOf qs).length = qs.length + 1 := by
  simp [extOf]

theorem extOf_valid {P : Nat} {qs : List Nat} (h : ValidProbs P qs) : ValidExt P (extOf qs) := by
  obtain ⟨hlen, hpos, hsum⟩ := h
  refine ⟨by simp [extOf]; omega, ?_, ?_, ?_⟩
  · match qs, hlen with
    | a :: rest, _ => simp [extOf, psums]
  · unfold extOf
    rw [List.getD_eq_getElem?_getD, List.getElem?_append_right (by simp)]
    simp [hsum]
  · unfold extOf
    rw [List.pairwise_append]
    refine ⟨psums_pairwise hpos, by simp, ?_⟩
    intro a ha b hb
    simp at hb
    subst hb
    have := psums_lt_of_pos (acc := 0) hpos a ha
    omega

theorem dropLast_append_of_getLast? {α : Type} {l : List α} {x : α} (h : l.getLast? = some x) :
    l.dropLast ++ [x] = l := by
  have hne : l ≠ [] := fun hn => by rw [hn] at h; cases h
  rw [List.getLast?_eq_some_getLast hne] at h
  cases h
  exact List.dropLast_concat_getLast hne

theorem unwrap_wrapCdf {B P : Nat} {ext : List Nat} (h : ValidExt P ext) :
    unwrap P (wrapCdf B P ext) = ext := by
  have hlast : ext.getLast? = some (2 ^ P) := by
    rw [List.getLast?_eq_getElem?, getElem?_of_lt (d := 0)
      (Nat.sub_lt (Nat.lt_of_lt_of_le (by decide) h.1) Nat.one_pos), h.2.2.1]
  rw [unwrap, wrapCdf, List.dropLast_concat, dropLast_append_of_getLast? hlast]

theorem wrapCdf_valid {B P : Nat} {ext : List Nat} (h : ValidExt P ext) :
    ValidCdf B P (wrapCdf B P ext) := by
  refine ⟨by simp [wrapCdf], ?_⟩
  rw [unwrap_wrapCdf h]
  exact h

theorem wrapCdf_extOf {B P : Nat} (qs : List Nat) :
    wrapCdf B P (extOf qs) = psums 0 qs ++ [wrappingPow2 B P] := by
  simp [wrapCdf, extOf]

theorem ValidCdf.eq_wrap {B P : Nat} {cdf : List Nat} (h : ValidCdf B P cdf) :
    cdf = wrapCdf B P (unwrap P cdf) := by
  rw [wrapCdf, unwrap, List.dropLast_concat, dropLast_append_of_getLast? h.1]

theorem triples_lefts {Sym : Type} {ss : List Sym} {qs : List Nat} (h : ss.length = qs.length) :
    (triples ss qs).map (fun t => t.2.1) = psums 0 qs := by
  unfold triples
  have : (fun t : Sym × Nat × Nat => t.2.1) = Prod.fst ∘ Prod.snd := rfl
  rw [this, ← List.map_map]
  rw [List.map_snd_zip (by simp [h]), List.map_fst_zip (by simp)]

theorem triples_syms {Sym : Type} {ss : List Sym} {qs : List Nat} (h : ss.length = qs.length) :
    (triples ss qs).map (fun t => t.1) = ss := by
  unfold triples
  exact List.map_fst_zip (by simp [h])

theorem triples_probs {Sym : Type} {ss : List Sym} {qs : List Nat} (h : ss.length = qs.length) :
    (triples ss qs).map (fun t => t.2.2) = qs := by
  unfold triples
  have : (fun t : Sym × Nat × Nat => t.2.2) = Prod.snd ∘ Prod.snd := rfl
  rw [this, ← List.map_map]
  rw [List.map_snd_zip (by simp [h]), List.map_snd_zip (by simp)]

/-- **C19 for `ContiguousCategoricalEntropyModel::from_nonzero_fixed_point_probabilities`**,
    at every `1 ≤ P ≤ B` (D8: also with `infer_last_probability` at `P = B`) -/
theorem Contiguous.fromNonzeroFixedPoint_eq_some_iff {B P : Nat} {probs : List Nat} {infer : Bool}
    {m : Contiguous} (hP1 : 1 ≤ P) (hP : P ≤ B) (hprobs : ∀ p ∈ probs, p < 2 ^ B) :
    Contiguous.fromNonzeroFixedPoint B P probs infer = some m ↔
      ValidProbs P (fullTable P probs infer) ∧
        m.cdf = wrapCdf B P (extOf (fullTable P probs infer)) := by
  unfold Contiguous.fromNonzeroFixedPoint
  rw [wrapCdf_extOf]
  constructor
  · intro h
    split at h
    · contradiction
    · rename_i rest cdf hacc
      obtain ⟨hv, ss, hts, hfold⟩ := (accumulate_eq_some_iff hP1 hP hprobs).mp hacc
      rw [foldOp_push (fun _ l _ => l), triples_lefts (takeSyms_length hts)] at hfold
      simp only [Option.some.injEq] at h hfold
      exact ⟨hv, by rw [← h, ← hfold]; rfl⟩
  · rintro ⟨hv, hm⟩
    rw [(accumulate_eq_some_iff hP1 hP hprobs).mpr
      ⟨hv, _, takeSyms_rep () _, foldOp_push (fun _ l _ => l) _ _⟩]
    simp only [triples_lefts (List.length_replicate ..), List.nil_append, ← hm]

theorem Contiguous.fromNonzeroFixedPoint_valid {B P : Nat} {probs : List Nat} {infer : Bool}
    {m : Contiguous} (hP1 : 1 ≤ P) (hP : P ≤ B) (hprobs : ∀ p ∈ probs, p < 2 ^ B)
    (h : Contiguous.fromNonzeroFixedPoint B P probs infer = some m) : ValidCdf B P m.cdf := by
  obtain ⟨hv, hm⟩ := (Contiguous.fromNonzeroFixedPoint_eq_some_iff hP1 hP hprobs).mp h
  rw [hm]
  exact wrapCdf_valid (extOf_valid hv)

end CV.Cat
