import CV.Proofs.ChainHist
import CV.Proofs.ChainLocal
/-!
# Chain coder: the unsafe sites are unreachable (C20)

The four `NonZero::new_unchecked` / `into_nonzero_unchecked` sites of `decode_symbol` /
`encode_symbol` are modelled as `Fault.ub` in `takeChunk` / `putChunk`.  They are unreachable
as soon as the compressed head is a valid `Word::NonZero` (`1 ≤ hc < 2^W`) – whatever the
remainders head, the stacks, the entropy model or the quantile are.
-/
namespace CV.Chain

theorem takeChunk_no_ub {c : Cfg} (hPW : c.P ≤ c.W) {hc : Nat} (h1 : 1 ≤ hc)
    (h2 : hc < 2^c.W) (comp : List Nat) :
    takeChunk c hc comp = .error .outOfData ∨ ∃ r, takeChunk c hc comp = .ok r := by
  by_cases hlow : hc < 2^c.P
  · cases comp with
    | nil => exact .inl (takeChunk_read hPW h1 hlow).1
    | cons w r =>
      obtain ⟨_, h, _⟩ := (takeChunk_read hPW h1 hlow).2 w r
      exact .inr ⟨_, h⟩
  · exact .inr ⟨_, takeChunk_buffered h2 (by omega) comp⟩

theorem putChunk_no_ub {c : Cfg} (hP1 : 1 ≤ c.P) (hPW : c.P ≤ c.W) {hc : Nat}
    (h1 : 1 ≤ hc) (h2 : hc < 2^c.W) (comp : List Nat) (q : Nat) :
    ∃ hc' comp', putChunk c hc comp q = .ok (hc', comp') ∧ 1 ≤ hc' ∧
      (q < 2^c.W → Words c.W comp → hc' < 2^c.W ∧ Words c.W comp') := by
  have hA := Nat.two_pow_pos c.P
  by_cases hs : hc < 2^(c.W - c.P)
  · have hnt : hc * 2^c.P < 2^c.W := by
      rw [pow_split hPW]; exact Nat.mul_lt_mul_of_pos_right hs hA
    exact ⟨_, _, putChunk_append hP1 hPW h1 hs comp q,
      Nat.le_trans (Nat.mul_pos h1 hA) Nat.left_le_or,
      fun hq hw => ⟨Nat.or_lt_two_pow hnt hq, hw⟩⟩
  · have hB := Nat.two_pow_pos (c.W - c.P)
    refine ⟨_, _, putChunk_emit hP1 hPW (by omega) comp q,
      (Nat.one_le_div_iff hB).mpr (by omega), fun hq hw =>
        ⟨Nat.lt_of_le_of_lt (Nat.div_le_self _ _) h2, .cons (Nat.or_lt_two_pow ?_ hq) hw⟩⟩
    rw [pow_split hPW]; exact Nat.mul_lt_mul_of_pos_right (Nat.mod_lt _ hB) hA

/-! ## how `decode` and `encode` hand on the results of their parts

`decode` returns the error of `takeChunk` unchanged; after that it can only report a panic
(probability 0) or an overflow (`csub`, `absorb`), and on success it keeps the head and stack
`takeChunk` produced.  `encode` likewise around `putChunk`, whose quantile is below `2^B`
because the checked addition `cadd` let it pass. -/

theorem absorb_error {c : Cfg} {hr p r : Nat} {rems : List Nat} {f : Fault}
    (h : absorb c hr rems p r = .error f) : ∃ site, f = .overflow site := by
  unfold absorb at h
  split at h
  · -- `remainders * probability`
    next hm => cases h; exact ⟨_, cmul_error hm⟩
  · split at h
    · -- `… + remainder`
      next ha => cases h; exact ⟨_, cadd_error ha⟩
    · -- flushed or not, the result is `ok`
      split at h <;> cases h

theorem decode_ok_fields {Sym : Type} {c : Cfg} {m : Model Sym} {x y : Coder} {s : Sym}
    (h : decode c m x = .ok (s, y)) :
    ∃ word, takeChunk c x.heads.compressed x.compressed = .ok (word, y.heads.compressed, y.compressed) := by
  unfold decode at h
  split at h
  · -- `takeChunk` failed
    cases h
  · next word _ _ htk =>
    dsimp only at h
    split at h
    · -- probability 0
      cases h
    · split at h
      · -- `quantile - cumulative` underflowed
        cases h
      · split at h
        · -- `absorb` overflowed
          cases h
        · cases h; exact ⟨word, htk⟩

theorem decode_ub_fields {Sym : Type} {c : Cfg} {m : Model Sym} {x : Coder} {site : String}
    (h : decode c m x = .error (.fault (.ub site))) :
    takeChunk c x.heads.compressed x.compressed = .error (.fault (.ub site)) := by
  unfold decode at h
  split at h
  · -- the error of `takeChunk`, handed on
    next he => cases h; exact he
  · dsimp only at h
    split at h
    · -- probability 0 is a panic
      cases h
    · split at h
      · -- `csub` reports an overflow
        next hf => cases csub_error hf; cases h
      · split at h
        · -- so does `absorb`
          next hf => obtain ⟨_, rfl⟩ := absorb_error hf; cases h
        · cases h

theorem encode_ok_fields {Sym : Type} {c : Cfg} {m : Model Sym} {s : Sym} {x y : Coder}
    (h : encode c m s x = .ok y) : ∃ q, q < 2^c.B ∧
      putChunk c x.heads.compressed x.compressed q = .ok (y.heads.compressed, y.compressed) := by
  unfold encode at h
  split at h
  · -- impossible symbol
    cases h
  · unfold encodeCP at h
    split at h
    · -- probability 0
      cases h
    · split at h
      · -- `release` ran out of remainders
        cases h
      · dsimp only at h
        split at h
        · -- `cadd` overflowed
          cases h
        · next hq =>
          -- `cadd` returned the quantile, so it is below `2^B`
          unfold cadd at hq
          split at hq
          · cases hq
            split at h
            · -- `putChunk` failed
              cases h
            · next hput => cases h; exact ⟨_, ‹_ < 2^c.B›, hput⟩
          · cases hq

theorem encode_ub_fields {Sym : Type} {c : Cfg} {m : Model Sym} {s : Sym} {x : Coder}
    {site : String} (h : encode c m s x = .error (.fault (.ub site))) :
    ∃ q, putChunk c x.heads.compressed x.compressed q = .error (.ub site) := by
  unfold encode at h
  split at h
  · -- impossible symbol
    cases h
  · unfold encodeCP at h
    split at h
    · -- probability 0 is a panic
      cases h
    · split at h
      · -- `release` only reports `outOfRemainders`
        next hrel => cases release_error hrel; cases h
      · dsimp only at h
        split at h
        · -- `cadd` reports an overflow
          next hq => cases cadd_error hq; cases h
        · split at h
          · -- the error of `putChunk`, handed on
            next hput => cases h; exact ⟨_, hput⟩
          · cases h

/-- what the unsafe sites need: the compressed head is a valid `Word::NonZero` and the
    compressed stack holds `Word`s.  No condition on the remainders side. -/
def WInv (c : Cfg) (x : Coder) : Prop :=
  1 ≤ x.heads.compressed ∧ x.heads.compressed < 2^c.W ∧ Words c.W x.compressed

theorem Inv.winv {c : Cfg} {x : Coder} (h : Inv c x) : WInv c x := ⟨h.1.1, h.1.2.1, h.2.1⟩

theorem decode_winv {Sym : Type} {c : Cfg} (hP : PrecOk c.W c.S c.P) {m : Model Sym} {x y : Coder}
    {s : Sym} (hx : WInv c x) (h : decode c m x = .ok (s, y)) : WInv c y := by
  obtain ⟨h1, h2, hw⟩ := hx
  obtain ⟨word, htk⟩ := decode_ok_fields h
  rcases takeChunk_spec hP.1 hP.2.1 h1 h2 hw with ⟨he, _⟩ | ⟨_, _, _, hok, ha1, ha2, _, hb, _⟩
  · rw [he] at htk; cases htk
  · rw [hok] at htk; cases htk; exact ⟨ha1, ha2, hb⟩

/-- `encode` preserves `WInv` – any model, any symbol (only `Probability: Into<Word>`, i.e.
    `B ≤ W`, is used) -/
theorem encode_winv {Sym : Type} {c : Cfg} (hP : PrecOk c.W c.S c.P) (hBW : c.B ≤ c.W)
    {m : Model Sym} {s : Sym} {x y : Coder} (hx : WInv c x) (h : encode c m s x = .ok y) :
    WInv c y := by
  obtain ⟨h1, h2, hw⟩ := hx
  obtain ⟨q, hq, hput⟩ := encode_ok_fields h
  obtain ⟨_, _, hok, ha1, hb⟩ := putChunk_no_ub hP.1 hP.2.1 h1 h2 x.compressed q
  rw [hok] at hput; cases hput
  exact ⟨ha1, hb (Nat.lt_of_lt_of_le hq (pow_le_pow2 hBW)) hw⟩

theorem changePrecision_winv {c : Cfg} {q : Nat} {x y : Coder} (hx : WInv c x)
    (h : changePrecision c q x = .ok y) : WInv (withP c q) y := by
  have hsame : y.heads.compressed = x.heads.compressed ∧ y.compressed = x.compressed := by
    unfold changePrecision at h
    split at h
    · simp only [Except.ok.injEq] at h
      subst h
      unfold increasePrecision
      split <;> simp
    · unfold decreasePrecision at h
      split at h
      · split at h
        · cases h
        · simp only [Except.ok.injEq] at h; subst h; simp
      · simp only [Except.ok.injEq] at h; subst h; simp
  obtain ⟨e1, e2⟩ := hsame
  obtain ⟨h1, h2, hw⟩ := hx
  exact ⟨by rw [e1]; exact h1, by rw [e1]; exact h2, by rw [e2]; exact hw⟩

theorem seek_spec (x : Coder) (p : Nat × Nat × Heads) :
    ((seek x p).1.heads = p.2.2 ∨ (seek x p).1.heads = x.heads) ∧
    (∃ n, (seek x p).1.compressed = x.compressed.drop n) ∧
    (∃ n, (seek x p).1.remainders = x.remainders.drop n) := by
  by_cases h1 : p.1 ≤ x.compressed.length
  · by_cases h2 : p.2.1 ≤ x.remainders.length
    · have e : seek x p = (Coder.mk (x.compressed.drop (x.compressed.length - p.1))
          (x.remainders.drop (x.remainders.length - p.2.1)) p.2.2, true) := by
        simp [seek, seekStack, h1, h2]
      rw [e]; exact ⟨Or.inl rfl, ⟨_, rfl⟩, ⟨_, rfl⟩⟩
    · have e : seek x p = (Coder.mk (x.compressed.drop (x.compressed.length - p.1))
          x.remainders x.heads, false) := by
        simp [seek, seekStack, h1, h2]
      rw [e]; exact ⟨Or.inr rfl, ⟨_, rfl⟩, ⟨0, rfl⟩⟩
  · have e : seek x p = (x, false) := by simp [seek, seekStack, h1]
    rw [e]; exact ⟨Or.inr rfl, ⟨0, rfl⟩, ⟨0, rfl⟩⟩

theorem seek_winv {c : Cfg} {x x' : Coder} (hx : WInv c x) (hx' : WInv c x') :
    WInv c (seek x (pos x')).1 := by
  obtain ⟨hh, ⟨n, hc⟩, _⟩ := seek_spec x (pos x')
  refine ⟨?_, ?_, by rw [hc]; exact hx.2.2.drop n⟩
  · rcases hh with h | h <;> rw [h]
    · exact hx'.1
    · exact hx.1
  · rcases hh with h | h <;> rw [h]
    · exact hx'.2.1
    · exact hx.2.1

theorem seek_inv {c : Cfg} {x x' : Coder} (hx : Inv c x) (hx' : Inv c x') :
    Inv c (seek x (pos x')).1 := by
  obtain ⟨hh, ⟨n, hc⟩, ⟨n', hr⟩⟩ := seek_spec x (pos x')
  refine ⟨?_, by rw [hc]; exact hx.2.1.drop n, by rw [hr]; exact hx.2.2.drop n'⟩
  rcases hh with h | h <;> rw [h]
  · exact hx'.1
  · exact hx.1

end CV.Chain
