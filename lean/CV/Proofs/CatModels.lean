import CV.Proofs.CatFast
/-!
# From the Impl functions to `Model`s; the generic conversions

`okEnc` / `okDec` turn the `Except`-valued Impl functions into the `Model` record used by the
coder theorems: a fault becomes `none` / the impossible triple `(default, 0, 0)`, which can
never satisfy `WellFormed`, so nothing is true "by default".  The generic conversions are
applied to *any* model whose `symbol_table` is the specification's table `specTable lab ext`.
-/
namespace CV.Cat
open CV

def okEnc {Sym : Type} (f : Sym → M (Option (Nat × Nat))) : Sym → Option (Nat × Nat) :=
  fun s => match f s with
    | .ok r => r
    | .error _ => none

def okDec {Sym : Type} [Inhabited Sym] (f : Nat → M (Sym × Nat × Nat)) : Nat → Sym × Nat × Nat :=
  fun q => match f q with
    | .ok r => r
    | .error _ => (default, 0, 0)

theorem WellFormed.congr {Sym : Type} {P : Nat} {m1 m2 : Model Sym}
    (henc : ∀ s, m1.enc s = m2.enc s) (hdec : ∀ q, q < 2 ^ P → m1.dec q = m2.dec q)
    (h : m2.WellFormed P) : m1.WellFormed P := by
  constructor
  · intro s c p he
    rw [henc] at he
    obtain ⟨a1, a2, a3, a4⟩ := h.1 s c p he
    refine ⟨a1, a2, a3, ?_⟩
    intro q hq1 hq2
    rw [hdec q (by omega)]
    exact a4 q hq1 hq2
  · intro q hq
    rw [hdec q hq, henc]
    exact h.2 q hq

theorem wellFormed_of_spec {P : Nat} {ext : List Nat} {enc : Nat → M (Option (Nat × Nat))}
    {dec : Nat → M (Nat × Nat × Nat)} (hv : ValidExt P ext)
    (henc : ∀ s, enc s = .ok (specEnc ext s))
    (hdec : ∀ q, q < 2 ^ P → dec q = .ok (specDec ext q)) :
    ({ enc := okEnc enc, dec := okDec dec } : Model Nat).WellFormed P :=
  WellFormed.congr (m2 := specModel ext) (fun s => by simp only [okEnc, henc, specModel])
    (fun q hq => by simp only [okDec, hdec q hq, specModel]) (specModel_wellFormed hv)

theorem labelled_id_enc (ext : List Nat) (s : Nat) :
    (labelledModel (labelsOf id (ext.length - 1)) ext).enc s = specEnc ext s := by
  simp only [labelledModel, labelsOf, List.map_id]
  by_cases hs : s < ext.length - 1
  · rw [if_pos (by simpa using hs)]
    have : (List.range (ext.length - 1)).idxOf s = s := by
      have := (List.nodup_range (n := ext.length - 1)).idxOf_getElem s (by simpa using hs)
      simpa using this
    rw [this]
  · rw [if_neg (by simpa using hs)]
    unfold specEnc
    rw [if_neg (by omega)]

theorem labelled_id_dec {P : Nat} {ext : List Nat} (h : ValidExt P ext) {q : Nat} (hq : q < 2 ^ P) :
    (labelledModel (labelsOf id (ext.length - 1)) ext).dec q = specDec ext q := by
  have hin := specIdx_inBin h hq
  simp only [labelledModel, specDec]
  rw [labelsOf_getD id (by have := hin.1; omega)]
  rfl

theorem specTable_labelsOf {Sym : Type} [Inhabited Sym] (lab : Nat → Sym) (ext : List Nat) :
    specTable (fun i => (labelsOf lab (ext.length - 1)).getD i default) ext = specTable lab ext := by
  unfold specTable
  apply List.map_congr_left
  intro i hi
  simp only [List.mem_range] at hi
  simp only [labelsOf_getD lab hi]

/-- **`to_generic_decoder_model`**: its own symbol table is the same table again -/
theorem generic_decoder {Sym : Type} [DecidableEq Sym] [Inhabited Sym] {B P : Nat}
    (lab : Nat → Sym) {ext : List Nat} (h : ValidExt P ext) (hP1 : 1 ≤ P) (hP : P ≤ B) :
    ∃ md, NcDec.fromTable B P (specTable lab ext) = .ok md ∧
      (∀ q, q < 2 ^ P → md.dec B q = .ok ((labelledModel (labelsOf lab (ext.length - 1)) ext).dec q)) ∧
      md.table B = .ok (specTable lab ext) ∧ ValidCdf B P (md.cdf.map (·.1)) := by
  obtain ⟨last, hmd⟩ := NcDec.fromTable_specTable (B := B) lab h hP1 hP
  have hlen : (labelsOf lab (ext.length - 1)).length + 1 = ext.length := by
    rw [labelsOf_length]; have := h.1; omega
  refine ⟨_, hmd, fun q hq => NcDec.dec_canon h hlen hP hq, ?_, (ncCdf_valid h hlen).1⟩
  rw [NcDec.table_canon h hlen hP, specTable_labelsOf]

/-- **`to_generic_encoder_model`** (distinct labels) -/
theorem generic_encoder {Sym : Type} [DecidableEq Sym] [Inhabited Sym]
    (lab : Nat → Sym) (ext : List Nat) (hnd : (labelsOf lab (ext.length - 1)).Nodup) (s : Sym) :
    (NcEnc.fromTable (specTable lab ext)).enc s =
      (labelledModel (labelsOf lab (ext.length - 1)) ext).enc s := by
  unfold NcEnc.enc
  rw [NcEnc.fromTable_nodup _ (by rw [specTable_keys]; exact hnd), NcEnc.get_specTable]

/-- **`to_generic_lookup_decoder_model`** / non-contiguous `to_lookup_decoder_model`; the last
    clause is `into_non_contiguous_categorical`, which keeps the cdf -/
theorem generic_lookup {Sym : Type} [DecidableEq Sym] [Inhabited Sym] {B P : Nat}
    (lab : Nat → Sym) {ext : List Nat} (h : ValidExt P ext) (hP : P ≤ B) :
    ∃ ml, NcLookup.fromTable B P (specTable lab ext) = .ok ml ∧
      (∀ q, q < 2 ^ P → ml.dec B P q = .ok ((labelledModel (labelsOf lab (ext.length - 1)) ext).dec q)) ∧
      ml.table B = .ok (specTable lab ext) ∧ ValidCdf B P (ml.cdf.map (·.1)) ∧
      LookupOK P ext ml.tbl ∧
      (∀ q, q < 2 ^ P → ml.asNcDec.dec B q =
        .ok ((labelledModel (labelsOf lab (ext.length - 1)) ext).dec q)) := by
  obtain ⟨tbl, last, hml, hok⟩ := NcLookup.fromTable_specTable (B := B) lab h hP
  have hlen : (labelsOf lab (ext.length - 1)).length + 1 = ext.length := by
    rw [labelsOf_length]; have := h.1; omega
  refine ⟨_, hml, fun q hq => NcLookup.dec_canon h hlen hP hok hq, ?_, (ncCdf_valid h hlen).1, hok,
    fun q hq => NcDec.dec_canon h hlen hP hq⟩
  rw [NcLookup.table_canon h hlen hP, specTable_labelsOf]

theorem NcEnc.fromFixed_model {Sym : Type} [DecidableEq Sym] [Inhabited Sym] {B P : Nat}
    {syms : List Sym} {probs : List Nat} {infer : Bool} {me : NcEnc Sym}
    (hP1 : 1 ≤ P) (hP : P ≤ B) (hprobs : ∀ p ∈ probs, p < 2 ^ B)
    (he : NcEnc.fromSymbolsAndNonzeroFixedPoint B P syms probs infer = some me) :
    ValidExt P (extOf (fullTable P probs infer)) ∧
    syms.length + 1 = (extOf (fullTable P probs infer)).length ∧ syms.Nodup ∧
    ∀ s, me.enc s = (labelledModel syms (extOf (fullTable P probs infer))).enc s := by
  obtain ⟨hv, hlen, hnd, htbl⟩ := NcEnc.fromFixed_some hP1 hP hprobs he
  have hlen' : syms.length + 1 = (extOf (fullTable P probs infer)).length := by
    rw [extOf_length]; exact congrArg (· + 1) hlen
  exact ⟨extOf_valid hv, hlen', hnd, NcEnc.enc_of_specTable hlen' htbl⟩

theorem NcDec.fromFixed_dec {Sym : Type} [DecidableEq Sym] [Inhabited Sym] {B P : Nat}
    {syms : List Sym} {probs : List Nat} {infer : Bool} {md : NcDec Sym}
    (hP1 : 1 ≤ P) (hP : P ≤ B) (hprobs : ∀ p ∈ probs, p < 2 ^ B)
    (hd : NcDec.fromSymbolsAndNonzeroFixedPoint B P syms probs infer = .ok (some md))
    {q : Nat} (hq : q < 2 ^ P) :
    md.dec B q = .ok ((labelledModel syms (extOf (fullTable P probs infer))).dec q) := by
  rcases NcDec.fromFixed_some (syms := syms) (infer := infer) hP1 hP hprobs with
    h0 | ⟨m', last, h1, hv, hlen, hcdf⟩
  · rw [h0] at hd; cases hd
  · rw [h1] at hd; cases hd
    have := NcDec.dec_canon (B := B) (last := last) (extOf_valid hv)
      (by rw [extOf_length]; exact congrArg (· + 1) hlen) hP hq
    rwa [← hcdf] at this

theorem NcLookup.fromFixed_dec {Sym : Type} [DecidableEq Sym] [Inhabited Sym] {B P : Nat}
    {syms : List Sym} {probs : List Nat} {infer : Bool} {ml : NcLookup Sym}
    (hP1 : 1 ≤ P) (hP : P ≤ B) (hprobs : ∀ p ∈ probs, p < 2 ^ B)
    (hl : NcLookup.fromSymbolsAndNonzeroFixedPoint B P syms probs infer = .ok (some ml))
    {q : Nat} (hq : q < 2 ^ P) :
    ml.dec B P q = .ok ((labelledModel syms (extOf (fullTable P probs infer))).dec q) := by
  rcases NcLookup.fromFixed_some (syms := syms) (infer := infer) hP1 hP hprobs with
    h0 | ⟨m', last, h1, hv, hlen, hcdf, hok⟩
  · rw [h0] at hl; cases hl
  · rw [h1] at hl; cases hl
    obtain ⟨tbl, cdf⟩ := ml
    subst hcdf
    exact NcLookup.dec_canon (extOf_valid hv) (by rw [extOf_length]; exact congrArg (· + 1) hlen)
      hP hok hq

end CV.Cat
