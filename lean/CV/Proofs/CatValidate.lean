import CV.Proofs.CatArith
/-!
# `accumulate_nonzero_probabilities`: which calls are accepted

The loop in closed form, the arithmetic core (the branch-free counter stays at zero exactly if
no entry is zero and nothing wraps), and from it: each final test is validity of the full table.
-/
namespace CV.Cat
open CV

/-- true (unwrapped) left cumulatives of a probability table -/
def psums (acc : Nat) : List Nat → List Nat
  | [] => []
  | p :: ps => acc :: psums (acc + p) ps

/-- final value of `accum` -/
def sumW (B acc : Nat) : List Nat → Nat
  | [] => acc
  | p :: ps => sumW B (wadd B acc p) ps

/-- increments of `laps_or_zeros` -/
def lapsOf (B acc : Nat) : List Nat → Nat
  | [] => 0
  | p :: ps => (if wadd B acc p ≤ acc then 1 else 0) + lapsOf B (wadd B acc p) ps

/-- the `old_accum` values handed to `operation` -/
def leftsW (B acc : Nat) : List Nat → List Nat
  | [] => []
  | p :: ps => acc :: leftsW B (wadd B acc p) ps

def ValidProbs (P : Nat) (qs : List Nat) : Prop :=
  2 ≤ qs.length ∧ (∀ q ∈ qs, 0 < q) ∧ qs.sum = 2 ^ P

/-- the input, plus the inferred entry -/
def fullTable (P : Nat) (probs : List Nat) (infer : Bool) : List Nat :=
  if infer then probs ++ [2 ^ P - probs.sum] else probs

@[simp] theorem psums_length (acc : Nat) (ps : List Nat) : (psums acc ps).length = ps.length := by
  induction ps generalizing acc with
  | nil => rfl
  | cons p ps ih => simp [psums, ih]

@[simp] theorem leftsW_length (B acc : Nat) (ps : List Nat) : (leftsW B acc ps).length = ps.length := by
  induction ps generalizing acc with
  | nil => rfl
  | cons p ps ih => simp [leftsW, ih]

theorem psums_append (acc : Nat) (ps qs : List Nat) :
    psums acc (ps ++ qs) = psums acc ps ++ psums (acc + ps.sum) qs := by
  induction ps generalizing acc with
  | nil => simp [psums]
  | cons p ps ih => simp [psums, ih, Nat.add_assoc]

theorem sumW_append (B acc : Nat) (ps qs : List Nat) :
    sumW B acc (ps ++ qs) = sumW B (sumW B acc ps) qs := by
  induction ps generalizing acc with
  | nil => rfl
  | cons p ps ih => simp [sumW, ih]

theorem lapsOf_append (B acc : Nat) (ps qs : List Nat) :
    lapsOf B acc (ps ++ qs) = lapsOf B acc ps + lapsOf B (sumW B acc ps) qs := by
  induction ps generalizing acc with
  | nil => simp [lapsOf, sumW]
  | cons p ps ih => simp [lapsOf, sumW, ih, Nat.add_assoc]

theorem leftsW_append (B acc : Nat) (ps qs : List Nat) :
    leftsW B acc (ps ++ qs) = leftsW B acc ps ++ leftsW B (sumW B acc ps) qs := by
  induction ps generalizing acc with
  | nil => simp [leftsW, sumW]
  | cons p ps ih => simp [leftsW, sumW, ih]

theorem laps_step {B acc p : Nat} (hacc : acc < 2 ^ B) (hp : p < 2 ^ B) :
    ¬ wadd B acc p ≤ acc ↔ 0 < p ∧ acc + p < 2 ^ B := by
  rcases wadd_cases hacc hp with ⟨h, e⟩ | ⟨h, e⟩ <;> omega

/-- **Arithmetic core**: the branch-free counter stays at zero exactly if no entry is zero
    and the running sum never wraps. -/
theorem lapsOf_eq_zero_iff {B acc : Nat} {ps : List Nat} (hacc : acc < 2 ^ B)
    (hps : ∀ p ∈ ps, p < 2 ^ B) :
    lapsOf B acc ps = 0 ↔ (∀ p ∈ ps, 0 < p) ∧ acc + ps.sum < 2 ^ B := by
  induction ps generalizing acc with
  | nil => simp [lapsOf, hacc]
  | cons p ps ih =>
    have hstep := laps_step hacc (hps p List.mem_cons_self)
    have ih := ih (acc := wadd B acc p) wadd_lt (fun q hq => hps q (List.mem_cons_of_mem _ hq))
    simp only [lapsOf, List.forall_mem_cons, List.sum_cons, Nat.add_eq_zero_iff, ih]
    constructor
    · rintro ⟨h0, hpos, hfit⟩
      obtain ⟨hp0, hlt⟩ := hstep.mp (fun hc => by rw [if_pos hc] at h0; cases h0)
      rw [wadd_of_lt hlt, Nat.add_assoc] at hfit
      exact ⟨⟨hp0, hpos⟩, hfit⟩
    · rintro ⟨⟨hp0, hpos⟩, hfit⟩
      have hlt : acc + p < 2 ^ B :=
        Nat.lt_of_le_of_lt (Nat.add_le_add_left (Nat.le_add_right p _) acc) hfit
      exact ⟨if_neg (hstep.mpr ⟨hp0, hlt⟩), hpos,
        by rw [wadd_of_lt hlt, Nat.add_assoc]; exact hfit⟩

theorem sumW_leftsW_of_lt {B acc : Nat} {ps : List Nat} (h : acc + ps.sum < 2 ^ B) :
    sumW B acc ps = acc + ps.sum ∧ leftsW B acc ps = psums acc ps := by
  induction ps generalizing acc with
  | nil => exact ⟨rfl, rfl⟩
  | cons p ps ih =>
    rw [List.sum_cons] at h
    have hw : wadd B acc p = acc + p := wadd_of_lt (by omega)
    obtain ⟨h1, h2⟩ := ih (acc := acc + p) (by omega)
    simp only [sumW, leftsW, psums, hw, h1, h2, List.sum_cons, Nat.add_assoc, and_self]

theorem lapsOf_zero_iff {B : Nat} {ps : List Nat} (hps : ∀ p ∈ ps, p < 2 ^ B) :
    lapsOf B 0 ps = 0 ↔ (∀ p ∈ ps, 0 < p) ∧ ps.sum < 2 ^ B := by
  simpa only [Nat.zero_add] using lapsOf_eq_zero_iff (Nat.two_pow_pos B) hps

theorem sumW_leftsW_zero {B : Nat} {ps : List Nat} (h : ps.sum < 2 ^ B) :
    sumW B 0 ps = ps.sum ∧ leftsW B 0 ps = psums 0 ps := by
  simpa only [Nat.zero_add] using sumW_leftsW_of_lt (acc := 0) ((Nat.zero_add _).symm ▸ h)

theorem psums_lt_of_pos {acc : Nat} {ps : List Nat} (hpos : ∀ p ∈ ps, 0 < p) :
    ∀ x ∈ psums acc ps, acc ≤ x ∧ x < acc + ps.sum := by
  induction ps generalizing acc with
  | nil => simp [psums]
  | cons p ps ih =>
    intro x hx
    simp only [psums, List.mem_cons] at hx
    have hp0 : 0 < p := hpos p (by simp)
    simp only [List.sum_cons]
    rcases hx with rfl | hx
    · omega
    · have := ih (acc := acc + p) (fun q hq => hpos q (by simp [hq])) x hx
      omega

theorem psums_pairwise {acc : Nat} {ps : List Nat} (hpos : ∀ p ∈ ps, 0 < p) :
    (psums acc ps).Pairwise (· < ·) := by
  induction ps generalizing acc with
  | nil => simp [psums]
  | cons p ps ih =>
    simp only [psums, List.pairwise_cons]
    refine ⟨?_, ih (fun q hq => hpos q (by simp [hq]))⟩
    intro x hx
    have := psums_lt_of_pos (acc := acc + p) (fun q hq => hpos q (by simp [hq])) x hx
    have := hpos p (by simp)
    omega

theorem sum_pos_iff {l : List Nat} (hpos : ∀ p ∈ l, 0 < p) : 0 < l.sum ↔ 0 < l.length := by
  cases l with
  | nil => simp
  | cons x xs =>
    have := hpos x List.mem_cons_self
    simp only [List.sum_cons, List.length_cons]
    omega

theorem validProbs_concat_iff {P : Nat} {init : List Nat} {last : Nat} :
    ValidProbs P (init ++ [last]) ↔
      (∀ p ∈ init, 0 < p) ∧ 0 < init.sum ∧ 0 < last ∧ init.sum + last = 2 ^ P := by
  simp only [ValidProbs, List.length_append, List.length_singleton, List.sum_append,
    List.sum_singleton, List.forall_mem_append, List.forall_mem_singleton]
  constructor
  · rintro ⟨hlen, ⟨hpos, hl⟩, hsum⟩
    exact ⟨hpos, (sum_pos_iff hpos).mpr (by omega), hl, hsum⟩
  · rintro ⟨hpos, hs, hl, hsum⟩
    have := (sum_pos_iff hpos).mp hs
    exact ⟨by omega, ⟨hpos, hl⟩, hsum⟩

/-- no symbol has probability one -/
theorem ValidProbs.lt {P : Nat} {qs : List Nat} (h : ValidProbs P qs) : ∀ q ∈ qs, q < 2 ^ P := by
  obtain ⟨hlen, hpos, hsum⟩ := h
  intro q hq
  -- some other entry is positive
  obtain ⟨l1, l2, rfl⟩ := List.append_of_mem hq
  simp only [List.sum_append, List.sum_cons, List.length_append, List.length_cons,
    List.forall_mem_append, List.forall_mem_cons] at hlen hpos hsum
  have h1 := sum_pos_iff hpos.1
  have h2 := sum_pos_iff hpos.2.2
  omega

theorem last_step_lt {B P s last : Nat} (hlt : 2 ^ P < 2 ^ B) (hs : s < 2 ^ B)
    (hl : last < 2 ^ B) :
    wadd B s last = 2 ^ P ∧ ¬ wadd B s last ≤ s ↔ 0 < last ∧ s + last = 2 ^ P := by
  rcases wadd_cases hs hl with ⟨h, e⟩ | ⟨h, e⟩ <;> omega

theorem last_step_eq {B s last : Nat} (hs0 : 0 < s) (hs : s < 2 ^ B) (hl : last < 2 ^ B) :
    wadd B s last = 0 ↔ s + last = 2 ^ B := by
  rcases wadd_cases hs hl with ⟨h, e⟩ | ⟨h, e⟩ <;> omega

/-- the final test without inference, `accum == total && laps == (P == B) as usize` -/
theorem noinfer_test_iff {B P : Nat} {probs : List Nat} (hP : P ≤ B)
    (hprobs : ∀ p ∈ probs, p < 2 ^ B) :
    (2 ≤ probs.length ∧ sumW B 0 probs = wrappingPow2 B P ∧
        lapsOf B 0 probs = if P = B then 1 else 0) ↔ ValidProbs P probs := by
  rcases List.eq_nil_or_concat probs with rfl | ⟨init, last, rfl⟩
  · simp [ValidProbs]
  · rw [List.concat_eq_append] at hprobs ⊢
    rw [validProbs_concat_iff, sumW_append, lapsOf_append]
    simp only [sumW, lapsOf, Nat.add_zero, List.length_append, List.length_singleton]
    have hlast := hprobs last (by simp)
    have hz := lapsOf_zero_iff (fun p hp => hprobs p (List.mem_append_left _ hp))
    have hlen : 2 ≤ init.length + 1 ↔ 0 < init.length := by omega
    rcases wrappingPow2_cases hP with ⟨hlt, hT, h2P⟩ | ⟨hPB, hT, h2P⟩
    · -- `P < B`: no step is counted, so nothing wraps and the true sum is the total
      rw [hT, if_neg (Nat.ne_of_lt hlt), Nat.add_eq_zero_iff, hlen]
      constructor
      · rintro ⟨hl, hacc, hl0, hstep⟩
        obtain ⟨hpos, hfit⟩ := hz.mp hl0
        rw [(sumW_leftsW_zero hfit).1] at hacc hstep
        exact ⟨hpos, (sum_pos_iff hpos).mpr hl, (last_step_lt h2P hfit hlast).mp
          ⟨hacc, fun hle => by rw [if_pos hle] at hstep; cases hstep⟩⟩
      · rintro ⟨hpos, hs, hl, hsum⟩
        have hfit : init.sum < 2 ^ B := Nat.lt_of_le_of_lt (Nat.le_add_right _ _) (hsum ▸ h2P)
        obtain ⟨hacc, hstep⟩ := (last_step_lt h2P hfit hlast).mpr ⟨hl, hsum⟩
        rw [(sumW_leftsW_zero hfit).1, if_neg hstep]
        exact ⟨(sum_pos_iff hpos).mp hs, hacc, hz.mpr ⟨hpos, hfit⟩, rfl⟩
    · -- `P = B`: the last step, and only it, is counted: it wraps, to `0`
      rw [hT, if_pos hPB, hlen, h2P]
      constructor
      · rintro ⟨hl, hacc, hlaps⟩
        rw [if_pos (Nat.le_trans (Nat.le_of_eq hacc) (Nat.zero_le _))] at hlaps
        obtain ⟨hpos, hfit⟩ := hz.mp (Nat.add_right_cancel hlaps)
        rw [(sumW_leftsW_zero hfit).1] at hacc
        have hs := (sum_pos_iff hpos).mpr hl
        have hsum := (last_step_eq hs hfit hlast).mp hacc
        exact ⟨hpos, hs, by omega, hsum⟩
      · rintro ⟨hpos, hs, hl, hsum⟩
        have hfit : init.sum < 2 ^ B := by omega
        have hacc := (last_step_eq hs hfit hlast).mpr hsum
        rw [(sumW_leftsW_zero hfit).1, hacc, if_pos (Nat.zero_le _), hz.mpr ⟨hpos, hfit⟩]
        exact ⟨(sum_pos_iff hpos).mp hs, rfl, rfl⟩

theorem wsub_one_lt_iff {B P s : Nat} (hP1 : 1 ≤ P) (hP : P ≤ B) (hs : s < 2 ^ B) :
    wsub B s 1 < 2 ^ P - 1 ↔ 0 < s ∧ s < 2 ^ P := by
  have hPB := pow_le_pow2 hP
  have h1B : 1 < 2 ^ B := Nat.one_lt_two_pow (by omega)
  rcases Nat.eq_zero_or_pos s with rfl | h0
  · rw [wsub_of_lt Nat.one_pos h1B]; omega
  · rw [wsub_of_le h0 hs]; omega

/-- the final test with inference, `accum - 1 < total - 1` (wrapping) `&& laps == 0` (D8) -/
theorem infer_test_iff {B P : Nat} {probs : List Nat} (hP1 : 1 ≤ P) (hP : P ≤ B)
    (hprobs : ∀ p ∈ probs, p < 2 ^ B) :
    (1 ≤ probs.length ∧ wsub B (sumW B 0 probs) 1 < wsub B (wrappingPow2 B P) 1 ∧
        lapsOf B 0 probs = 0) ↔ ValidProbs P (probs ++ [2 ^ P - probs.sum]) := by
  have hPB := pow_le_pow2 hP
  rw [validProbs_concat_iff, wsub_total_one hP1 hP, lapsOf_zero_iff hprobs]
  constructor
  · rintro ⟨_, hc, hpos, hfit⟩
    rw [(sumW_leftsW_zero hfit).1] at hc
    obtain ⟨h0, hlt⟩ := (wsub_one_lt_iff hP1 hP hfit).mp hc
    exact ⟨hpos, h0, Nat.sub_pos_of_lt hlt, Nat.add_sub_cancel' (Nat.le_of_lt hlt)⟩
  · rintro ⟨hpos, hs, hl, hsum⟩
    have hlt : probs.sum < 2 ^ P := Nat.lt_of_sub_pos hl
    have hfit : probs.sum < 2 ^ B := Nat.lt_of_lt_of_le hlt hPB
    rw [(sumW_leftsW_zero hfit).1]
    exact ⟨(sum_pos_iff hpos).mp hs, (wsub_one_lt_iff hP1 hP hfit).mpr ⟨hs, hlt⟩,
      hpos, hfit⟩

/-- `n` calls of `symbols.next()` -/
def takeSyms {Sym : Type} : SymIter Sym → Nat → Option (List Sym × SymIter Sym)
  | it, 0 => some ([], it)
  | it, n + 1 =>
    match it.next with
    | none => none
    | some (s, it') =>
      match takeSyms it' n with
      | none => none
      | some (ss, rest) => some (s :: ss, rest)

/-- consecutive calls of `operation(symbol, left_cumulative, probability)` -/
def foldOp {σ Sym : Type} (op : σ → Sym → Nat → Nat → Option σ) :
    σ → List (Sym × Nat × Nat) → Option σ
  | st, [] => some st
  | st, (s, l, p) :: rest =>
    match op st s l p with
    | none => none
    | some st' => foldOp op st' rest

/-- the triples `operation` is called with for a full probability table `qs` -/
def triples {Sym : Type} (ss : List Sym) (qs : List Nat) : List (Sym × Nat × Nat) :=
  ss.zip ((psums 0 qs).zip qs)

theorem takeSyms_succ_eq_some {Sym : Type} {it rest : SymIter Sym} {n : Nat} {ss : List Sym} :
    takeSyms it (n + 1) = some (ss, rest) ↔
      ∃ s it' ss', it.next = some (s, it') ∧ takeSyms it' n = some (ss', rest) ∧ ss = s :: ss' := by
  constructor
  · intro h
    simp only [takeSyms] at h
    cases hn : it.next with
    | none => simp [hn] at h
    | some x =>
      obtain ⟨s, it'⟩ := x
      simp only [hn] at h
      cases ht : takeSyms it' n with
      | none => simp [ht] at h
      | some y =>
        obtain ⟨ss', rest'⟩ := y
        simp only [ht, Option.some.injEq, Prod.mk.injEq] at h
        exact ⟨s, it', ss', rfl, by rw [← h.2]; exact ht, h.1.symm⟩
  · rintro ⟨s, it', ss', h1, h2, rfl⟩
    simp only [takeSyms, h1, h2]

theorem takeSyms_length {Sym : Type} {it rest : SymIter Sym} {n : Nat} {ss : List Sym}
    (h : takeSyms it n = some (ss, rest)) : ss.length = n := by
  induction n generalizing it ss with
  | zero => simp [takeSyms] at h; simp [h.1.symm]
  | succ n ih =>
    obtain ⟨s, it', ss', _, h2, rfl⟩ := takeSyms_succ_eq_some.mp h
    simp [ih h2]

theorem takeSyms_succ {Sym : Type} (it : SymIter Sym) (n : Nat) :
    takeSyms it (n + 1) =
      (takeSyms it n).bind fun r => r.2.next.map fun x => (r.1 ++ [x.1], x.2) := by
  induction n generalizing it with
  | zero =>
    simp only [takeSyms, Option.bind_some]
    cases it.next <;> rfl
  | succ n ih =>
    rw [takeSyms]
    conv => rhs; rw [takeSyms]
    cases it.next with
    | none => rfl
    | some x =>
      simp only [ih x.2]
      cases takeSyms x.2 n with
      | none => rfl
      | some r =>
        obtain ⟨ss, mid⟩ := r
        cases h : mid.next <;> simp [h]

theorem accLoop_eq_some {σ Sym : Type} {B : Nat} {op : σ → Sym → Nat → Nat → Option σ}
    {ps : List Nat} {a a' : Acc σ Sym} :
    accLoop B op ps a = some a' ↔
      ∃ ss, takeSyms a.syms ps.length = some (ss, a'.syms) ∧
        foldOp op a.st (ss.zip ((leftsW B a.accum ps).zip ps)) = some a'.st ∧
        a'.accum = sumW B a.accum ps ∧ a'.laps = a.laps + lapsOf B a.accum ps ∧
        a'.num = a.num + ps.length := by
  induction ps generalizing a with
  | nil =>
    cases a; cases a'
    simp only [accLoop, takeSyms, leftsW, sumW, lapsOf, List.length_nil, Option.some.injEq,
      Acc.mk.injEq, Prod.mk.injEq, Nat.add_zero]
    constructor
    · rintro ⟨rfl, rfl, rfl, rfl, rfl⟩; exact ⟨[], ⟨rfl, rfl⟩, rfl, rfl, rfl, rfl⟩
    · rintro ⟨ss, ⟨rfl, rfl⟩, h, rfl, rfl, rfl⟩
      simp only [List.zip_nil_left, foldOp, Option.some.injEq] at h
      exact ⟨rfl, rfl, rfl, rfl, h⟩
  | cons p ps ih =>
    simp only [accLoop, takeSyms_succ_eq_some, leftsW, sumW, lapsOf, List.length_cons]
    cases a.syms.next with
    | none => simp
    | some x =>
      obtain ⟨s, syms⟩ := x
      simp only [Option.some.injEq, Prod.mk.injEq]
      cases hop : op a.st s a.accum p with
      | none =>
        refine ⟨nofun, ?_⟩
        rintro ⟨_, ⟨_, _, ss', ⟨rfl, rfl⟩, -, rfl⟩, hf, -⟩
        simp [foldOp, hop] at hf
      | some st1 =>
        simp only [ih]
        constructor
        · rintro ⟨ss, h1, h2, h3, h4, h5⟩
          exact ⟨s :: ss, ⟨s, syms, ss, ⟨rfl, rfl⟩, h1, rfl⟩,
            by simp only [List.zip_cons_cons, foldOp, hop, h2],
            h3, by rw [h4, Nat.add_assoc], by rw [h5, Nat.add_assoc, Nat.add_comm 1]⟩
        · rintro ⟨_, ⟨_, _, ss', ⟨rfl, rfl⟩, h1, rfl⟩, h2, h3, h4, h5⟩
          simp only [List.zip_cons_cons, foldOp, hop] at h2
          exact ⟨ss', h1, h2, h3, by rw [h4, Nat.add_assoc],
            by rw [h5, Nat.add_assoc, Nat.add_comm 1]⟩

theorem foldOp_concat {σ Sym : Type} (op : σ → Sym → Nat → Nat → Option σ) (st : σ)
    (xs : List (Sym × Nat × Nat)) (s : Sym) (l p : Nat) :
    foldOp op st (xs ++ [(s, l, p)]) = (foldOp op st xs).bind fun st1 => op st1 s l p := by
  induction xs generalizing st with
  | nil =>
    simp only [List.nil_append, foldOp, Option.bind_some]
    cases op st s l p <;> rfl
  | cons x xs ih =>
    obtain ⟨s', l', p'⟩ := x
    simp only [List.cons_append, foldOp]
    cases op st s' l' p' with
    | none => rfl
    | some st' => exact ih st'

theorem foldOp_push {α Sym : Type} (f : Sym → Nat → Nat → α) (t : List (Sym × Nat × Nat))
    (st0 : List α) :
    foldOp (fun st s l p => some (st ++ [f s l p])) st0 t =
      some (st0 ++ t.map fun x => f x.1 x.2.1 x.2.2) := by
  induction t generalizing st0 with
  | nil => simp [foldOp]
  | cons x t ih =>
    obtain ⟨s, l, p⟩ := x
    simp only [foldOp, ih, List.map_cons, List.append_assoc, List.singleton_append]

theorem triples_concat {Sym : Type} {ss : List Sym} {init : List Nat} (s : Sym) (last : Nat)
    (h : ss.length = init.length) :
    triples (ss ++ [s]) (init ++ [last]) =
      ss.zip ((psums 0 init).zip init) ++ [(s, init.sum, last)] := by
  unfold triples
  rw [psums_append, List.zip_append (by simp), List.zip_append (by simp [h])]
  simp [psums]

/-- the running sum reaches `2^B` at the last entry at the earliest -/
theorem ValidProbs.leftsW_eq {B P : Nat} {qs : List Nat} (hP : P ≤ B) (hv : ValidProbs P qs) :
    leftsW B 0 qs = psums 0 qs := by
  rcases List.eq_nil_or_concat qs with rfl | ⟨init, last, rfl⟩
  · rfl
  · rw [List.concat_eq_append] at hv ⊢
    obtain ⟨-, -, hl, hsum⟩ := validProbs_concat_iff.mp hv
    have hPB := pow_le_pow2 hP
    obtain ⟨h1, h2⟩ := sumW_leftsW_zero (B := B) (ps := init) (by omega)
    rw [leftsW_append, psums_append, h1, h2, Nat.zero_add]
    rfl

/-- **Which calls are accepted**, for every closure and symbol iterator: `operation` is
    called once per entry of the full table with the true left cumulative. -/
theorem accumulate_eq_some_iff {σ Sym : Type} {B P : Nat} {op : σ → Sym → Nat → Nat → Option σ}
    {syms rest : SymIter Sym} {probs : List Nat} {st st' : σ} {infer : Bool}
    (hP1 : 1 ≤ P) (hP : P ≤ B) (hprobs : ∀ p ∈ probs, p < 2 ^ B) :
    accumulate B P op syms probs st infer = some (rest, st') ↔
      ValidProbs P (fullTable P probs infer) ∧
      ∃ ss, takeSyms syms (fullTable P probs infer).length = some (ss, rest) ∧
        foldOp op st (triples ss (fullTable P probs infer)) = some st' := by
  have hPB := pow_le_pow2 hP
  cases infer with
  | false =>
    simp only [fullTable, Bool.false_eq_true, if_false]
    constructor
    · intro h
      unfold accumulate at h
      split at h
      · cases h
      · rename_i a hloop
        obtain ⟨ss, h1, h2, h3, h4, h5⟩ := accLoop_eq_some.mp hloop
        simp only [Bool.false_eq_true, if_false, Nat.add_zero, Option.ite_none_left_eq_some,
          Option.some.injEq, Prod.mk.injEq, not_or, Decidable.not_not, Nat.not_lt] at h
        obtain ⟨hnum, ⟨hacc, hlaps⟩, rfl, rfl⟩ := h
        simp only [Nat.zero_add] at h3 h4 h5
        have hv := (noinfer_test_iff hP hprobs).mp ⟨h5 ▸ hnum, h3 ▸ hacc, h4 ▸ hlaps⟩
        exact ⟨hv, ss, h1, by rw [triples, ← hv.leftsW_eq hP]; exact h2⟩
    · rintro ⟨hv, ss, hts, hfold⟩
      obtain ⟨hlen, hacc, hlaps⟩ := (noinfer_test_iff hP hprobs).mpr hv
      have hloop : accLoop B op probs ⟨0, 0, 0, syms, st⟩ =
          some ⟨sumW B 0 probs, lapsOf B 0 probs, probs.length, rest, st'⟩ :=
        accLoop_eq_some.mpr ⟨ss, hts, by rw [hv.leftsW_eq hP]; exact hfold, rfl,
          (Nat.zero_add _).symm, (Nat.zero_add _).symm⟩
      unfold accumulate
      rw [hloop]
      simp only [Bool.false_eq_true, if_false, Nat.add_zero]
      rw [if_neg (Nat.not_lt.mpr hlen), if_neg (fun h => h.elim (· hacc) (· hlaps))]
  | true =>
    simp only [fullTable, if_true, List.length_append, List.length_singleton]
    constructor
    · intro h
      unfold accumulate at h
      split at h
      · cases h
      · rename_i a hloop
        obtain ⟨ss, h1, h2, h3, h4, h5⟩ := accLoop_eq_some.mp hloop
        simp only [if_true, Option.ite_none_left_eq_some, not_or, Decidable.not_not,
          Nat.not_le, Nat.not_lt] at h
        obtain ⟨hnum, ⟨hc, hlaps⟩, h⟩ := h
        split at h
        · cases h
        · rename_i s mid hnext
          split at h
          · cases h
          · rename_i st2 hop
            simp only [Option.some.injEq, Prod.mk.injEq] at h
            obtain ⟨rfl, rfl⟩ := h
            simp only [Nat.zero_add] at h3 h4 h5
            have hv := (infer_test_iff hP1 hP hprobs).mp
              ⟨h5 ▸ Nat.le_of_succ_le_succ hnum, h3 ▸ hc, h4 ▸ hlaps⟩
            obtain ⟨-, hs, hl, hsum⟩ := validProbs_concat_iff.mp hv
            have hlt : probs.sum < 2 ^ P := Nat.lt_of_sub_pos hl
            obtain ⟨e1, e2⟩ := sumW_leftsW_zero (Nat.lt_of_lt_of_le hlt hPB)
            rw [h3, e1, wsub_total_of_lt hP hs hlt] at hop
            refine ⟨hv, ss ++ [s], ?_, ?_⟩
            · rw [takeSyms_succ, h1]; simp [hnext]
            · rw [triples_concat s _ (takeSyms_length h1), foldOp_concat, ← e2, h2]
              exact hop
    · rintro ⟨hv, ss', hts, hfold⟩
      obtain ⟨-, hs, hl, hsum⟩ := validProbs_concat_iff.mp hv
      obtain ⟨hlen, hc, hlaps⟩ := (infer_test_iff hP1 hP hprobs).mpr hv
      have hlt : probs.sum < 2 ^ P := Nat.lt_of_sub_pos hl
      obtain ⟨e1, e2⟩ := sumW_leftsW_zero (Nat.lt_of_lt_of_le hlt hPB)
      rw [takeSyms_succ] at hts
      obtain ⟨⟨ss, mid⟩, h1, h⟩ := Option.bind_eq_some_iff.mp hts
      obtain ⟨⟨s, rest'⟩, hnext, h⟩ := Option.map_eq_some_iff.mp h
      simp only [Prod.mk.injEq] at h
      obtain ⟨rfl, rfl⟩ := h
      rw [triples_concat s _ (takeSyms_length h1), foldOp_concat] at hfold
      obtain ⟨st1, h2, hop⟩ := Option.bind_eq_some_iff.mp hfold
      have hloop : accLoop B op probs ⟨0, 0, 0, syms, st⟩ =
          some ⟨sumW B 0 probs, lapsOf B 0 probs, probs.length, mid, st1⟩ :=
        accLoop_eq_some.mpr ⟨ss, h1, by rw [e2]; exact h2, rfl,
          (Nat.zero_add _).symm, (Nat.zero_add _).symm⟩
      unfold accumulate
      rw [hloop]
      simp only [if_true]
      rw [if_neg (Nat.not_lt.mpr (Nat.succ_le_succ hlen)),
        if_neg (fun h => h.elim (Nat.not_le.mpr hc) (· hlaps)), hnext]
      simp only
      rw [e1, wsub_total_of_lt hP hs hlt, hop]

theorem takeSyms_rep {Sym : Type} (s : Sym) (n : Nat) :
    takeSyms (.rep s) n = some (List.replicate n s, .rep s) := by
  induction n with
  | zero => rfl
  | succ n ih => simp [takeSyms, SymIter.next, ih, List.replicate_succ]

theorem takeSyms_list_all {Sym : Type} (l : List Sym) :
    takeSyms (.list l) l.length = some (l, .list []) := by
  induction l with
  | nil => rfl
  | cons x l ih => simp [takeSyms, SymIter.next, ih]

theorem takeSyms_list {Sym : Type} {l : List Sym} {n : Nat} {ss : List Sym} {rest : SymIter Sym}
    (h : takeSyms (.list l) n = some (ss, rest)) :
    ∃ rem, l = ss ++ rem ∧ rest = .list rem ∧ ss.length = n := by
  induction n generalizing l ss with
  | zero =>
    simp [takeSyms] at h
    exact ⟨l, by simp [← h.1], h.2.symm, by simp [← h.1]⟩
  | succ n ih =>
    obtain ⟨s, it', ss', h1, h2, rfl⟩ := takeSyms_succ_eq_some.mp h
    cases l with
    | nil => simp [SymIter.next] at h1
    | cons x l =>
      simp only [SymIter.next, Option.some.injEq, Prod.mk.injEq] at h1
      obtain ⟨rfl, rfl⟩ := h1
      obtain ⟨rem, e1, e2, e3⟩ := ih h2
      exact ⟨rem, by simp [e1], e2, by simp [e3]⟩

theorem accumulate_list_some {σ Sym : Type} {B P : Nat} {op : σ → Sym → Nat → Nat → Option σ}
    {syms : List Sym} {rest : SymIter Sym} {probs : List Nat} {st st' : σ} {infer : Bool}
    (hP1 : 1 ≤ P) (hP : P ≤ B) (hprobs : ∀ p ∈ probs, p < 2 ^ B)
    (h : accumulate B P op (.list syms) probs st infer = some (rest, st')) :
    ValidProbs P (fullTable P probs infer) ∧
    ∃ ss rem, syms = ss ++ rem ∧ rest = .list rem ∧
      ss.length = (fullTable P probs infer).length ∧
      foldOp op st (triples ss (fullTable P probs infer)) = some st' := by
  obtain ⟨hv, ss, hts, hfold⟩ := (accumulate_eq_some_iff hP1 hP hprobs).mp h
  obtain ⟨rem, e1, e2, e3⟩ := takeSyms_list hts
  exact ⟨hv, ss, rem, e1, e2, e3, hfold⟩

end CV.Cat
