import CV.Proofs.HuffTree
import CV.Proofs.Arith
/-!
# The merge loop and what the two constructors write down

`treeLoop` replays the heap discipline of the two constructors for an arbitrary weight type and
returns the tree.  `EncDesc arr t`: the parent array holds `i << 1 | bit` for both children of
every internal node `i`.  `DecDesc tab n t`: the child table holds at `i - n` the children of `i`.
Each constructor loop returns such a description exactly when `treeLoop` returns the tree, so
`fuel = heap.len()` is never exhausted.
-/
namespace CV.Huff

section
variable {α : Type} (ops : WeightOps α)

/-- the tree the two constructors build; `none`: an addition panicked, or there was no entry or
no fuel (neither happens with `fuel = heap.len() > 0`) -/
def treeLoop : Nat → List (α × Nat) → Nat → Option Tree
  | 0, _, _ => none
  | fuel + 1, heap, next =>
    match popMin ops heap with
    | none => none
    | some (a, h1) =>
      match popMin ops h1 with
      | none => some (.leaf a.2)
      | some (b, h2) =>
        match addPush ops a.1 b.1 h2 with
        | .error _ => none
        | .ok w => (treeLoop fuel ((w, next) :: h2) (next + 1)).map (Tree.split next a.2 b.2)

/-- the head shared by the three loops: fewer than two entries (the loop ends), a panic in
`prob0 + prob1` or its push, or two minima `a`, `b` merged into weight `w` with `rest` left -/
inductive Step (α : Type) where
  | stop (last : Option (α × Nat))
  | fault (f : Fault)
  | merge (a b : α × Nat) (w : α) (rest : List (α × Nat))

def step (heap : List (α × Nat)) : Step α :=
  match popMin ops heap with
  | none => .stop none
  | some (a, h1) =>
    match popMin ops h1 with
    | none => .stop (some a)
    | some (b, h2) =>
      match addPush ops a.1 b.1 h2 with
      | .error f => .fault f
      | .ok w => .merge a b w h2

theorem step_match {γ : Type} (heap : List (α × Nat)) (fs : Option (α × Nat) → γ) (ff : Fault → γ)
    (fm : α × Nat → α × Nat → α → List (α × Nat) → γ) :
    (match popMin ops heap with
      | none => fs none
      | some (a, h1) =>
        match popMin ops h1 with
        | none => fs (some a)
        | some (b, h2) =>
          match addPush ops a.1 b.1 h2 with
          | .error f => ff f
          | .ok w => fm a b w h2) =
    match step ops heap with
    | .stop last => fs last
    | .fault f => ff f
    | .merge a b w h2 => fm a b w h2 := by
  rw [step]
  cases popMin ops heap with
  | none => rfl
  | some ah =>
    obtain ⟨a, h1⟩ := ah
    dsimp only
    cases popMin ops h1 with
    | none => rfl
    | some bh =>
      obtain ⟨b, h2⟩ := bh
      dsimp only
      cases addPush ops a.1 b.1 h2 <;> rfl

theorem treeLoop_succ (fuel : Nat) (heap : List (α × Nat)) (next : Nat) :
    treeLoop ops (fuel + 1) heap next =
      match step ops heap with
      | .stop last => last.map (fun a => .leaf a.2)
      | .fault _ => none
      | .merge a b w h2 =>
        (treeLoop ops fuel ((w, next) :: h2) (next + 1)).map (Tree.split next a.2 b.2) := by
  rw [treeLoop]
  exact step_match ops heap (fun last => last.map fun a => Tree.leaf a.2) (fun _ => none) _

theorem encLoop_succ (fuel : Nat) (heap : List (α × Nat)) (nodes : List Nat) (next : Nat) :
    encLoop ops (fuel + 1) heap nodes next =
      match step ops heap with
      | .stop _ => .ok nodes
      | .fault f => .error f
      | .merge a b w h2 =>
        if a.2 < nodes.length then
          if b.2 < (nodes.set a.2 ((next <<< 1) % 2^64)).length then
            match cadd "huff.enc.next" 64 next 1 with
            | .error f => .error f
            | .ok next' =>
              encLoop ops fuel ((w, next) :: h2)
                ((nodes.set a.2 ((next <<< 1) % 2^64)).set b.2 (((next <<< 1) % 2^64) ||| 1)) next'
          else .error (.ub "huff.enc.new.index1")
        else .error (.ub "huff.enc.new.index0") := by
  rw [encLoop]
  exact step_match ops heap (fun _ => Except.ok nodes) Except.error _

theorem decLoop_succ (fuel : Nat) (heap : List (α × Nat)) (nodes : List (Nat × Nat)) (next : Nat) :
    decLoop ops (fuel + 1) heap nodes next =
      match step ops heap with
      | .stop _ => .ok nodes
      | .fault f => .error f
      | .merge a b w h2 =>
        match cadd "huff.dec.next" 64 next 1 with
        | .error f => .error f
        | .ok next' => decLoop ops fuel ((w, next) :: h2) (nodes ++ [(a.2, b.2)]) next' := by
  rw [decLoop]
  exact step_match ops heap (fun _ => Except.ok nodes) Except.error _

variable {ops}

theorem step_stop {heap : List (α × Nat)} {last} (h : step ops heap = .stop last) :
    heap = last.toList := by
  unfold step at h
  split at h
  · next e => cases h; exact (popMin_eq_none ops).mp e
  · next a h1 e1 =>
    split at h
    · next e2 =>
      cases h
      have hp := popMin_perm e1
      rw [(popMin_eq_none ops).mp e2] at hp
      exact List.perm_singleton.mp hp
    · split at h <;> cases h

theorem step_merge {heap h2 : List (α × Nat)} {a b : α × Nat} {w : α}
    (h : step ops heap = .merge a b w h2) :
    ∃ h1, popMin ops heap = some (a, h1) ∧ popMin ops h1 = some (b, h2) ∧
      addPush ops a.1 b.1 h2 = .ok w := by
  unfold step at h
  split at h
  · cases h
  · next a' h1 e1 =>
    split at h
    · cases h
    · next b' h2' e2 =>
      split at h
      · cases h
      · next w' e3 => cases h; exact ⟨h1, e1, e2, e3⟩

theorem step_perm {heap h2 : List (α × Nat)} {a b : α × Nat} {w : α}
    (h : step ops heap = .merge a b w h2) : heap.Perm (a :: b :: h2) := by
  obtain ⟨h1, e1, e2, _⟩ := step_merge h
  exact (popMin_perm e1).trans ((popMin_perm e2).cons a)

theorem step_ids {heap h2 : List (α × Nat)} {a b : α × Nat} {w : α}
    (h : step ops heap = .merge a b w h2) :
    (heap.map (·.2)).Perm (a.2 :: b.2 :: h2.map (·.2)) :=
  (step_perm h).map _

theorem step_min {ops : WeightOps Nat} (hlt : NatOrder ops) {heap h2 : List (Nat × Nat)}
    {a b : Nat × Nat} {w : Nat} (h : step ops heap = .merge a b w h2) :
    keyLe a b ∧ ∀ x ∈ h2, keyLe b x := by
  obtain ⟨h1, e1, e2, _⟩ := step_merge h
  exact ⟨popMin_min hlt e1 b ((popMin_perm e2).mem_iff.mpr List.mem_cons_self), popMin_min hlt e2⟩

theorem step_exact {heap h2 : List (Nat × Nat)} {a b : Nat × Nat} {w : Nat}
    (hs : step exactOps heap = .merge a b w h2) : w = a.1 + b.1 := by
  obtain ⟨_, _, _, hadd⟩ := step_merge hs
  exact (Except.ok.inj hadd).symm

theorem step_fault_add {heap : List (α × Nat)} {f : Fault} (h : step ops heap = .fault f) :
    ∃ a b h2, addPush ops a b h2 = .error f := by
  unfold step at h
  split at h
  · cases h
  · split at h
    · cases h
    · split at h
      · next e => cases h; exact ⟨_, _, _, e⟩
      · cases h

theorem step_fault {heap : List (α × Nat)} {f : Fault} (h : step ops heap = .fault f)
    (site : String) : f ≠ .ub site := by
  obtain ⟨a, b, h2, e⟩ := step_fault_add h
  simp only [addPush] at e
  split at e
  · cases e; exact Fault.noConfusion
  · split at e <;> cases e
    exact Fault.noConfusion

/-- the loop state; no iteration changes `top = next + heap.length` -/
structure LoopInv (fuel : Nat) (heap : List (α × Nat)) (next top : Nat) : Prop where
  nodup : (heap.map (·.2)).Nodup
  lt_next : ∀ p ∈ heap, p.2 < next
  fuel_eq : fuel = heap.length
  top_eq : next + heap.length = top

theorem LoopInv.step_ne {fuel next top : Nat} {heap : List (α × Nat)}
    (h : LoopInv (fuel + 1) heap next top) : step ops heap ≠ .stop none := fun hs =>
  absurd (congrArg List.length (step_stop hs)) (h.fuel_eq ▸ Nat.succ_ne_zero _)

structure LoopInv.Merged (fuel : Nat) (heap : List (α × Nat)) (next top : Nat) (a b : α × Nat)
    (w : α) (h2 : List (α × Nat)) : Prop where
  inv : LoopInv fuel ((w, next) :: h2) (next + 1) top
  a_lt : a.2 < next
  b_lt : b.2 < next
  ne : a.2 ≠ b.2
  a_notin : a.2 ∉ h2.map (·.2)
  b_notin : b.2 ∉ h2.map (·.2)
  length_eq : heap.length = h2.length + 2
  next_lt : next + 2 ≤ top

theorem LoopInv.merge {fuel next top : Nat} {heap h2 : List (α × Nat)} {a b : α × Nat} {w : α}
    (h : LoopInv (fuel + 1) heap next top) (hs : step ops heap = .merge a b w h2) :
    LoopInv.Merged fuel heap next top a b w h2 := by
  have hp := step_perm hs
  have hnd := (step_ids hs).nodup_iff.mp h.nodup
  have hlt : ∀ p ∈ a :: b :: h2, p.2 < next := fun p hp' => h.lt_next p (hp.mem_iff.mpr hp')
  have hlt2 : ∀ p ∈ h2, p.2 < next := fun p hp' =>
    hlt p (List.mem_cons_of_mem _ (List.mem_cons_of_mem _ hp'))
  have hl : heap.length = h2.length + 2 := hp.length_eq
  have htop := h.top_eq
  simp only [List.nodup_cons, List.mem_cons, not_or] at hnd
  refine
    { inv := ⟨?_, ?_, Nat.succ.inj (h.fuel_eq.trans hl), ?_⟩
      a_lt := hlt a List.mem_cons_self
      b_lt := hlt b (List.mem_cons_of_mem _ List.mem_cons_self)
      ne := hnd.1.1, a_notin := hnd.1.2, b_notin := hnd.2.1, length_eq := hl, next_lt := ?_ }
  · refine List.nodup_cons.mpr ⟨fun hmem => ?_, hnd.2.2⟩
    obtain ⟨p, hp1, hp2⟩ := List.mem_map.mp hmem
    have e : p.2 = next := hp2
    exact Nat.lt_irrefl next (e ▸ hlt2 p hp1)
  · intro p hp'
    rcases List.mem_cons.mp hp' with rfl | h'
    · exact Nat.lt_succ_self next
    · exact Nat.lt_succ_of_lt (hlt2 p h')
  · rw [← htop, hl]; exact Nat.succ_add_eq_add_succ _ _
  · rw [← htop, hl]; exact Nat.add_le_add_left (Nat.le_add_left 2 _) next

theorem treeLoop_spec {top : Nat} (fuel : Nat) : ∀ (heap : List (α × Nat)) (next : Nat),
    LoopInv fuel heap next top → ∀ T, treeLoop ops fuel heap next = some T →
      T.leaves.Perm (heap.map (·.2)) ∧
      (∀ i ∈ T.inner, next ≤ i ∧ i + 1 < top) ∧
      T.inner.length + 1 = heap.length ∧
      (2 ≤ heap.length → T.rootId + 2 = top) ∧
      (∀ p, heap = [p] → T = .leaf p.2) := by
  induction fuel with
  | zero => intro _ _ _ T hT; cases hT
  | succ fuel ih =>
    intro heap next hinv T hT
    rw [treeLoop_succ] at hT
    cases hs : step ops heap with
    | fault f => rw [hs] at hT; cases hT
    | stop last =>
      rw [hs] at hT
      cases last with
      | none => cases hT
      | some a =>
        cases hT
        obtain rfl : heap = [a] := step_stop hs
        refine ⟨List.Perm.refl _, ?_, rfl, ?_, ?_⟩
        · intro i hi; cases hi
        · intro h; exact absurd h (by decide : ¬ 2 ≤ 1)
        · intro p hp; cases hp; rfl
    | merge a b w h2 =>
      rw [hs] at hT
      obtain ⟨T', hT', rfl⟩ := Option.map_eq_some_iff.mp hT
      have m := hinv.merge hs
      obtain ⟨hleaves, hinner, hcount, hroot, hsingle⟩ := ih _ _ m.inv T' hT'
      have hnd' : T'.leaves.Nodup := hleaves.nodup_iff.mpr m.inv.nodup
      have hz : next ∈ T'.leaves := hleaves.mem_iff.mpr List.mem_cons_self
      have hin := Tree.inner_split (a := a.2) (b := b.2) hz hnd'
      refine ⟨?_, ?_, ?_, ?_, ?_⟩
      · have h1 : (next :: (Tree.split next a.2 b.2 T').leaves).Perm
            (next :: a.2 :: b.2 :: h2.map (·.2)) :=
          (Tree.leaves_split hz hnd').trans
            (((hleaves.cons b.2).cons a.2).trans
              (((List.Perm.swap next b.2 _).cons a.2).trans (List.Perm.swap next a.2 _)))
        exact h1.cons_inv.trans (step_ids hs).symm
      · intro i hi
        rcases List.mem_cons.mp (hin.mem_iff.mp hi) with rfl | hi'
        · exact ⟨Nat.le_refl _, m.next_lt⟩
        · exact ⟨Nat.le_of_succ_le (hinner i hi').1, (hinner i hi').2⟩
      · rw [hin.length_eq, m.length_eq]
        exact congrArg (· + 1) hcount
      · intro _
        rw [Tree.rootId_split]
        have hlen := m.length_eq
        cases h2 with
        | nil => rw [hsingle _ rfl, ← hinv.top_eq, hlen]; rfl
        | cons x xs => exact hroot (Nat.le_add_left 2 xs.length)
      · intro p hp'
        have hlen := m.length_eq
        rw [hp'] at hlen
        exact absurd (Nat.succ.inj hlen) (Nat.succ_ne_zero _).symm

/-- induction over the merge loop, from the last merge back to the first -/
theorem treeLoop_induction {P : List (α × Nat) → Nat → Tree → Prop}
    (single : ∀ a next, P [a] next (.leaf a.2))
    (merge : ∀ {heap next a b w h2 T'},
      LoopInv (h2.length + 2) heap next (next + heap.length) →
      step ops heap = .merge a b w h2 → T'.leaves.Perm (next :: h2.map (·.2)) →
      P ((w, next) :: h2) (next + 1) T' → P heap next (Tree.split next a.2 b.2 T'))
    {top : Nat} (fuel : Nat) : ∀ heap next, LoopInv fuel heap next top →
    ∀ T, treeLoop ops fuel heap next = some T → P heap next T := by
  induction fuel with
  | zero => intro _ _ _ T hT; cases hT
  | succ fuel ih =>
    intro heap next hinv T hT
    rw [treeLoop_succ] at hT
    cases hs : step ops heap with
    | fault f => rw [hs] at hT; cases hT
    | stop last =>
      rw [hs] at hT
      cases last with
      | none => cases hT
      | some a =>
        cases hT
        obtain rfl : heap = [a] := step_stop hs
        exact single a next
    | merge a b w h2 =>
      rw [hs] at hT
      obtain ⟨T', hT', rfl⟩ := Option.map_eq_some_iff.mp hT
      have m := hinv.merge hs
      have hinv' : LoopInv (h2.length + 2) heap next (next + heap.length) :=
        ⟨hinv.nodup, hinv.lt_next, m.length_eq.symm, rfl⟩
      exact merge hinv' hs (treeLoop_spec fuel _ _ m.inv T' hT').1 (ih _ _ m.inv T' hT')

end

def EncDesc (arr : List Nat) : Tree → Prop
  | .leaf _ => True
  | .node i l r =>
    arr[l.rootId]? = some (2 * i) ∧ arr[r.rootId]? = some (2 * i + 1) ∧ EncDesc arr l ∧ EncDesc arr r

def DecDesc (tab : List (Nat × Nat)) (n : Nat) : Tree → Prop
  | .leaf _ => True
  | .node i l r =>
    n ≤ i ∧ tab[i - n]? = some (l.rootId, r.rootId) ∧ DecDesc tab n l ∧ DecDesc tab n r

/-- `EncDesc arr` and `DecDesc tab n` are instances of `D` -/
theorem desc_split {D : Tree → Prop} {Q : Nat → Nat → Nat → Prop} {z a b : Nat}
    (hleaf : ∀ x, D (.leaf x))
    (hnode : ∀ i l r, D (.node i l r) ↔ Q i l.rootId r.rootId ∧ D l ∧ D r) (hq : Q z a b) :
    ∀ (t : Tree), D t → D (Tree.split z a b t) := by
  intro t
  induction t with
  | leaf x =>
    intro _
    rw [Tree.split]
    split
    · exact (hnode z _ _).mpr ⟨hq, hleaf a, hleaf b⟩
    · exact hleaf x
  | node i l r ihl ihr =>
    intro h
    obtain ⟨hQ, hl, hr⟩ := (hnode i l r).mp h
    rw [Tree.split]
    exact (hnode i _ _).mpr
      ⟨by rw [Tree.rootId_split, Tree.rootId_split]; exact hQ, ihl hl, ihr hr⟩

theorem EncDesc_split {arr : List Nat} {z a b : Nat}
    (ha : arr[a]? = some (2 * z)) (hb : arr[b]? = some (2 * z + 1)) :
    ∀ (t : Tree), EncDesc arr t → EncDesc arr (Tree.split z a b t) :=
  desc_split (Q := fun i x y => arr[x]? = some (2 * i) ∧ arr[y]? = some (2 * i + 1))
    (fun _ => trivial) (fun _ _ _ => and_assoc.symm) ⟨ha, hb⟩

theorem DecDesc_split {tab : List (Nat × Nat)} {n z a b : Nat}
    (hz : n ≤ z) (hab : tab[z - n]? = some (a, b)) :
    ∀ (t : Tree), DecDesc tab n t → DecDesc tab n (Tree.split z a b t) :=
  desc_split (Q := fun i x y => n ≤ i ∧ tab[i - n]? = some (x, y))
    (fun _ => trivial) (fun _ _ _ => and_assoc.symm) ⟨hz, hab⟩

section
variable {α : Type} {ops : WeightOps α}

theorem encLoop_merge {heap h2 : List (α × Nat)} {a b : α × Nat} {w : α}
    (hs : step ops heap = .merge a b w h2) {arr : List Nat} {next : Nat}
    (ha : a.2 < arr.length) (hb : b.2 < arr.length) (hn : next < 2^63) (fuel : Nat) :
    encLoop ops (fuel + 1) heap arr next =
      encLoop ops fuel ((w, next) :: h2) ((arr.set a.2 (2 * next)).set b.2 (2 * next + 1))
        (next + 1) := by
  have h1 : (next <<< 1) % 2^64 ||| 1 = 2 * next + 1 := by
    rw [shl_mod_or (by decide : 1 ≤ 64) hn (by decide : 1 < 2^1), Nat.pow_one, Nat.mul_comm]
  have h0 : (next <<< 1) % 2^64 = 2 * next := by
    have := shl_mod_or (w := 0) (by decide : 1 ≤ 64) hn (by decide : 0 < 2^1)
    rwa [Nat.or_zero, Nat.add_zero, Nat.pow_one, Nat.mul_comm] at this
  rw [encLoop_succ, hs]
  simp only [h1]
  simp only [h0, List.length_set, if_pos ha, if_pos hb,
    cadd_ok (Nat.lt_of_lt_of_le (Nat.succ_lt_succ hn) (by decide : 2^63 + 1 ≤ 2^64))]

/-- entries that are neither old indices of the heap nor fresh indices below the root
(`top - 2`) are left alone -/
theorem encLoop_cases {top : Nat} (fuel : Nat) : ∀ (heap : List (α × Nat)) (arr : List Nat)
    (next : Nat), LoopInv fuel heap next top → top ≤ arr.length + 1 → top ≤ 2^63 →
    (∃ T arr', treeLoop ops fuel heap next = some T ∧ encLoop ops fuel heap arr next = .ok arr' ∧
      arr'.length = arr.length ∧
      (∀ j, (j < next ∧ j ∉ heap.map (·.2)) ∨ top ≤ j + 2 → arr'[j]? = arr[j]?) ∧
      EncDesc arr' T) ∨
    (treeLoop ops fuel heap next = none ∧
      ∃ f, encLoop ops fuel heap arr next = .error f ∧ ∀ site, f ≠ .ub site) := by
  induction fuel with
  | zero => intro _ _ _ _ _ _; exact Or.inr ⟨rfl, _, rfl, fun _ h => nomatch h⟩
  | succ fuel ih =>
    intro heap arr next hinv hlen h63
    cases hs : step ops heap with
    | fault f =>
      rw [treeLoop_succ, encLoop_succ, hs]
      exact Or.inr ⟨rfl, f, rfl, step_fault hs⟩
    | stop last =>
      rw [treeLoop_succ, encLoop_succ, hs]
      cases last with
      | none => exact absurd hs hinv.step_ne
      | some a => exact Or.inl ⟨_, arr, rfl, rfl, rfl, fun _ _ => rfl, trivial⟩
    | merge a b w h2 =>
      have m := hinv.merge hs
      have hnL : next < arr.length := Nat.le_of_succ_le_succ (Nat.le_trans m.next_lt hlen)
      have haL : a.2 < arr.length := Nat.lt_trans m.a_lt hnL
      have hbL : b.2 < arr.length := Nat.lt_trans m.b_lt hnL
      rw [encLoop_merge hs haL hbL (Nat.lt_of_succ_lt (Nat.le_trans m.next_lt h63)), treeLoop_succ, hs]
      have hlen1 : ((arr.set a.2 (2 * next)).set b.2 (2 * next + 1)).length = arr.length := by
        rw [List.length_set, List.length_set]
      -- the entries just written survive: later iterations write at `next` and above, or at
      -- indices still in the heap
      have hold : ∀ j, j < next → j ∉ h2.map (·.2) →
          (j < next + 1 ∧ j ∉ ((w, next) :: h2).map (·.2)) ∨ top ≤ j + 2 := fun j hj hj2 =>
        Or.inl ⟨Nat.lt_succ_of_lt hj, fun h => (List.mem_cons.mp h).elim (Nat.ne_of_lt hj) hj2⟩
      rcases ih _ ((arr.set a.2 (2 * next)).set b.2 (2 * next + 1)) _ m.inv (hlen1 ▸ hlen) h63
        with ⟨T', arr', hT', hrun', hlen', hkeep, hd⟩ | ⟨hT', f, hrun', hf'⟩
      · refine Or.inl ⟨_, arr', congrArg (Option.map _) hT', hrun', hlen'.trans hlen1, ?_, ?_⟩
        · intro j hj
          have hj' : j ≠ a.2 ∧ j ≠ b.2 ∧ ((j < next ∧ j ∉ h2.map (·.2)) ∨ top ≤ j + 2) := by
            rcases hj with ⟨hjn, hj⟩ | hj
            · have := mt (step_ids hs).mem_iff.mpr hj
              simp only [List.mem_cons, not_or] at this
              exact ⟨this.1, this.2.1, Or.inl ⟨hjn, this.2.2⟩⟩
            · have hnj : next ≤ j := Nat.le_of_add_le_add_right (Nat.le_trans m.next_lt hj)
              exact ⟨Nat.ne_of_gt (Nat.lt_of_lt_of_le m.a_lt hnj),
                Nat.ne_of_gt (Nat.lt_of_lt_of_le m.b_lt hnj), Or.inr hj⟩
          rw [hkeep j (hj'.2.2.elim (fun h => hold j h.1 h.2) Or.inr),
            List.getElem?_set_ne (Ne.symm hj'.2.1), List.getElem?_set_ne (Ne.symm hj'.1)]
        · refine EncDesc_split ?_ ?_ T' hd
          · rw [hkeep a.2 (hold a.2 m.a_lt m.a_notin), List.getElem?_set_ne (Ne.symm m.ne),
              List.getElem?_set_self haL]
          · rw [hkeep b.2 (hold b.2 m.b_lt m.b_notin),
              List.getElem?_set_self (by rw [List.length_set]; exact hbL)]
      · exact Or.inr ⟨congrArg (Option.map _) hT', f, hrun', hf'⟩

theorem decLoop_cases {n top : Nat} (fuel : Nat) : ∀ (heap : List (α × Nat))
    (acc : List (Nat × Nat)) (next : Nat), LoopInv fuel heap next top →
    next = n + acc.length → top ≤ 2^64 →
    (∃ T ext, treeLoop ops fuel heap next = some T ∧
      decLoop ops fuel heap acc next = .ok (acc ++ ext) ∧ ext.length + 1 = heap.length ∧
      DecDesc (acc ++ ext) n T) ∨
    (treeLoop ops fuel heap next = none ∧
      ∃ f, decLoop ops fuel heap acc next = .error f ∧ ∀ site, f ≠ .ub site) := by
  induction fuel with
  | zero => intro _ _ _ _ _ _; exact Or.inr ⟨rfl, _, rfl, fun _ h => nomatch h⟩
  | succ fuel ih =>
    intro heap acc next hinv hnext h64
    rw [treeLoop_succ, decLoop_succ]
    cases hs : step ops heap with
    | fault f => exact Or.inr ⟨rfl, f, rfl, step_fault hs⟩
    | stop last =>
      cases last with
      | none => exact absurd hs hinv.step_ne
      | some a =>
        obtain rfl : heap = [a] := step_stop hs
        exact Or.inl ⟨_, [], rfl, congrArg _ (List.append_nil _).symm, rfl, trivial⟩
    | merge a b w h2 =>
      have m := hinv.merge hs
      have hinv' := m.inv
      have hl := m.length_eq
      simp only [cadd_ok (Nat.lt_of_lt_of_le m.next_lt h64)]
      rcases ih _ (acc ++ [(a.2, b.2)]) _ hinv' (by rw [hnext, List.length_append]; rfl) h64
        with ⟨T', ext, hT', hrun', hlen', hd⟩ | ⟨hT', f, hrun', hf'⟩
      · rw [List.append_assoc] at hrun' hd
        refine Or.inl ⟨_, (a.2, b.2) :: ext, congrArg (Option.map _) hT', hrun',
          by rw [hl]; exact congrArg (· + 1) hlen', ?_⟩
        refine DecDesc_split (Nat.le.intro hnext.symm) ?_ T' hd
        rw [hnext, Nat.add_sub_cancel_left, List.getElem?_append_right (Nat.le_refl _),
          Nat.sub_self]
        rfl
      · exact Or.inr ⟨congrArg (Option.map _) hT', f, hrun', hf'⟩

variable (ops) in
/-- a weight type whose `+` never panics and never yields an unorderable sum -/
def Total : Prop := ∀ (a b : α) (h2 : List (α × Nat)), ∃ w, addPush ops a b h2 = .ok w

theorem step_total (ht : Total ops) (heap : List (α × Nat)) (f : Fault) :
    step ops heap ≠ .fault f := by
  intro h
  obtain ⟨a, b, h2, e⟩ := step_fault_add h
  obtain ⟨w, hw⟩ := ht a b h2
  rw [hw] at e
  cases e

theorem treeLoop_total (ht : Total ops) (fuel : Nat) : ∀ (heap : List (α × Nat)) (next : Nat),
    fuel = heap.length → 0 < fuel → ∃ T, treeLoop ops fuel heap next = some T := by
  induction fuel with
  | zero => intro _ _ _ h; cases h
  | succ fuel ih =>
    intro heap next hf _
    rw [treeLoop_succ]
    cases hs : step ops heap with
    | fault f => exact absurd hs (step_total ht heap f)
    | stop last =>
      cases last with
      | none => exact absurd (congrArg List.length (step_stop hs)) (hf ▸ Nat.succ_ne_zero _)
      | some a => exact ⟨_, rfl⟩
    | merge a b w h2 =>
      have hf' : fuel = ((w, next) :: h2).length :=
        Nat.succ.inj (hf.trans (step_perm hs).length_eq)
      obtain ⟨T', hT'⟩ := ih _ (next + 1) hf' (hf' ▸ Nat.succ_pos _)
      exact ⟨_, congrArg (Option.map _) hT'⟩

end

theorem total_exact : Total exactOps := fun a b _ => ⟨a + b, rfl⟩
theorem total_wrapping (n : Nat) : Total (wrappingOps n) := fun a b _ => ⟨(a + b) % 2^n, rfl⟩

/-! ## two runs of the loops that pop alike

The arrays record indices only, so the two runs may even be on different weight types. -/

section
variable {α β : Type} {ops : WeightOps α} {ops' : WeightOps β}

/-- the loop heads agree on the merged indices, and the heaps they leave are again related by `R` -/
def Step.Sim (R : List (α × Nat) → List (β × Nat) → Prop) : Step α → Step β → Prop
  | .stop _, .stop _ => True
  | .fault f, .fault f' => f = f'
  | .merge a b w h2, .merge a' b' w' h2' =>
    a.2 = a'.2 ∧ b.2 = b'.2 ∧ ∀ next, R ((w, next) :: h2) ((w', next) :: h2')
  | _, _ => False

theorem loops_sim {R : List (α × Nat) → List (β × Nat) → Prop}
    (hR : ∀ h h', R h h' → Step.Sim R (step ops h) (step ops' h')) (fuel : Nat) :
    ∀ heap heap', R heap heap' →
      (∀ arr next, encLoop ops fuel heap arr next = encLoop ops' fuel heap' arr next) ∧
      (∀ acc next, decLoop ops fuel heap acc next = decLoop ops' fuel heap' acc next) := by
  induction fuel with
  | zero => intro _ _ _; exact ⟨fun _ _ => rfl, fun _ _ => rfl⟩
  | succ fuel ih =>
    intro heap heap' h
    have hsim := hR heap heap' h
    -- `Step.Sim` of two heads of different kinds is `False`
    cases hs : step ops heap with
    | stop last =>
      cases hs' : step ops' heap' with
      | stop last' =>
        constructor
        · intro arr next; rw [encLoop_succ, encLoop_succ, hs, hs']
        · intro acc next; rw [decLoop_succ, decLoop_succ, hs, hs']
      | _ => rw [hs, hs'] at hsim; exact hsim.elim
    | fault f =>
      cases hs' : step ops' heap' with
      | fault f' =>
        rw [hs, hs'] at hsim
        cases (hsim : f = f')
        constructor
        · intro arr next; rw [encLoop_succ, encLoop_succ, hs, hs']
        · intro acc next; rw [decLoop_succ, decLoop_succ, hs, hs']
      | _ => rw [hs, hs'] at hsim; exact hsim.elim
    | merge a b w h2 =>
      cases hs' : step ops' heap' with
      | merge a' b' w' h2' =>
        rw [hs, hs'] at hsim
        obtain ⟨ha, hb, hrest⟩ := hsim
        constructor
        · intro arr next
          rw [encLoop_succ, encLoop_succ, hs, hs']
          simp only [ha, hb, (ih _ _ (hrest next)).1]
        · intro acc next
          rw [decLoop_succ, decLoop_succ, hs, hs']
          simp only [ha, hb, (ih _ _ (hrest next)).2]
      | _ => rw [hs, hs'] at hsim; exact hsim.elim

end

def NoOverflow (n : Nat) (heap : List (Nat × Nat)) : Prop := (heap.map (·.1)).sum < 2^n

theorem popMin_checked (n : Nat) (heap : List (Nat × Nat)) :
    popMin (checkedOps n) heap = popMin exactOps heap := by
  induction heap with
  | nil => rfl
  | cons x xs ih => simp only [popMin, ih]; rfl

theorem step_checked (n : Nat) (heap heap' : List (Nat × Nat))
    (h : heap = heap' ∧ NoOverflow n heap) :
    Step.Sim (fun h h' => h = h' ∧ NoOverflow n h) (step (checkedOps n) heap)
      (step exactOps heap') := by
  obtain ⟨rfl, hno⟩ := h
  unfold step
  rw [popMin_checked]
  cases e1 : popMin exactOps heap with
  | none => exact trivial
  | some ah =>
    obtain ⟨a, h1⟩ := ah
    dsimp only
    rw [popMin_checked]
    cases e2 : popMin exactOps h1 with
    | none => exact trivial
    | some bh =>
      obtain ⟨b, h2⟩ := bh
      -- the two popped weights are part of the total
      have hsum := (((popMin_perm e1).trans ((popMin_perm e2).cons a)).map (·.1)).sum_nat
      simp only [List.map_cons, List.sum_cons, ← Nat.add_assoc] at hsum
      have hfit : (a.1 + b.1) + (h2.map (·.1)).sum < 2^n := hsum ▸ hno
      have hlt : a.1 + b.1 < 2^n := Nat.lt_of_le_of_lt (Nat.le_add_right _ _) hfit
      have hadd : addPush (checkedOps n) a.1 b.1 h2 = .ok (a.1 + b.1) := by
        simp only [addPush, checkedOps, if_pos hlt]; rfl
      dsimp only
      rw [hadd]
      exact ⟨rfl, rfl, fun next => ⟨rfl, hfit⟩⟩

theorem addPush_perm {α : Type} (ops : WeightOps α) (a b : α) {h2 h2' : List (α × Nat)}
    (hp : h2.Perm h2') : addPush ops a b h2 = addPush ops a b h2' := by
  have : h2.isEmpty = h2'.isEmpty := by
    cases h2 <;> cases h2' <;> first | rfl | exact absurd hp.length_eq (by simp)
  simp only [addPush, this]

theorem step_layout {ops : WeightOps Nat} (hlt : NatOrder ops) (heap heap' : List (Nat × Nat))
    (hp : heap.Perm heap') : Step.Sim List.Perm (step ops heap) (step ops heap') := by
  unfold step
  rcases popMin_perm_cases hlt hp with ⟨e, e'⟩ | ⟨a, h1, h1', e, e', hp1⟩
  · rw [e, e']; exact trivial
  · rw [e, e']
    dsimp only
    rcases popMin_perm_cases hlt hp1 with ⟨f, f'⟩ | ⟨b, h2, h2', f, f', hp2⟩
    · rw [f, f']; exact trivial
    · rw [f, f']
      dsimp only
      rw [addPush_perm ops a.1 b.1 hp2]
      cases addPush ops a.1 b.1 h2' with
      | error f => exact rfl
      | ok w => exact ⟨rfl, rfl, fun next => hp2.cons _⟩

end CV.Huff
