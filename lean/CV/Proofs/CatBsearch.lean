import CV.Proofs.CatSpec
/-!
# `slice::binary_search_by` as the cdf-based models call it

For a (weakly) sorted slice the transcription of the standard library loop returns the index
of the first element above the quantile, never faults, and so never reaches the
`unreachable_unchecked` / out-of-bounds sites.
-/
namespace CV.Cat
open CV

def MonoIdx (a : List Nat) : Prop := ∀ i j, i ≤ j → j < a.length → a.getD i 0 ≤ a.getD j 0

theorem MonoIdx.of_pairwise {a : List Nat} (h : a.Pairwise (· < ·)) : MonoIdx a :=
  fun _ _ hij hj => pairwise_getD_le h hij hj

theorem half_facts {size : Nat} (h : 1 < size) :
    size / 2 < size ∧ 1 ≤ size - size / 2 ∧ size - size / 2 < size ∧
      size / 2 + (size - size / 2) = size ∧ size / 2 ≤ size - size / 2 :=
  have h0 : 0 < size := Nat.lt_trans Nat.zero_lt_one h
  have hlt : size / 2 < size := Nat.div_lt_self h0 (by decide)
  ⟨hlt, Nat.sub_pos_of_lt hlt, Nat.sub_lt h0 (Nat.div_pos h Nat.zero_lt_two),
    Nat.add_sub_cancel' (Nat.le_of_lt hlt),
    Nat.le_sub_of_add_le (Nat.two_mul (size / 2) ▸ Nat.mul_div_le size 2)⟩

theorem bsearchLoop_spec (a : List Nat) (q : Nat) (hmono : MonoIdx a) :
    ∀ (size base : Nat), 1 ≤ size → base + size ≤ a.length →
      (∀ i, i < base → a.getD i 0 ≤ q) →
      (∀ i, base + size ≤ i → i < a.length → q < a.getD i 0) →
      ∃ b, bsearchLoop a q size base = .ok b ∧ b < a.length ∧ (∀ i, i < b → a.getD i 0 ≤ q) ∧
        (∀ i, b + 1 ≤ i → i < a.length → q < a.getD i 0) := by
  intro size
  induction size using Nat.strongRecOn with
  | _ size ih =>
    intro base hs hb hlo hhi
    rw [bsearchLoop]
    by_cases h1 : size > 1
    · obtain ⟨h2, h3, h4, h5, h6⟩ := half_facts h1
      have hmid : base + size / 2 < a.length :=
        Nat.lt_of_lt_of_le (Nat.add_lt_add_left h2 base) hb
      rw [dif_pos h1]
      simp only [getElem?_of_lt (d := 0) hmid]
      by_cases hx : a.getD (base + size / 2) 0 ≤ q
      · rw [if_pos hx]
        have hend : base + size / 2 + (size - size / 2) = base + size := by rw [Nat.add_assoc, h5]
        apply ih (size - size / 2) h4 (base + size / 2) h3 (hend ▸ hb)
        · intro i hi
          exact Nat.le_trans (hmono i (base + size / 2) (Nat.le_of_lt hi) hmid) hx
        · intro i hi1 hi2
          exact hhi i (hend ▸ hi1) hi2
      · rw [if_neg hx]
        apply ih (size - size / 2) h4 base h3
          (Nat.le_trans (Nat.add_le_add_left (Nat.sub_le _ _) base) hb) hlo
        intro i hi1 hi2
        exact Nat.lt_of_lt_of_le (Nat.lt_of_not_le hx)
          (hmono (base + size / 2) i (Nat.le_trans (Nat.add_le_add_left h6 base) hi1) hi2)
    · obtain rfl : size = 1 := Nat.le_antisymm (Nat.le_of_not_lt h1) hs
      rw [dif_neg h1]
      exact ⟨base, rfl, hb, hlo, hhi⟩

theorem bsearch_spec {a : List Nat} (q : Nat) (hmono : MonoIdx a) :
    ∃ k, bsearch a q = .ok k ∧ k ≤ a.length ∧ (∀ i, i < k → a.getD i 0 ≤ q) ∧
      (∀ i, k ≤ i → i < a.length → q < a.getD i 0) := by
  unfold bsearch
  by_cases h0 : a.length = 0
  · rw [if_pos h0]
    exact ⟨0, rfl, Nat.zero_le _, fun i hi => absurd hi (Nat.not_lt_zero i),
      fun i _ hi => absurd hi (h0 ▸ Nat.not_lt_zero i)⟩
  · rw [if_neg h0]
    obtain ⟨b, hb, hlt, hlo, hhi⟩ := bsearchLoop_spec a q hmono a.length 0
      (Nat.pos_of_ne_zero h0) (Nat.le_of_eq (Nat.zero_add _))
      (fun i hi => absurd hi (Nat.not_lt_zero i))
      (fun i h1 h2 => absurd h2 (Nat.not_lt.mpr (Nat.zero_add a.length ▸ h1)))
    rw [hb]
    simp only
    rw [getElem?_of_lt (d := 0) hlt]
    simp only
    by_cases hx : a.getD b 0 ≤ q
    · rw [if_pos hx]
      refine ⟨b + 1, rfl, hlt, fun i hi => ?_, hhi⟩
      rcases Nat.lt_succ_iff_lt_or_eq.mp hi with h | rfl
      · exact hlo i h
      · exact hx
    · rw [if_neg hx]
      refine ⟨b, rfl, Nat.le_of_lt hlt, hlo, fun i hi1 hi2 => ?_⟩
      rcases Nat.eq_or_lt_of_le hi1 with rfl | h
      · exact Nat.lt_of_not_le hx
      · exact hhi i h hi2

end CV.Cat
