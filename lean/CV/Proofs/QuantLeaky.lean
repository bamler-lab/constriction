import CV.Model.Quant
import CV.Proofs.QuantFast
/-!
# `LeakyQuantizer` / `LeakilyQuantizedDistribution`: integer layer

The distribution enters through `g s = toInt (free * cdf (s - 0.5))` only.  From `GOk` (`g`
nondecreasing and bounded by `free`; a theorem on the software IEEE model, `leaky_gok_of_cdf`), for
every integer symbol type: `slack` is the plain offset `s - min`, the bins tile `[0, 2^P)`, none is
empty or of probability one, the encoder and the symbol table (D1) return them without `Fault`.
-/
namespace CV.Quant

/-- what `LeakyQuantizer::new` and the static assertions establish -/
structure LQ.Ok (m : LQ) : Prop where
  hbits : 2 ≤ m.t.bits
  hP1 : 1 ≤ m.P
  hPB : m.P ≤ m.B
  hmin : m.t.inRange m.min
  hmax : m.t.inRange m.max
  hlt : m.min < m.max
  hsize : (m.max - m.min).toNat + 1 ≤ 2 ^ m.P
  hfree : m.free = 2 ^ m.P - 1 - (m.max - m.min).toNat

/-- `Probability::max_value() >> (Probability::BITS - PRECISION)` is `2^P - 1` -/
theorem maxProb_eq {B P : Nat} (hPB : P ≤ B) : (2 ^ B - 1) >>> (B - P) = 2 ^ P - 1 := by
  have e : 2 ^ B = 2 ^ (B - P) * 2 ^ P := by rw [← Nat.pow_add]; congr 1; omega
  have := Nat.mul_sub_div 0 (2 ^ (B - P)) (2 ^ P)
    (Nat.mul_pos (Nat.pow_pos (by omega)) (Nat.pow_pos (by omega)))
  rw [Nat.shiftRight_eq_div_pow, e, this, Nat.zero_div]

theorem LQ.new_accepts {t : SymTy} {B P : Nat} {min max : Int} (hPB : P ≤ B) (hlt : min < max)
    (hs : (max - min).toNat + 1 ≤ 2 ^ P) :
    LQ.new t B P min max = .ok ⟨t, B, P, min, max, 2 ^ P - 1 - (max - min).toNat⟩ := by
  unfold LQ.new
  rw [if_neg (not_not_intro hlt)]
  simp only [maxProb_eq hPB]
  rw [if_pos (by omega)]

/-- **C19 / D10**: a support with more than `2^P` elements (in particular, wider than `2^B`) or
    fewer than two elements is rejected — the comparison happens before any narrowing -/
theorem LQ.new_rejects {t : SymTy} {B P : Nat} {min max : Int} (hPB : P ≤ B)
    (h : ¬ (min < max ∧ (max - min).toNat + 1 ≤ 2 ^ P)) :
    ∃ f, LQ.new t B P min max = .error f := by
  unfold LQ.new
  by_cases hlt : max > min
  · rw [if_neg (not_not_intro hlt)]
    simp only [maxProb_eq hPB]
    rw [if_neg (fun hs => h ⟨hlt, by omega⟩)]
    exact ⟨_, rfl⟩
  · rw [if_pos hlt]; exact ⟨_, rfl⟩

theorem LQ.new_ok {t : SymTy} {B P : Nat} {min max : Int} {m : LQ}
    (hbits : 2 ≤ t.bits) (hP1 : 1 ≤ P) (hPB : P ≤ B) (hmin : t.inRange min) (hmax : t.inRange max)
    (h : LQ.new t B P min max = .ok m) : m.Ok ∧ m.t = t ∧ m.B = B ∧ m.P = P ∧ m.min = min ∧ m.max = max := by
  by_cases hacc : min < max ∧ (max - min).toNat + 1 ≤ 2 ^ P
  · rw [LQ.new_accepts hPB hacc.1 hacc.2] at h
    injection h with h
    subst h
    exact ⟨⟨hbits, hP1, hPB, hmin, hmax, hacc.1, hacc.2, rfl⟩, rfl, rfl, rfl, rfl, rfl⟩
  · obtain ⟨f, hf⟩ := LQ.new_rejects (t := t) hPB hacc
    rw [hf] at h; cases h

theorem two_pow_succ_pred {b : Nat} (h : 1 ≤ b) : 2 ^ b = 2 * 2 ^ (b - 1) := by
  rw [← Nat.pow_succ', Nat.succ_eq_add_one, Nat.sub_add_cancel h]

theorem emod_of_neg {z W : Int} (h1 : -W ≤ z) (h2 : z < 0) : z % W = z + W := by
  rw [← Int.add_emod_right, Int.emod_eq_of_lt (by omega) (by omega)]

theorem emod_of_ge {z W : Int} (h1 : W ≤ z) (h2 : z < 2 * W) : z % W = z - W := by
  rw [← Int.sub_emod_right, Int.emod_eq_of_lt (by omega) (by omega)]

theorem hi_lo_span (t : SymTy) (hb : 1 ≤ t.bits) :
    t.hi - t.lo + 1 = ((2 ^ t.bits : Nat) : Int) := by
  have hp := two_pow_succ_pred hb
  unfold SymTy.hi SymTy.lo
  by_cases hs : t.signed
  · rw [if_pos hs, if_pos hs]; omega
  · rw [if_neg hs, if_neg hs]; omega

theorem wrap_eq (t : SymTy) (x : Int) :
    t.wrap x = (x - t.lo) % ((2 ^ t.bits : Nat) : Int) + t.lo := by
  unfold SymTy.wrap SymTy.lo
  by_cases hs : t.signed
  · rw [if_pos hs, if_pos hs, Int.sub_neg]; omega
  · rw [if_neg hs, if_neg hs, Int.sub_zero, Int.add_zero]

theorem wrap_id {t : SymTy} (hb : 1 ≤ t.bits) {x : Int} (h : t.inRange x) : t.wrap x = x := by
  have := hi_lo_span t hb
  rw [wrap_eq, Int.emod_eq_of_lt (by have := h.1; omega) (by have := h.2; omega)]; omega

theorem wrap_low {t : SymTy} {x : Int} (h1 : t.lo - ((2 ^ t.bits : Nat) : Int) ≤ x)
    (h2 : x < t.lo) : t.wrap x = x + ((2 ^ t.bits : Nat) : Int) := by
  rw [wrap_eq, emod_of_neg (by omega) (by omega)]; omega

theorem wrap_high {t : SymTy} (hb : 1 ≤ t.bits) {x : Int} (h1 : t.hi < x)
    (h2 : x ≤ t.hi + ((2 ^ t.bits : Nat) : Int)) : t.wrap x = x - ((2 ^ t.bits : Nat) : Int) := by
  have := hi_lo_span t hb
  rw [wrap_eq, emod_of_ge (by omega) (by omega)]; omega

/-- a wrapped `wrapping_sub` lands *above* the operand: how the search loops detect the wrap -/
theorem wrap_sub_cases {t : SymTy} (hb : 1 ≤ t.bits) {s T : Int} (hs : t.inRange s) (h0 : 0 < T)
    (hT : 2 * T ≤ ((2 ^ t.bits : Nat) : Int)) :
    t.lo ≤ s - T ∧ t.wrap (s - T) = s - T ∨ s - T < t.lo ∧ s < t.wrap (s - T) := by
  obtain ⟨h1, h2⟩ := hs
  by_cases h : t.lo ≤ s - T
  · exact .inl ⟨h, wrap_id hb ⟨h, by omega⟩⟩
  · exact .inr ⟨by omega, by rw [wrap_low (by omega) (by omega)]; omega⟩

theorem wrap_add_cases {t : SymTy} (hb : 1 ≤ t.bits) {s T : Int} (hs : t.inRange s) (h0 : 0 < T)
    (hT : 2 * T ≤ ((2 ^ t.bits : Nat) : Int)) :
    s + T ≤ t.hi ∧ t.wrap (s + T) = s + T ∨ t.hi < s + T ∧ t.wrap (s + T) < s := by
  obtain ⟨h1, h2⟩ := hs
  by_cases h : s + T ≤ t.hi
  · exact .inl ⟨h, wrap_id hb ⟨by omega, h⟩⟩
  · exact .inr ⟨by omega, by rw [wrap_high hb (by omega) (by omega)]; omega⟩

theorem lo_nonpos (t : SymTy) : t.lo ≤ 0 := by
  have : 0 < 2 ^ (t.bits - 1) := Nat.pow_pos (by omega)
  unfold SymTy.lo; by_cases hs : t.signed
  · rw [if_pos hs]; omega
  · rw [if_neg hs]; omega

theorem hi_nonneg (t : SymTy) : 0 ≤ t.hi := by
  have : 0 < 2 ^ (t.bits - 1) := Nat.pow_pos (by omega)
  have : 0 < 2 ^ t.bits := Nat.pow_pos (by omega)
  unfold SymTy.hi; by_cases hs : t.signed
  · rw [if_pos hs]; omega
  · rw [if_neg hs]; omega

theorem wrap_offset (t : SymTy) (hb : 1 ≤ t.bits) {d : Int} (h0 : 0 ≤ d)
    (hd : d < ((2 ^ t.bits : Nat) : Int)) :
    t.wrap d = d ∨ t.wrap d = d - ((2 ^ t.bits : Nat) : Int) := by
  have hlo := lo_nonpos t
  have hhi := hi_nonneg t
  by_cases h : d ≤ t.hi
  · exact Or.inl (wrap_id hb ⟨by omega, h⟩)
  · exact Or.inr (wrap_high hb (by omega) (by omega))

theorem mask_eq {B b : Nat} (hB : 1 ≤ B) :
    wsub B (wrappingPow2 B b) 1 = 2 ^ (min b B) - 1 := by
  have hB1 : (1 : Nat) < 2 ^ B := Nat.one_lt_two_pow (by omega)
  by_cases h : b ≥ B
  · have e : wrappingPow2 B b = wrappingPow2 B B := by
      unfold wrappingPow2; rw [if_pos h, if_pos (Nat.le_refl _)]
    rw [Nat.min_eq_right h, e]
    exact wsub_total (Nat.le_refl _) (by omega) (by omega) hB1
  · rw [Nat.min_eq_left (by omega)]
    exact wsub_total (by omega) (by omega) (Nat.pow_pos (by omega)) hB1

theorem slack_eq (t : SymTy) (B : Nat) (hb : 1 ≤ t.bits) (hB : 1 ≤ B) {s mn : Int} {d : Nat}
    (hd : s - mn = (d : Int)) (hdW : d < 2 ^ t.bits) (hdB : d < 2 ^ B) :
    slack t B s mn = d := by
  have hM : d < 2 ^ min t.bits B := by
    rcases Nat.le_total t.bits B with h | h
    · rw [Nat.min_eq_left h]; exact hdW
    · rw [Nat.min_eq_right h]; exact hdB
  -- the mask reduces modulo `2^(min bits B)`, which divides `2^bits` (wrap) and `2^B` (conversion)
  obtain ⟨c, hc⟩ := Nat.pow_dvd_pow 2 (Nat.min_le_left t.bits B)
  have hMB : ((2 ^ min t.bits B : Nat) : Int) ∣ ((2 ^ B : Nat) : Int) :=
    Int.natCast_dvd_natCast.mpr (Nat.pow_dvd_pow 2 (Nat.min_le_right t.bits B))
  have hw : t.wrap d % ((2 ^ min t.bits B : Nat) : Int) = d := by
    have hdi : (d : Int) % ((2 ^ min t.bits B : Nat) : Int) = d :=
      Int.emod_eq_of_lt (by omega) (by exact_mod_cast hM)
    rcases wrap_offset t hb (d := (d : Int)) (by omega) (by exact_mod_cast hdW) with h | h
    · rw [h, hdi]
    · rw [h, hc, Int.natCast_mul, Int.sub_mul_emod_self_left, hdi]
  have hB0 : ((2 ^ B : Nat) : Int) ≠ 0 := by have : 0 < 2 ^ B := Nat.pow_pos (by omega); omega
  unfold slack symToProb
  simp only
  rw [mask_eq hB, hd, Nat.and_two_pow_sub_one_eq_mod]
  apply Int.natCast_inj.mp
  rw [Int.natCast_emod, Int.toNat_of_nonneg (Int.emod_nonneg _ hB0), Int.emod_emod_of_dvd _ hMB, hw]

/-- what a nondecreasing `cdf` with values in `[0, 1]` and monotone float `*`, float→int give for
    `g s = toInt (free * cdf (s - 0.5))` -/
structure GOk (m : LQ) (g : Int → Nat) : Prop where
  mono : ∀ s, m.min < s → s < m.max → g s ≤ g (s + 1)
  bound : ∀ s, m.min < s → s ≤ m.max → g s ≤ m.free

def off (m : LQ) (s : Int) : Nat := (s - m.min).toNat

def leftQ (m : LQ) (g : Int → Nat) (s : Int) : Nat :=
  if s = m.min then 0 else g s + off m s

/-- right-sided cumulative of `s` (true value, `2^P` for the last symbol) -/
def rightQ (m : LQ) (g : Int → Nat) (s : Int) : Nat :=
  if s = m.max then 2 ^ m.P else g (s + 1) + off m s + 1

/-- right-sided cumulative as the code holds it: the total is `wrapping_pow2(P)` -/
def rightW (m : LQ) (g : Int → Nat) (s : Int) : Nat :=
  if s = m.max then wrappingPow2 m.B m.P else rightQ m g s

def widthQ (m : LQ) (g : Int → Nat) (s : Int) : Nat := rightQ m g s - leftQ m g s

section
variable {m : LQ} {g : Int → Nat}

theorem LQ.Ok.free_add (ok : m.Ok) : m.free + (m.max - m.min).toNat + 1 = 2 ^ m.P := by
  have := ok.hsize; have := ok.hfree; omega

theorem LQ.Ok.pow_le (ok : m.Ok) : 2 ^ m.P ≤ 2 ^ m.B := pow_le_pow2 ok.hPB

theorem off_min : off m m.min = 0 := by unfold off; simp

theorem off_succ {s : Int} (hs : m.min ≤ s) : off m (s + 1) = off m s + 1 := by
  unfold off; omega

theorem off_le {s : Int} (h2 : s ≤ m.max) : off m s ≤ (m.max - m.min).toNat := by
  unfold off; omega

theorem leftQ_min : leftQ m g m.min = 0 := by unfold leftQ; rw [if_pos rfl]

theorem rightQ_max : rightQ m g m.max = 2 ^ m.P := by unfold rightQ; rw [if_pos rfl]

theorem leftQ_pos {s : Int} (h : m.min < s) : 0 < leftQ m g s := by
  unfold leftQ off; rw [if_neg (by omega)]; omega

theorem rightQ_eq_left_succ {s : Int} (h1 : m.min ≤ s) (h2 : s < m.max) :
    rightQ m g s = leftQ m g (s + 1) := by
  unfold rightQ leftQ
  rw [if_neg (by omega), if_neg (by omega), off_succ h1]; omega

theorem leftQ_lt_total (ok : m.Ok) (gk : GOk m g) {s : Int} (h1 : m.min ≤ s) (h2 : s ≤ m.max) :
    leftQ m g s + 1 ≤ 2 ^ m.P := by
  unfold leftQ
  by_cases hmin : s = m.min
  · rw [if_pos hmin]; exact Nat.pow_pos (by decide)
  · rw [if_neg hmin]
    have hb := gk.bound s (Int.lt_iff_le_and_ne.2 ⟨h1, Ne.symm hmin⟩) h2
    have ho := off_le h2
    have hfa := ok.free_add
    omega

theorem leftQ_step (gk : GOk m g) {s : Int} (h1 : m.min ≤ s) (h2 : s < m.max) :
    leftQ m g s < leftQ m g (s + 1) := by
  by_cases hmin : s = m.min
  · rw [hmin, leftQ_min]; exact leftQ_pos (Int.lt_succ _)
  · have hlt : m.min < s := Int.lt_iff_le_and_ne.2 ⟨h1, Ne.symm hmin⟩
    unfold leftQ
    rw [if_neg hmin, if_neg (Int.ne_of_gt (Int.lt_trans hlt (Int.lt_succ _))),
      off_succ h1]
    exact Nat.lt_succ_of_le (Nat.add_le_add_right (gk.mono s hlt h2) _)

theorem leftQ_lt_rightQ (ok : m.Ok) (gk : GOk m g) {s : Int} (h1 : m.min ≤ s) (h2 : s ≤ m.max) :
    leftQ m g s < rightQ m g s := by
  by_cases hmax : s = m.max
  · rw [hmax, rightQ_max]; exact leftQ_lt_total ok gk (hmax ▸ h1) (Int.le_refl _)
  · have hlt : s < m.max := Int.lt_iff_le_and_ne.2 ⟨h2, hmax⟩
    rw [rightQ_eq_left_succ h1 hlt]; exact leftQ_step gk h1 hlt

theorem rightQ_lt_of_lt_max (ok : m.Ok) (gk : GOk m g) {s : Int} (h1 : m.min ≤ s)
    (h2 : s < m.max) : rightQ m g s + 1 ≤ 2 ^ m.P := by
  rw [rightQ_eq_left_succ h1 h2]
  exact leftQ_lt_total ok gk (Int.le_add_one h1) h2

theorem rightQ_le (ok : m.Ok) (gk : GOk m g) {s : Int} (h1 : m.min ≤ s) (h2 : s ≤ m.max) :
    rightQ m g s ≤ 2 ^ m.P := by
  by_cases hmax : s = m.max
  · rw [hmax, rightQ_max]; exact Nat.le_refl _
  · exact Nat.le_of_succ_le (rightQ_lt_of_lt_max ok gk h1 (Int.lt_iff_le_and_ne.2 ⟨h2, hmax⟩))

theorem leftQ_mono (gk : GOk m g) {s t : Int} (h1 : m.min ≤ s) (hst : s ≤ t)
    (h2 : t ≤ m.max) : leftQ m g s ≤ leftQ m g t := by
  obtain ⟨k, rfl⟩ : ∃ k : Nat, t = s + k := ⟨(t - s).toNat, by omega⟩
  clear hst
  induction k with
  | zero => rw [Int.natCast_zero, Int.add_zero]; exact Nat.le_refl _
  | succ k ih =>
    rw [Int.natCast_add, Int.natCast_one, ← Int.add_assoc] at h2 ⊢
    have hk : s ≤ s + (k : Int) := Int.le_add_of_nonneg_right (Int.natCast_nonneg k)
    exact Nat.le_trans (ih (Int.le_of_lt h2)) (Nat.le_of_lt (leftQ_step gk (Int.le_trans h1 hk) h2))

/-- `Bin q a`: the symbol `a` owns the quantile `q` -/
def Bin (m : LQ) (g : Int → Nat) (q : Nat) (a : Int) : Prop :=
  m.min ≤ a ∧ a ≤ m.max ∧ leftQ m g a ≤ q ∧ q < rightQ m g a

theorem bin_exists (ok : m.Ok) {q : Nat} (hq : q < 2 ^ m.P) :
    ∃ a, Bin m g q a := by
  have hlt := ok.hlt
  -- walk up from any `s` with `left s ≤ q`; `k` = distance to `max`
  suffices aux : ∀ (k : Nat) (s : Int), m.min ≤ s → s + k = m.max → leftQ m g s ≤ q →
      ∃ a, Bin m g q a from
    aux (m.max - m.min).toNat m.min (Int.le_refl _) (by omega) (by rw [leftQ_min]; exact Nat.zero_le q)
  clear hlt
  intro k
  induction k with
  | zero =>
    intro s h1 hk hl
    have hmax : s = m.max := by omega
    exact ⟨s, h1, Int.le_of_eq hmax, hl, by rw [hmax, rightQ_max]; exact hq⟩
  | succ k ih =>
    intro s h1 hk hl
    have hlt : s < m.max := by omega
    by_cases hr : q < rightQ m g s
    · exact ⟨s, h1, Int.le_of_lt hlt, hl, hr⟩
    · rw [rightQ_eq_left_succ h1 hlt] at hr
      exact ih (s + 1) (Int.le_add_one h1) (by omega) (Nat.not_lt.1 hr)

theorem left_le_iff (ok : m.Ok) (gk : GOk m g) {q : Nat} {a s : Int} (ha : Bin m g q a)
    (h1 : m.min ≤ s) (h2 : s ≤ m.max) : leftQ m g s ≤ q ↔ s ≤ a := by
  obtain ⟨a1, a2, a3, a4⟩ := ha
  constructor
  · -- a symbol above the owner starts at or after the owner's right end
    intro hl
    refine Int.not_lt.1 fun h => ?_
    have e := rightQ_eq_left_succ (g := g) a1 (Int.lt_of_lt_of_le h h2)
    have hm := leftQ_mono gk (Int.le_add_one a1) h h2
    exact absurd (Nat.lt_of_lt_of_le a4 (e ▸ Nat.le_trans hm hl)) (Nat.lt_irrefl q)
  · intro hsa
    exact Nat.le_trans (leftQ_mono gk h1 hsa a2) a3

theorem right_gt_iff (ok : m.Ok) (gk : GOk m g) {q : Nat} {a s : Int} (ha : Bin m g q a)
    (h1 : m.min ≤ s) (h2 : s ≤ m.max) : q < rightQ m g s ↔ a ≤ s := by
  by_cases hmax : s = m.max
  · have hq : q < 2 ^ m.P := Nat.lt_of_lt_of_le ha.2.2.2 (rightQ_le ok gk ha.1 ha.2.1)
    exact ⟨fun _ => hmax ▸ ha.2.1, fun _ => by rw [hmax, rightQ_max]; exact hq⟩
  · have hlt : s < m.max := Int.lt_iff_le_and_ne.2 ⟨h2, hmax⟩
    have hs := left_le_iff ok gk ha (s := s + 1)
      (Int.le_add_one h1) hlt
    rw [rightQ_eq_left_succ h1 hlt]
    constructor
    · intro h
      exact Int.not_lt.1 fun h' => absurd (hs.2 h') (Nat.not_le.2 h)
    · intro h
      exact Nat.not_le.1 fun h' => absurd (hs.1 h') (Int.not_le.2 (Int.lt_add_one_iff.2 h))

theorem bin_unique_q (ok : m.Ok) (gk : GOk m g) {q : Nat} {a b : Int} (ha : Bin m g q a)
    (hb : Bin m g q b) : a = b := by
  have h1 := (left_le_iff ok gk ha hb.1 hb.2.1).mp hb.2.2.1
  have h2 := (left_le_iff ok gk hb ha.1 ha.2.1).mp ha.2.2.1
  omega

theorem widthQ_bounds (ok : m.Ok) (gk : GOk m g) {s : Int} (h1 : m.min ≤ s) (h2 : s ≤ m.max) :
    0 < widthQ m g s ∧ widthQ m g s < 2 ^ m.P := by
  have hl := leftQ_lt_rightQ ok gk h1 h2
  unfold widthQ
  refine ⟨Nat.sub_pos_of_lt hl, ?_⟩
  by_cases hmin : s = m.min
  · exact Nat.lt_of_le_of_lt (Nat.sub_le _ _) (rightQ_lt_of_lt_max ok gk h1 (hmin ▸ ok.hlt))
  · exact Nat.lt_of_lt_of_le
      (Nat.sub_lt (Nat.lt_of_le_of_lt (Nat.zero_le _) hl)
        (leftQ_pos (Int.lt_iff_le_and_ne.2 ⟨h1, Ne.symm hmin⟩)))
      (rightQ_le ok gk h1 h2)

/-- the external call at `s - 0.5` as a total function -/
def extL (g : Int → Nat) : Ext := fun s => some (g s)
/-- the external call at `s + 0.5 = (s + 1) - 0.5` (exact in `f64` for every 32-bit symbol) -/
def extR (g : Int → Nat) : Ext := fun s => some (g (s + 1))

theorem slack_support (ok : m.Ok) {s : Int} (h1 : m.min ≤ s) (h2 : s ≤ m.max) :
    slack m.t m.B s m.min = off m s := by
  have hb : 1 ≤ m.t.bits := Nat.le_trans (by decide) ok.hbits
  -- the offset fits the symbol type (the support does) and `Probability` (`size ≤ 2^P ≤ 2^B`)
  have hW : (m.max - m.min).toNat < 2 ^ m.t.bits := by
    have hsp := hi_lo_span m.t hb
    have hlo := ok.hmin.1
    have hhi := ok.hmax.2
    omega
  exact slack_eq m.t m.B hb (Nat.le_trans ok.hP1 ok.hPB) (d := off m s)
    (Int.toNat_of_nonneg (Int.sub_nonneg.2 h1)).symm (Nat.lt_of_le_of_lt (off_le h2) hW)
    (Nat.lt_of_lt_of_le (Nat.lt_of_le_of_lt (off_le h2) ok.hsize) ok.pow_le)

theorem leaky_left (ok : m.Ok) (gk : GOk m g) (site : String) {s : Int} (h1 : m.min < s)
    (h2 : s ≤ m.max) : m.leaky (extL g) site s = .ok (leftQ m g s) := by
  have hl := Nat.lt_of_lt_of_le (leftQ_lt_total ok gk (Int.le_of_lt h1) h2) ok.pow_le
  unfold LQ.leaky extL
  simp only
  rw [slack_support ok (Int.le_of_lt h1) h2]
  unfold leftQ at hl ⊢
  rw [if_neg (Int.ne_of_gt h1)] at hl ⊢
  rw [cadd_ok hl]; rfl

theorem rightQ_inner (ok : m.Ok) (gk : GOk m g) {s : Int} (h1 : m.min ≤ s) (h2 : s < m.max) :
    rightQ m g s = g (s + 1) + off m s + 1 ∧ g (s + 1) + off m s + 1 < 2 ^ m.B := by
  have hl := Nat.lt_of_lt_of_le (rightQ_lt_of_lt_max ok gk h1 h2) ok.pow_le
  unfold rightQ at hl ⊢
  rw [if_neg (Int.ne_of_lt h2)] at hl ⊢
  exact ⟨rfl, hl⟩

theorem leaky_right (ok : m.Ok) (gk : GOk m g) (site : String) {s : Int} (h1 : m.min ≤ s)
    (h2 : s < m.max) : m.leaky (extR g) site s = .ok (g (s + 1) + off m s) := by
  unfold LQ.leaky extR
  simp only
  rw [slack_support ok h1 (Int.le_of_lt h2), cadd_ok (Nat.lt_of_succ_lt (rightQ_inner ok gk h1 h2).2)]
  rfl

theorem leftEval (ok : m.Ok) (gk : GOk m g) (site : String) {s : Int} (h1 : m.min ≤ s)
    (h2 : s ≤ m.max) :
    (if s = m.min then (.ok 0 : SM Nat) else m.leaky (extL g) site s) = .ok (leftQ m g s) := by
  by_cases hmin : s = m.min
  · rw [if_pos hmin, hmin, leftQ_min]
  · rw [if_neg hmin]; exact leaky_left ok gk _ (Int.lt_iff_le_and_ne.2 ⟨h1, Ne.symm hmin⟩) h2

theorem rightOf_eval (ok : m.Ok) (gk : GOk m g) (site : String) {s : Int} (h1 : m.min ≤ s)
    (h2 : s ≤ m.max) : m.rightOf (extR g) site s = .ok (rightW m g s) := by
  unfold LQ.rightOf rightW
  by_cases hmax : s = m.max
  · rw [if_pos hmax, if_pos hmax]
  · have hlt : s < m.max := Int.lt_iff_le_and_ne.2 ⟨h2, hmax⟩
    have hi := rightQ_inner ok gk h1 hlt
    rw [if_neg hmax, if_neg hmax, leaky_right ok gk site h1 hlt]
    simp only
    rw [hi.1, wadd_of_lt hi.2]

/-- `right.wrapping_sub(left)` is the width, also when the right end is the wrapped total -/
theorem wsub_rightW (ok : m.Ok) (gk : GOk m g) {s : Int} (h1 : m.min ≤ s) (h2 : s ≤ m.max) :
    wsub m.B (rightW m g s) (leftQ m g s) = widthQ m g s := by
  have hl := leftQ_lt_total ok gk h1 h2
  unfold rightW widthQ
  by_cases hmax : s = m.max
  · rw [if_pos hmax]
    rw [hmax] at hl ⊢
    rw [rightQ_max]
    exact wsub_total ok.hPB (leftQ_pos ok.hlt) (Nat.le_of_succ_le hl) (Nat.lt_of_lt_of_le hl ok.pow_le)
  · rw [if_neg hmax]
    exact wsub_of_le (Nat.le_of_lt (leftQ_lt_rightQ ok gk h1 h2))
      (Nat.lt_of_lt_of_le (rightQ_lt_of_lt_max ok gk h1 (Int.lt_iff_le_and_ne.2 ⟨h2, hmax⟩)) ok.pow_le)

theorem SymTy.cadd_ok {t : SymTy} {site : String} {a b : Int} (h : t.inRange (a + b)) :
    t.cadd site a b = .ok (a + b) := by unfold SymTy.cadd; rw [if_pos h]

theorem SymTy.csub_ok {t : SymTy} {site : String} {a b : Int} (h : t.inRange (a - b)) :
    t.csub site a b = .ok (a - b) := by unfold SymTy.csub; rw [if_pos h]

theorem LQ.Ok.inRange (ok : m.Ok) {x : Int} (h1 : m.min ≤ x) (h2 : x ≤ m.max) : m.t.inRange x := by
  have hlo := ok.hmin; have hhi := ok.hmax
  unfold SymTy.inRange at *
  omega

def encQ (m : LQ) (g : Int → Nat) (s : Int) : Option (Nat × Nat) :=
  if m.min ≤ s ∧ s ≤ m.max then some (leftQ m g s, widthQ m g s) else none

/-- **C03 / C09** the encoder: `(left s, right s - left s)` on the support, `None` outside
    (for every value of the symbol type; the comparison precedes any narrowing), no `Fault` -/
theorem enc_eq (ok : m.Ok) (gk : GOk m g) (s : Int) :
    m.enc (extL g) (extR g) s = .ok (encQ m g s) := by
  unfold LQ.enc encQ
  by_cases hin : m.min ≤ s ∧ s ≤ m.max
  · obtain ⟨h1, h2⟩ := hin
    rw [if_neg (fun h => h.elim (Int.not_lt.2 h1) (Int.not_lt.2 h2)),
      if_pos (show m.min ≤ s ∧ s ≤ m.max from ⟨h1, h2⟩)]
    simp only [leftEval ok gk _ h1 h2]
    have hne := Nat.ne_of_gt (widthQ_bounds ok gk h1 h2).1
    have hw := wsub_rightW ok gk h1 h2
    unfold rightW at hw
    by_cases hmax : s = m.max
    · rw [if_pos hmax] at hw ⊢
      simp only
      rw [hw, if_neg hne]
    · have hlt : s < m.max := Int.lt_iff_le_and_ne.2 ⟨h2, hmax⟩
      have hi := rightQ_inner ok gk h1 hlt
      have hc : cadd "quant.enc.right1" m.B (g (s + 1) + off m s) 1 = .ok (rightQ m g s) := by
        rw [hi.1]; exact cadd_ok hi.2
      rw [if_neg hmax] at hw ⊢
      rw [leaky_right ok gk _ h1 hlt]
      simp only
      rw [hc]
      simp only [liftM]
      rw [hw, if_neg hne]
  · rw [if_pos (by omega), if_neg hin]

theorem enc_in (ok : m.Ok) (gk : GOk m g) {s : Int} (h1 : m.min ≤ s) (h2 : s ≤ m.max) :
    m.enc (extL g) (extR g) s = .ok (some (leftQ m g s, widthQ m g s)) := by
  rw [enc_eq ok gk]; unfold encQ; rw [if_pos ⟨h1, h2⟩]

def tableSpec (m : LQ) (g : Int → Nat) : (k : Nat) → (s : Int) → List (Int × Nat × Nat)
  | 0, _ => []
  | k + 1, s => (s, leftQ m g s, widthQ m g s) :: tableSpec m g k (s + 1)

theorem table_eq_aux (ok : m.Ok) (gk : GOk m g) (k : Nat) :
    ∀ s : Int, m.min ≤ s → s + k = m.max →
      m.table (extL g) (k + 1) s (leftQ m g s) = .ok (tableSpec m g (k + 1) s) := by
  induction k with
  | zero =>
    intro s h1 hk
    have hmax : s = m.max := by omega
    have h2 : s ≤ m.max := Int.le_of_eq hmax
    have e : wrappingPow2 m.B m.P = rightW m g s := by unfold rightW; rw [if_pos hmax]
    unfold LQ.table
    rw [if_pos hmax]
    simp only
    rw [e, wsub_rightW ok gk h1 h2, if_neg (Nat.ne_of_gt (widthQ_bounds ok gk h1 h2).1)]
    rfl
  | succ k ih =>
    intro s h1 hk
    have hlt : s < m.max := by omega
    have h1' : m.min ≤ s + 1 := by omega
    have hk' : s + 1 + (k : Int) = m.max := by omega
    have e : leftQ m g (s + 1) = rightW m g s := by
      unfold rightW; rw [if_neg (Int.ne_of_lt hlt), rightQ_eq_left_succ h1 hlt]
    unfold LQ.table
    rw [if_neg (Int.ne_of_lt hlt), SymTy.cadd_ok (ok.inRange h1' hlt)]
    simp only [liftM]
    rw [leaky_left ok gk _ (Int.lt_add_one_of_le h1) hlt]
    simp only
    rw [e, wsub_rightW ok gk h1 (Int.le_of_lt hlt),
      if_neg (Nat.ne_of_gt (widthQ_bounds ok gk h1 (Int.le_of_lt hlt)).1), ← e, ih (s + 1) h1' hk']
    rfl

/-- **C05 / D1** the symbol-table iterator lists, in order, exactly the triples
    `(s, left s, right s - left s)` the encoder answers for `s = min, …, max` -/
theorem table_eq (ok : m.Ok) (gk : GOk m g) :
    m.table (extL g) ((m.max - m.min).toNat + 1) m.min 0
      = .ok (tableSpec m g ((m.max - m.min).toNat + 1) m.min) := by
  have hlt := ok.hlt
  have := table_eq_aux ok gk (m.max - m.min).toNat m.min (Int.le_refl _) (by omega)
  rwa [leftQ_min] at this

theorem tableSpec_eq_map (k : Nat) (s : Int) :
    tableSpec m g k s
      = (List.range k).map fun i : Nat => (s + i, leftQ m g (s + i), widthQ m g (s + i)) := by
  induction k generalizing s with
  | zero => rfl
  | succ k ih =>
    rw [tableSpec, ih, List.range_succ_eq_map, List.map_cons, List.map_map, Int.natCast_zero,
      Int.add_zero]
    refine congrArg _ (List.map_congr_left fun i _ => ?_)
    have e : s + 1 + (i : Int) = s + ((i + 1 : Nat) : Int) := by omega
    simp only [Function.comp, e]

theorem tableSpec_mem {k : Nat} {s : Int} {e : Int × Nat × Nat} (he : e ∈ tableSpec m g k s) :
    s ≤ e.1 ∧ e.1 < s + k ∧ e.2.1 = leftQ m g e.1 ∧ e.2.2 = widthQ m g e.1 := by
  rw [tableSpec_eq_map, List.mem_map] at he
  obtain ⟨i, hi, rfl⟩ := he
  have := List.mem_range.mp hi
  exact ⟨by omega, by omega, rfl, rfl⟩

theorem table_entries_enc (ok : m.Ok) (gk : GOk m g) {e : Int × Nat × Nat}
    (he : e ∈ tableSpec m g ((m.max - m.min).toNat + 1) m.min) :
    m.enc (extL g) (extR g) e.1 = .ok (some (e.2.1, e.2.2)) := by
  have hlt := ok.hlt
  obtain ⟨h1, h2, h3, h4⟩ := tableSpec_mem he
  rw [h3, h4]; exact enc_in ok gk h1 (by omega)

end

end CV.Quant
