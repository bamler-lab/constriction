import CV.Proofs.QuantSearch
/-!
# The float-derived models as `Model`s, and their `WellFormed`-ness

What the float pipeline must deliver enters as hypotheses (never axioms): `TBF1Fast h n` (TB-F1,
fast / lazy: `h i = toInt (c_i * scale)` nondecreasing from `0`), `TBF2` (the float-only skip
phase of the lazy decoder never skips the owner), `GOk m g` (TB-F1, leaky quantizer).  TB-F1 is a
hypothesis here and a theorem for the software IEEE model (`soft_tbf1`, `leaky_gok_of_cdf`,
`C03_ieee`).  `TBF1Fast` and `TBF2` are decidable, `GOk` has the Boolean check `gokCheck`
(`GOk.of_check`, `CV.Proofs.QuantFloatInstances`); the driver evaluates all three on every sampled
instance.
-/
namespace CV.Quant

theorem wellFormed_of_tiling {Sym : Type} {P : Nat} {M : Model Sym} (S : Sym → Prop)
    (L W : Sym → Nat) (henc : ∀ s, S s → M.enc s = some (L s, W s))
    (hnone : ∀ s, ¬ S s → M.enc s = none)
    (hw : ∀ s, S s → 0 < W s ∧ L s + W s ≤ 2 ^ P ∧ W s < 2 ^ P)
    (hdec : ∀ q, q < 2 ^ P → ∃ s, S s ∧ L s ≤ q ∧ q < L s + W s ∧ M.dec q = (s, L s, W s))
    (huniq : ∀ q s t, S s → L s ≤ q → q < L s + W s → S t → L t ≤ q → q < L t + W t → s = t) :
    M.WellFormed P := by
  constructor
  · intro s c p he
    by_cases hs : S s
    · rw [henc s hs] at he
      injection he with he
      injection he with hc hp
      subst hc; subst hp
      obtain ⟨h1, h2, h3⟩ := hw s hs
      refine ⟨h1, h2, h3, fun q hq1 hq2 => ?_⟩
      obtain ⟨t, ht, hl, hr, hd⟩ := hdec q (by omega)
      rw [hd, huniq q s t hs hq1 hq2 ht hl hr]
    · rw [hnone s hs] at he; cases he
  · intro q hq
    obtain ⟨s, hs, hl, hr, hd⟩ := hdec q hq
    rw [hd]; exact ⟨henc s hs, hl, hr⟩

theorem FastOk.of_guards {B P n : Nat} (hP1 : 1 ≤ P) (hPB : P ≤ B) (hB : B ≤ 64)
    (hlen : lenOk P n = true) : FastOk B P n ∧ freeWeight B P n = 2 ^ P - n := by
  have ok := FastOk.of_lenOk hP1 hPB hB hlen
  exact ⟨ok, freeWeight_eq ok⟩

/-- TB-F2: for every quantile the skip phase consumed `1 ≤ k0 q ≤ n` items and the first symbol
    it did not skip starts at or below `q` -/
def TBF2 (P n free : Nat) (h : Nat → Nat) (k0 : Nat → Nat) : Prop :=
  ∀ q, q < 2 ^ P → 1 ≤ k0 q ∧ k0 q ≤ n ∧ cumF P n free h (k0 q - 1) ≤ q

/-- the lazy model as an abstract entropy model (`k0` = skip counts of the decoder) -/
def lazyModel (B P n free : Nat) (h : Nat → Nat) (k0 : Nat → Nat) : Model Nat where
  enc s := match lazyEnc B P n free h s with
    | .ok r => r
    | .error _ => none
  dec q := match lazyDec B P n free h (k0 q) q with
    | .ok r => r
    | .error _ => (0, 0, 0)

section lazy
variable {B P n free : Nat} {h : Nat → Nat} {k0 : Nat → Nat}

theorem lazyModel_enc (ok : FastOk B P n) (hf : free = 2 ^ P - n) (tb : TBF1Fast h n) (s : Nat) :
    (lazyModel B P n free h k0).enc s = encF P n free h s := by
  unfold lazyModel; simp only; rw [lazyEnc_eq ok hf tb.mono]

theorem lazyModel_dec (ok : FastOk B P n) (hf : free = 2 ^ P - n)
    (tb : TBF1Fast h n) (t2 : TBF2 P n free h k0) {q : Nat} (hq : q < 2 ^ P) :
    ∃ s, IsBin P n free h q s ∧
      (lazyModel B P n free h k0).dec q = (s, cumF P n free h s, widthF P n free h s) := by
  obtain ⟨h1, h2, h3⟩ := t2 q hq
  obtain ⟨s, hs, hd⟩ := lazyDec_spec ok hf tb.mono hq h1 h2 h3
  exact ⟨s, hs, by unfold lazyModel; simp only; rw [hd]⟩

theorem lazyModel_wellFormed (ok : FastOk B P n) (hf : free = 2 ^ P - n)
    (tb : TBF1Fast h n) (t2 : TBF2 P n free h k0) :
    (lazyModel B P n free h k0).WellFormed P := by
  have hadd : ∀ s, s < n → cumF P n free h s + widthF P n free h s = cumF P n free h (s + 1) :=
    fun s hs => by have := cumF_step ok hf tb.mono hs; unfold widthF; omega
  refine wellFormed_of_tiling (· < n) (cumF P n free h) (widthF P n free h)
    (fun s hs => ?_) (fun s hs => ?_) (fun s hs => ?_) (fun q hq => ?_)
    (fun q s t hs h1 h2 ht h3 h4 => ?_)
  · rw [lazyModel_enc ok hf tb]; unfold encF; rw [if_pos hs]
  · rw [lazyModel_enc ok hf tb]; unfold encF; rw [if_neg hs]
  · have := cumF_mono ok hf tb.mono (i := s + 1) (j := n) hs (Nat.le_refl _)
    rw [cumF_last] at this
    exact ⟨width_pos ok hf tb.mono hs, by rw [hadd s hs]; exact this, width_lt ok hf tb.mono hs⟩
  · obtain ⟨s, hs, hd⟩ := lazyModel_dec (k0 := k0) ok hf tb t2 hq
    exact ⟨s, hs.1, hs.2.1, by rw [hadd s hs.1]; exact hs.2.2, hd⟩
  · rw [hadd s hs] at h2; rw [hadd t ht] at h4
    exact IsBin.unique ok hf tb.mono ⟨hs, h1, h2⟩ ⟨ht, h3, h4⟩

/-- `usize` compare, no narrowing -/
theorem lazyModel_enc_none (ok : FastOk B P n) (hf : free = 2 ^ P - n) (tb : TBF1Fast h n)
    {s : Nat} (hs : n ≤ s) : (lazyModel B P n free h k0).enc s = none := by
  rw [lazyModel_enc ok hf tb]; unfold encF; rw [if_neg (by omega)]

end lazy

/-- the quantised model as an abstract entropy model; `hint q` = what `Inverse::inverse`
    returned for the quantile `q`, converted to `Symbol` — an arbitrary function -/
def leakyModel (m : LQ) (g : Int → Nat) (hint : Nat → Int) : Model Int where
  enc s := match m.enc (extL g) (extR g) s with
    | .ok r => r
    | .error _ => none
  dec q := match m.dec (extL g) (extR g) (searchFuel m.t) (hint q) q with
    | .ok r => r
    | .error _ => (0, 0, 0)

section leaky
variable {m : LQ} {g : Int → Nat} {hint : Nat → Int}

theorem leakyModel_enc (ok : m.Ok) (gk : GOk m g) (s : Int) :
    (leakyModel m g hint).enc s = encQ m g s := by
  unfold leakyModel; simp only; rw [enc_eq ok gk]

theorem leakyModel_dec (ok : m.Ok) (gk : GOk m g) {q : Nat} (hq : q < 2 ^ m.P) :
    ∃ a, Bin m g q a ∧ (leakyModel m g hint).dec q = (a, leftQ m g a, widthQ m g a) := by
  obtain ⟨a, ha, hd⟩ := dec_correct ok gk hq (hint q) (Nat.le_refl _)
  exact ⟨a, ha, by unfold leakyModel; simp only; rw [hd]⟩

theorem leakyModel_wellFormed (ok : m.Ok) (gk : GOk m g) :
    (leakyModel m g hint).WellFormed m.P := by
  have hadd : ∀ s, m.min ≤ s ∧ s ≤ m.max → leftQ m g s + widthQ m g s = rightQ m g s :=
    fun s hs => by have := leftQ_lt_rightQ ok gk hs.1 hs.2; unfold widthQ; omega
  refine wellFormed_of_tiling (fun s => m.min ≤ s ∧ s ≤ m.max) (leftQ m g) (widthQ m g)
    (fun s hs => ?_) (fun s hs => ?_) (fun s hs => ?_) (fun q hq => ?_)
    (fun q s t hs h1 h2 ht h3 h4 => ?_)
  · rw [leakyModel_enc ok gk]; unfold encQ; rw [if_pos hs]
  · rw [leakyModel_enc ok gk]; unfold encQ; rw [if_neg hs]
  · have hw := widthQ_bounds ok gk hs.1 hs.2
    exact ⟨hw.1, by rw [hadd s hs]; exact rightQ_le ok gk hs.1 hs.2, hw.2⟩
  · obtain ⟨a, ha, hd⟩ := leakyModel_dec (hint := hint) ok gk hq
    exact ⟨a, ⟨ha.1, ha.2.1⟩, ha.2.2.1, by rw [hadd a ⟨ha.1, ha.2.1⟩]; exact ha.2.2.2, hd⟩
  · rw [hadd s hs] at h2; rw [hadd t ht] at h4
    exact bin_unique_q ok gk ⟨hs.1, hs.2, h1, h2⟩ ⟨ht.1, ht.2, h3, h4⟩

theorem leakyModel_dec_hint_irrelevant (ok : m.Ok) (gk : GOk m g) (hint hint' : Nat → Int)
    {q : Nat} (hq : q < 2 ^ m.P) : (leakyModel m g hint).dec q = (leakyModel m g hint').dec q := by
  obtain ⟨a, ha, hd⟩ := leakyModel_dec (hint := hint) ok gk hq
  obtain ⟨b, hb, hd'⟩ := leakyModel_dec (hint := hint') ok gk hq
  rw [hd, hd', bin_unique_q ok gk ha hb]

/-- the comparison is made in `Symbol`, before narrowing -/
theorem leakyModel_enc_none (ok : m.Ok) (gk : GOk m g) {s : Int} (hs : s < m.min ∨ m.max < s) :
    (leakyModel m g hint).enc s = none := by
  rw [leakyModel_enc ok gk]; unfold encQ; rw [if_neg (by omega)]

end leaky

end CV.Quant
