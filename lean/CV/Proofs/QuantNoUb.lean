import CV.Model.Quant
/-!
# `quantize.rs` has no reachable unsafe precondition, for arbitrary distributions

After D25 and D27 every conversion to `NonZero` in `quantize.rs` is checked, so the model of the
leaky quantizer has no `Fault.ub` site.  A `Distribution` is a safe trait and may return anything:
for arbitrary `gl`, `gr`, any hint and any fuel, encoder, decoder and symbol table never return a
`Fault.ub`; a broken CDF only reaches the documented panics.
-/
namespace CV.Quant

def SErr.isUb : SErr → Bool
  | .fault (.ub _) => true
  | _ => false

def NoUb {α : Type} (r : SM α) : Prop := ∀ e, r = .error e → e.isUb = false

theorem NoUb.ok {α : Type} (a : α) : NoUb (.ok a : SM α) := by intro e h; cases h

theorem NoUb.err {α : Type} {e : SErr} (h : e.isUb = false) : NoUb (.error e : SM α) := by
  intro e' h'; cases h'; exact h

theorem NoUb.ite {α : Type} {c : Prop} [Decidable c] {x y : SM α} (hx : NoUb x) (hy : NoUb y) :
    NoUb (if c then x else y) := by
  split
  · exact hx
  · exact hy

/-- through the model's error-propagating `match`; one lemma per result type, since `refine`
    matches the model's compiled `match` only then -/
theorem NoUb.bindNat {β : Type} {x : SM Nat} {k : Nat → SM β} (hx : NoUb x)
    (hk : ∀ a, NoUb (k a)) : NoUb (match x with | .error e => .error e | .ok a => k a) := by
  cases x with
  | error e => exact NoUb.err (hx e rfl)
  | ok a => exact hk a

theorem NoUb.bindInt {β : Type} {x : SM Int} {k : Int → SM β} (hx : NoUb x)
    (hk : ∀ a, NoUb (k a)) : NoUb (match x with | .error e => .error e | .ok a => k a) := by
  cases x with
  | error e => exact NoUb.err (hx e rfl)
  | ok a => exact hk a

theorem NoUb.prop {α β : Type} {x : SM α} (hx : NoUb x) {e : SErr} (he : x = .error e) :
    NoUb (.error e : SM β) := NoUb.err (hx e he)

/-- a checked `+` or `-` ends in its result or in an overflow panic, not UB -/
theorem noUb_liftM_cadd (site : String) (n a b : Nat) : NoUb (liftM (cadd site n a b)) := by
  unfold cadd
  split
  · exact NoUb.ok _
  · exact NoUb.err rfl

theorem noUb_liftM_symCadd (t : SymTy) (site : String) (a b : Int) :
    NoUb (liftM (t.cadd site a b)) := by
  unfold SymTy.cadd
  split
  · exact NoUb.ok _
  · exact NoUb.err rfl

theorem noUb_liftM_symCsub (t : SymTy) (site : String) (a b : Int) :
    NoUb (liftM (t.csub site a b)) := by
  unfold SymTy.csub
  split
  · exact NoUb.ok _
  · exact NoUb.err rfl

variable {m : LQ} {gl gr : Ext}

theorem noUb_leaky (g : Ext) (site : String) (s : Int) : NoUb (m.leaky g site s) := by
  unfold LQ.leaky; split
  · exact NoUb.err rfl
  · exact noUb_liftM_cadd _ _ _ _

theorem noUb_rightOf (g : Ext) (site : String) (s : Int) : NoUb (m.rightOf g site s) :=
  NoUb.ite (NoUb.ok _) (NoUb.bindNat (noUb_leaky _ _ _) fun _ => NoUb.ok _)

theorem noUb_stepDown (s : Int) : ∀ (fuel : Nat) (step : Int), NoUb (m.stepDown s fuel step) := by
  intro fuel
  induction fuel with
  | zero => intro step; exact NoUb.err rfl
  | succ f ih => intro step; exact NoUb.ite (NoUb.ok _) (ih _)

theorem noUb_stepUp (s : Int) : ∀ (fuel : Nat) (step : Int), NoUb (m.stepUp s fuel step) := by
  intro fuel
  induction fuel with
  | zero => intro step; exact NoUb.err rfl
  | succ f ih => intro step; exact NoUb.ite (NoUb.ok _) (ih _)

theorem noUb_leftM (site : String) (s : Int) :
    NoUb (if s = m.min then (.ok 0 : SM Nat) else m.leaky gl site s) :=
  NoUb.ite (NoUb.ok _) (noUb_leaky _ _ _)

theorem noUb_down (q : Nat) : ∀ (fuel : Nat) (s step : Int) (left : Nat) (found : Bool),
    NoUb (m.down gl gr q fuel s step left found) := by
  intro fuel
  induction fuel with
  | zero => intro s step left found; exact NoUb.err rfl
  | succ f ih =>
    intro s step left found
    unfold LQ.down
    refine NoUb.ite (NoUb.ok _) (NoUb.bindNat (noUb_leftM _ _) fun left =>
      NoUb.ite (NoUb.ite ?_ ?_) (NoUb.ite ?_ ?_))
    · exact NoUb.bindNat (noUb_rightOf _ _ _) fun _ => NoUb.ok _
    · exact NoUb.bindInt (noUb_liftM_symCadd _ _ _ _) fun _ => ih _ _ _ _
    · exact NoUb.bindInt (noUb_liftM_symCsub _ _ _ _) fun _ => ih _ _ _ _
    · simp only
      split
      · rename_i e he; exact (noUb_stepDown (m := m) _ _ _).prop he
      · exact ih _ _ _ _

theorem noUb_up (q : Nat) : ∀ (fuel : Nat) (s step : Int) (left : Nat) (found : Bool),
    NoUb (m.up gl gr q fuel s step left found) := by
  intro fuel
  induction fuel with
  | zero => intro s step left found; exact NoUb.err rfl
  | succ f ih =>
    intro s step left found
    unfold LQ.up
    refine NoUb.ite
      (NoUb.bindNat (noUb_leaky _ _ _) fun _ => NoUb.ite (NoUb.err rfl) (NoUb.ok _))
      (NoUb.bindNat (noUb_rightOf _ _ _) fun right =>
        NoUb.ite (NoUb.ite ?_ ?_) (NoUb.ite ?_ ?_))
    · exact NoUb.bindNat (noUb_leftM _ _) fun _ => NoUb.ite (NoUb.ok _)
        (NoUb.bindInt (noUb_liftM_symCsub _ _ _ _) fun _ => ih _ _ _ _)
    · exact NoUb.bindInt (noUb_liftM_symCsub _ _ _ _) fun _ => ih _ _ _ _
    · exact NoUb.bindInt (noUb_liftM_symCadd _ _ _ _) fun _ => ih _ _ _ _
    · simp only
      split
      · rename_i e he; exact (noUb_stepUp (m := m) _ _ _).prop he
      · exact ih _ _ _ _

theorem noUb_dec (fuel : Nat) (hint : Int) (q : Nat) : NoUb (m.dec gl gr fuel hint q) := by
  unfold LQ.dec
  refine NoUb.ite (NoUb.err rfl)
    (NoUb.bindNat (NoUb.ite (NoUb.ok _) (noUb_leaky _ _ _)) fun left => ?_)
  simp only
  split
  · rename_i e he
    refine NoUb.prop (x := _) (NoUb.ite ?_ (noUb_up _ _ _ _ _ _)) he
    exact NoUb.bindInt (noUb_liftM_symCsub _ _ _ _) fun _ => noUb_down _ _ _ _ _ _
  · exact NoUb.ite (NoUb.err rfl) (NoUb.ok _)

theorem noUb_enc (s : Int) : NoUb (m.enc gl gr s) := by
  unfold LQ.enc
  refine NoUb.ite (NoUb.ok _) (NoUb.bindNat (noUb_leftM _ _) fun left =>
    NoUb.bindNat (NoUb.ite (NoUb.ok _) ?_) fun right => NoUb.ite (NoUb.err rfl) (NoUb.ok _))
  exact NoUb.bindNat (noUb_leaky _ _ _) fun _ => noUb_liftM_cadd _ _ _ _

theorem noUb_table : ∀ (fuel : Nat) (s : Int) (left : Nat), NoUb (m.table gl fuel s left) := by
  intro fuel
  induction fuel with
  | zero => intro s left; exact NoUb.err rfl
  | succ f ih =>
    intro s left
    unfold LQ.table
    refine NoUb.ite (NoUb.ite (NoUb.err rfl) (NoUb.ok _))
      (NoUb.bindInt (noUb_liftM_symCadd _ _ _ _) fun next =>
        NoUb.bindNat (noUb_leaky _ _ _) fun right => NoUb.ite (NoUb.err rfl) ?_)
    split
    · rename_i e he; exact NoUb.prop (ih _ _) he
    · exact NoUb.ok _

end CV.Quant
