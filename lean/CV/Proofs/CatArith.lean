import CV.Model.Cat
import CV.Proofs.Arith
/-! List facts used by the categorical models. -/
namespace CV.Cat
open CV

theorem wsub_total_lt {B P left : Nat} (hP : P < B) (h1 : left ≤ 2 ^ P) :
    wsub B (wrappingPow2 B P) left = 2 ^ P - left := by
  rw [wrappingPow2_of_lt hP]
  exact wsub_of_le h1 (pow_lt_pow2 hP)

theorem getD_of_lt {α : Type} {l : List α} {i : Nat} {d : α} (h : i < l.length) :
    l.getD i d = l[i] := by
  simp [List.getD, h]

theorem getElem?_of_lt {α : Type} {l : List α} {i : Nat} {d : α} (h : i < l.length) :
    l[i]? = some (l.getD i d) := by
  simp [List.getD, h]

theorem getLast?_zip_some {α β : Type} {as : List α} {bs : List β} (h : as.length = bs.length)
    (hpos : 0 < bs.length) : ∃ a b, (as.zip bs).getLast? = some (a, b) := by
  cases hl : (as.zip bs).getLast? with
  | none =>
    have := congrArg List.length (List.getLast?_eq_none_iff.mp hl)
    rw [List.length_zip, h, Nat.min_self] at this
    exact absurd this (Nat.ne_of_gt hpos)
  | some x => exact ⟨x.1, x.2, rfl⟩

end CV.Cat
