import CV.Model.QuantFloatReplica
import CV.Proofs.QuantFast
/-!
# The float replicas (`CV.Model.QuantFloatReplica`) read through their integer guards

`fastSetup_some`: what the prologue of the `…_fast` constructors has established when it accepts.
`perfectPre_no_fault`: the first pass of `perfectly_quantized_probabilities` never faults on tables
of at most `2^P` entries, whatever the floats do: `current_free_weight + 1` and the subtraction from
the remaining free weight are guarded by the integer clamp `min(.., remaining_free_weight)`.
Longer tables wrap the free weight and are rejected or fail cleanly later, which C19 permits.
-/
namespace CV.Quant

theorem fastSetup_some {F : Type} (o : FOps F) {B P : Nat} {probs : List F} {norm : Option F}
    {ctx : FastCtx F} (h : fastSetup o B P probs norm = some ctx) :
    lenOk P probs.length = true ∧ probs.all (fun p => o.le o.zero p) = true ∧
      ctx.n = probs.length ∧ ctx.free = freeWeight B P probs.length ∧
      ctx.cumE = o.prefixSums o.zero probs ∧ ctx.cumL = o.prefixSums o.negZero probs := by
  have of_not_bnot : ∀ {b : Bool}, ¬ (!b) = true → b = true := by decide
  unfold fastSetup at h
  simp only at h
  by_cases h1 : (!lenOk P probs.length) = true
  · rw [if_pos h1] at h; cases h
  by_cases h2 : (!(probs.all (fun p => o.le o.zero p))) = true
  · rw [if_neg h1, if_pos h2] at h; cases h
  rw [if_neg h1, if_neg h2] at h
  cases norm
  all_goals
    simp only at h
    split at h
    · cases h
    · injection h with h
      subst h
      exact ⟨of_not_bnot h1, of_not_bnot h2, rfl, rfl, rfl, rfl⟩

theorem perfectPre_go_no_fault {F : Type} (toF64 : F → Float) (B : Nat) (scale : Float) :
    ∀ (probs : List F) (remaining : Nat), remaining + 2 ≤ 2 ^ B →
      perfectPre.go toF64 B scale remaining probs = .proceeds := by
  intro probs
  induction probs with
  | nil => intro r _; rfl
  | cons p rest ih =>
    intro r hr
    unfold perfectPre.go
    simp only
    have hle : min (f64Ops.toUInt B (toF64 p * scale)) r ≤ r := Nat.min_le_right _ _
    rw [if_neg (by omega)]
    exact ih _ (by omega)

theorem freeWeight_le {B P n : Nat} (hPB : P ≤ B) (h2 : 2 ≤ n) (hn : n ≤ 2 ^ P) (hnB : n < 2 ^ B) :
    freeWeight B P n + 2 ≤ 2 ^ B := by
  have hpow := pow_le_pow2 hPB
  unfold freeWeight
  rw [narrow_of_lt hnB, wsub_total hPB (by omega) hn hnB]
  omega

theorem perfectPre_guard {c : Prop} [Decidable c] {r : PerfectPre} (h : ¬ c → r = .rejected ∨ r = .proceeds) :
    (if c then .rejected else r) = .rejected ∨ (if c then PerfectPre.rejected else r) = .proceeds := by
  by_cases hc : c
  · rw [if_pos hc]; exact Or.inl rfl
  · rw [if_neg hc]; exact h hc

theorem perfectPre_no_fault {F : Type} (o : FOps F) (toF64 : F → Float) {B P : Nat} (hPB : P ≤ B)
    (probs : List F) (hn : probs.length ≤ 2 ^ P) :
    perfectPre o toF64 B P probs = .rejected ∨ perfectPre o toF64 B P probs = .proceeds := by
  have hB := Nat.two_pow_pos B
  unfold perfectPre
  refine perfectPre_guard fun h1 => perfectPre_guard fun _ => perfectPre_guard fun _ =>
    perfectPre_guard fun _ => Or.inr ?_
  have h2 : 2 ≤ probs.length ∧ probs.length ≤ 2 ^ B - 1 := by
    simp only [Bool.or_eq_true, decide_eq_true_eq, not_or, Nat.not_lt, Nat.not_lt] at h1
    omega
  exact perfectPre_go_no_fault toF64 B _ probs _ (freeWeight_le hPB h2.1 hn (by omega))

end CV.Quant
