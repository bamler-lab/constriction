import CV.Proofs.BitsExport
import CV.Model.BitsExpGolomb
/-!
# Exp-Golomb: the codebook on plain bit lists

Spec: `code v` = `k` zeros followed by the `k+1` binary digits of `v+1`, most significant first,
with `k = ⌊log2 (v+1)⌋` and `v+1` computed in ℕ (no wrap-around; for `v = 2^N - 1` this is `N`
zeros, a one, `N` zeros).

The decoder is described through digit strings: after `k` zeros and a one it reads `k` digits
`ds` and accepts iff `2^k + valMSB ds ≤ 2^N`, returning `2^k + valMSB ds - 1`.  The wrap-around of
the maximum symbol is just the case `k = N`.
-/
namespace CV.Bits.EG

def code (v : Nat) : List Bool :=
  List.replicate (Nat.log2 (v+1)) false ++ (lowBits (Nat.log2 (v+1) + 1) (v+1)).reverse

theorem and_one_ne_zero (x : Nat) : (x &&& 1 ≠ 0) = (x.testBit 0 = true) :=
  and_pow_ne_zero x 0

theorem fuel_succ {n f : Nat} (h : n < f) : ∃ g, f = g + 1 :=
  Nat.exists_eq_add_one_of_ne_zero (Nat.ne_zero_of_lt h)

theorem maskLoop_zero (x f : Nat) : maskLoop x f 0 = .ok [] := by
  cases f <;> simp [maskLoop]

theorem maskLoop_spec (x k f : Nat) (h : k < f) :
    maskLoop x f (2^k) = .ok (lowBits (k+1) x).reverse := by
  obtain ⟨f, rfl⟩ := fuel_succ h
  induction k generalizing f with
  | zero => simp [maskLoop, maskLoop_zero, lowBits]
  | succ k ih =>
    obtain ⟨f, rfl⟩ := fuel_succ (Nat.lt_of_succ_lt_succ h)
    rw [maskLoop, if_neg (Nat.ne_of_gt (Nat.two_pow_pos _)), shr1_pow_succ, ih f (Nat.lt_of_succ_lt_succ h),
      lowBits_succ (k := k + 1), List.reverse_append]
    simp [and_pow_ne_zero]

theorem lsbLoop_spec (f x : Nat) (hx : x ≠ 0) (h : Nat.log2 x < f) :
    lsbLoop f x = .ok (lowBits (Nat.log2 x + 1) x) := by
  induction f generalizing x with
  | zero => cases h
  | succ f ih =>
    rw [Nat.log2_def] at h ⊢
    rw [lsbLoop, lowBits_succ_left]
    simp only [and_one_ne_zero, Nat.shiftRight_eq_div_pow, Nat.pow_one]
    rcases Nat.lt_or_ge x 2 with hlt | hge
    · rw [if_pos (Nat.div_eq_of_lt hlt), if_neg (Nat.not_le_of_lt hlt), Bool.decide_eq_true]
      rfl
    · have h2 : x / 2 ≠ 0 := Nat.ne_of_gt (Nat.div_pos hge (by decide))
      rw [if_pos hge] at h ⊢
      rw [if_neg h2, ih (x / 2) h2 (Nat.lt_of_succ_lt_succ h), Bool.decide_eq_true]

theorem codeLen_spec {N x : Nat} (hx : x ≠ 0) (hlt : x < 2^N) :
    codeLen N x = .ok (Nat.log2 x) := by
  have hlog : Nat.log2 x < N := (Nat.log2_lt hx).mpr hlt
  rw [codeLen, lz_eq hx, csub_ok (Nat.sub_le _ _), Nat.sub_sub_self hlog]
  exact congrArg Except.ok (Nat.add_sub_cancel _ 1)

theorem code_max (N : Nat) :
    code (2^N - 1) = List.replicate N false ++ [true] ++ List.replicate N false := by
  have h : 2^N - 1 + 1 = 2^N := Nat.sub_add_cancel (Nat.two_pow_pos N)
  have hbits := lowBits_or_top (Nat.two_pow_pos N) true
  rw [Nat.zero_or, if_pos rfl, lowBits_zero_word] at hbits
  simp [code, h, Nat.log2_two_pow, hbits]

theorem wadd_one {N v : Nat} (hv : v < 2^N) :
    (v + 1 = 2^N ∧ wadd N v 1 = 0) ∨ (v + 1 < 2^N ∧ wadd N v 1 = v + 1) := by
  rcases Nat.lt_or_ge (v + 1) (2^N) with h | h
  · exact Or.inr ⟨h, Nat.mod_eq_of_lt h⟩
  · have h : v + 1 = 2^N := by omega
    exact Or.inl ⟨h, by rw [wadd, h, Nat.mod_self]⟩

/-- `encode_symbol_prefix` -/
theorem prefixBits_spec {N v : Nat} (hv : v < 2^N) :
    prefixBits N v = .ok (code v) := by
  unfold prefixBits
  rcases wadd_one hv with ⟨hmax, hw⟩ | ⟨hlt, hw⟩
  · obtain rfl : v = 2^N - 1 := Nat.eq_sub_of_add_eq hmax
    rw [code_max]
    simp only [hw, if_true]
  · have hlog : Nat.log2 (v+1) < N := (Nat.log2_lt (Nat.succ_ne_zero v)).mpr hlt
    simp only [hw, Nat.succ_ne_zero, if_false, codeLen_spec (Nat.succ_ne_zero v) hlt, shl, hlog,
      if_true, one_shl_mod hlog, maskLoop_spec (v+1) (Nat.log2 (v+1)) (N+1) (Nat.lt_succ_of_lt hlog)]
    rfl

/-- `encode_symbol_suffix` -/
theorem suffixBits_spec {N v : Nat} (hv : v < 2^N) :
    suffixBits N v = .ok (code v).reverse := by
  unfold suffixBits
  rcases wadd_one hv with ⟨hmax, hw⟩ | ⟨hlt, hw⟩
  · obtain rfl : v = 2^N - 1 := Nat.eq_sub_of_add_eq hmax
    rw [code_max]
    simp [hw]
  · have hlog : Nat.log2 (v+1) < N := (Nat.log2_lt (Nat.succ_ne_zero v)).mpr hlt
    simp only [hw, Nat.succ_ne_zero, if_false, codeLen_spec (Nat.succ_ne_zero v) hlt,
      lsbLoop_spec N (v+1) (Nat.succ_ne_zero v) hlog]
    simp [code]

set_option linter.unusedVariables false in
theorem suffix_eq_reverse_prefix {N v : Nat} (hN : ValidN N) (hv : v < 2^N) :
    ∃ p, prefixBits N v = .ok p ∧ suffixBits N v = .ok p.reverse :=
  ⟨code v, prefixBits_spec hv, suffixBits_spec hv⟩

/-- value of a digit string, most significant first -/
def valMSB : List Bool → Nat
  | [] => 0
  | b :: t => b.toNat * 2^t.length + valMSB t

theorem valMSB_lt (ds : List Bool) : valMSB ds < 2^ds.length := by
  induction ds with
  | nil => exact Nat.one_pos
  | cons b t ih =>
    have : b.toNat * 2^t.length ≤ 1 * 2^t.length := Nat.mul_le_mul_right _ (Bool.toNat_le b)
    rw [valMSB, List.length_cons, Nat.pow_succ]
    omega

theorem testBit_top {b : Bool} {n r : Nat} (hr : r < 2^n) : (b.toNat * 2^n + r).testBit n = b := by
  rw [Nat.testBit_eq_decide_div_mod_eq, Nat.add_comm, Nat.add_mul_div_right _ _ (Nat.two_pow_pos n),
    Nat.div_eq_of_lt hr]
  cases b <;> rfl

theorem lowBits_top {b : Bool} {n r : Nat} : lowBits n (b.toNat * 2^n + r) = lowBits n r := by
  rw [← lowBits_mod n (b.toNat * 2^n + r), ← lowBits_mod n r, Nat.add_comm,
    Nat.add_mul_mod_self_right]

theorem lowBits_valMSB (ds : List Bool) : (lowBits ds.length (valMSB ds)).reverse = ds := by
  induction ds with
  | nil => rfl
  | cons b t ih =>
    rw [List.length_cons, valMSB, lowBits_succ, List.reverse_append, testBit_top (valMSB_lt t),
      lowBits_top, ih]
    rfl

theorem valMSB_lowBits (k x : Nat) : valMSB (lowBits k x).reverse = x % 2^k := by
  induction k with
  | zero => rw [Nat.pow_zero, Nat.mod_one]; rfl
  | succ k ih =>
    rw [lowBits_succ, List.reverse_append, List.reverse_singleton, List.singleton_append, valMSB, ih,
      List.length_reverse, lowBits_length, Nat.mod_pow_succ, Nat.testBit_eq_decide_div_mod_eq,
      Nat.add_comm, Nat.mul_comm]
    rcases Nat.mod_two_eq_zero_or_one (x / 2^k) with h | h <;> rw [h] <;> rfl

theorem digits_of (y : Nat) (hy : y ≠ 0) :
    ∃ ds : List Bool, ds.length = Nat.log2 y ∧ 2^ds.length + valMSB ds = y := by
  refine ⟨(lowBits (Nat.log2 y) y).reverse, by simp, ?_⟩
  have h1 := Nat.log2_self_le hy
  have h2 : y < 2^(Nat.log2 y + 1) := Nat.lt_log2_self
  rw [valMSB_lowBits, List.length_reverse, lowBits_length, Nat.mod_eq_sub_mod h1,
    Nat.mod_eq_of_lt (by rw [Nat.pow_succ] at h2; omega)]
  omega

theorem code_digits (ds : List Bool) :
    code (2^ds.length + valMSB ds - 1) = List.replicate ds.length false ++ true :: ds := by
  have hx := valMSB_lt ds
  have hpos := Nat.two_pow_pos ds.length
  have hlog : Nat.log2 (2^ds.length + valMSB ds) = ds.length :=
    log2_eq_of_bounds (Nat.le_add_right _ _) (by rw [Nat.pow_succ]; omega)
  have htop := testBit_top (b := true) hx
  have hlow := lowBits_top (b := true) (n := ds.length) (r := valMSB ds)
  rw [Bool.toNat_true, Nat.one_mul] at htop hlow
  rw [code, Nat.sub_add_cancel (by omega), hlog, lowBits_succ, List.reverse_append, htop, hlow,
    lowBits_valMSB]
  rfl

/-- one iteration of the decoder's second loop -/
def stepN (N : Nat) (a : Nat) (b : Bool) : Nat := ((a <<< 1) % 2^N) ||| (if b then 1 else 0)

theorem stepN_eq {N : Nat} (hN : 1 ≤ N) (a : Nat) (b : Bool) :
    stepN N a b = (2 * a + b.toNat) % 2^N := by
  obtain ⟨M, rfl⟩ : ∃ M, N = M + 1 := ⟨N - 1, (Nat.sub_add_cancel hN).symm⟩
  have hb : (if b then 1 else 0) = b.toNat := by cases b <;> rfl
  have hb2 : b.toNat < 2 := by cases b <;> decide
  -- the shifted word is even, so `|||` adds
  have hl : stepN (M+1) a b = a % 2^M * 2 + b.toNat := by
    rw [stepN, hb, Nat.shiftLeft_eq, mul_pow_mod hN, ← Nat.shiftLeft_eq, shl_or_eq (k := 1) hb2,
      Nat.add_sub_cancel, Nat.pow_one]
  -- modulo `2 * 2^M`: the lowest digit, and the rest modulo `2^M`
  have hr : (2 * a + b.toNat) % 2^(M+1) = a % 2^M * 2 + b.toNat := by
    rw [Nat.pow_succ', Nat.mod_mul, Nat.mul_add_mod, Nat.mod_eq_of_lt hb2,
      Nat.mul_add_div (by decide), Nat.div_eq_of_lt hb2, Nat.add_zero, Nat.mul_comm, Nat.add_comm]
  rw [hl, hr]

theorem foldl_stepN {N : Nat} (hN : 1 ≤ N) (ds : List Bool) (a : Nat) (ha : a < 2^N) :
    ds.foldl (stepN N) a = (a * 2^ds.length + valMSB ds) % 2^N := by
  induction ds generalizing a with
  | nil => simp [valMSB, Nat.mod_eq_of_lt ha]
  | cons b t ih =>
    have hlt : stepN N a b < 2^N := by
      rw [stepN_eq hN]; exact Nat.mod_lt _ (Nat.two_pow_pos N)
    rw [List.foldl_cons, ih (stepN N a b) hlt, stepN_eq hN]
    simp only [valMSB, List.length_cons]
    have e : a * 2^(t.length + 1) + (b.toNat * 2^t.length + valMSB t)
        = (2 * a + b.toNat) * 2^t.length + valMSB t := by
      rw [Nat.pow_succ, Nat.add_mul, ← Nat.add_assoc]
      congr 2
      rw [Nat.mul_comm (2^t.length) 2, ← Nat.mul_assoc, Nat.mul_comm a 2]
    rw [e, Nat.add_mod, Nat.mul_mod, Nat.mod_mod, ← Nat.mul_mod, ← Nat.add_mod]

/-- the end of `decode_symbol` after `k ≤ N` zeros, a one and the digits `ds`; the condition on
    the right is `2^k + valMSB ds ≤ 2^N` -/
theorem accept_spec {N k : Nat} (hN : 1 ≤ N) (hk : k ≤ N) {ds : List Bool} (hds : ds.length = k) :
    (if k = N ∧ ds.foldl (stepN N) 1 ≠ 0 then Except.error SymErr.invalidCodeword
      else .ok (wsub N (ds.foldl (stepN N) 1) 1)) =
    if valMSB ds = 0 ∨ k < N then .ok (2^k + valMSB ds - 1) else .error .invalidCodeword := by
  have hx := valMSB_lt ds
  have hpos := Nat.two_pow_pos k
  rw [foldl_stepN hN ds 1 (Nat.one_lt_two_pow (Nat.ne_of_gt hN)), hds, Nat.one_mul] at *
  rcases Nat.lt_or_eq_of_le hk with hlt | rfl
  · have hsum := two_pow_add_lt hx hlt
    rw [if_neg (fun h => Nat.ne_of_lt hlt h.1), if_pos (Or.inr hlt), Nat.mod_eq_of_lt hsum,
      wsub_of_le (Nat.le_add_right_of_le hpos) hsum]
  · rw [Nat.add_mod_left, Nat.mod_eq_of_lt hx]
    by_cases h0 : valMSB ds = 0
    · rw [if_neg (fun h => h.2 h0), if_pos (Or.inl h0), h0, wsub_zero_one hN, Nat.add_zero]
    · rw [if_pos ⟨rfl, h0⟩, if_neg (fun h => h.elim h0 (Nat.lt_irrefl _))]

theorem listSrc_next_nil : listSrc.next [] = (none, []) := rfl
theorem listSrc_next_cons (b : Bool) (r : List Bool) : listSrc.next (b :: r) = (some b, r) := rfl

/-- one `false` in the first loop: `len += 1` is checked `u32` arithmetic -/
theorem countZeros_false (f : Nat) (l : List Bool) (n : Nat) :
    countZeros listSrc (f + 1) (false :: l) n =
      if n + 1 < 2^32 then countZeros listSrc f l (n + 1) else .error (.overflow "eg.dec.len") := by
  rw [countZeros, listSrc_next_cons, cadd]
  by_cases h : n + 1 < 2^32
  · rw [if_pos h, if_pos h]
  · rw [if_neg h, if_neg h]

theorem countZeros_true (z f n : Nat) (r : List Bool) (hf : z < f) (hn : n + z < 2^32) :
    countZeros listSrc f (List.replicate z false ++ true :: r) n = .ok (r, some (n + z)) := by
  induction z generalizing f n with
  | zero =>
    obtain ⟨f, rfl⟩ := fuel_succ hf
    rfl
  | succ z ih =>
    obtain ⟨f, rfl⟩ := fuel_succ hf
    have hn' : n + 1 + z < 2^32 := by rw [Nat.add_right_comm]; exact hn
    rw [List.replicate_succ, List.cons_append, countZeros_false,
      if_pos (Nat.lt_of_le_of_lt (Nat.le_add_right _ z) hn'),
      ih f (n+1) (Nat.lt_of_succ_lt_succ hf) hn', Nat.add_right_comm, Nat.add_assoc]

theorem countZeros_inv (f : Nat) (l : List Bool) (n : Nat) (s : List Bool) (k : Nat)
    (h : countZeros listSrc f l n = .ok (s, some k)) :
    ∃ z, k = n + z ∧ l = List.replicate z false ++ true :: s := by
  induction l generalizing f n with
  | nil => cases f <;> cases h
  | cons b r ih =>
    cases f with
    | zero => cases h
    | succ f =>
      cases b with
      | true =>
        cases h
        exact ⟨0, rfl, rfl⟩
      | false =>
        rw [countZeros_false] at h
        by_cases h1 : n + 1 < 2^32
        · rw [if_pos h1] at h
          obtain ⟨z, hk, hl⟩ := ih f (n+1) h
          exact ⟨z + 1, by omega, by rw [hl]; rfl⟩
        · rw [if_neg h1] at h
          cases h

theorem countZeros_total (l : List Bool) (f n : Nat) (hf : l.length < f)
    (hn : n + l.length < 2^32) : ∃ s o, countZeros listSrc f l n = .ok (s, o) := by
  induction l generalizing f n with
  | nil =>
    obtain ⟨f, rfl⟩ := fuel_succ hf
    exact ⟨_, _, rfl⟩
  | cons b r ih =>
    obtain ⟨f, rfl⟩ := fuel_succ hf
    cases b with
    | true => exact ⟨_, _, rfl⟩
    | false =>
      have hn' : n + 1 + r.length < 2^32 := by rw [Nat.add_right_comm]; exact hn
      rw [countZeros_false, if_pos (Nat.lt_of_le_of_lt (Nat.le_add_right _ _) hn')]
      exact ih f (n+1) (Nat.lt_of_succ_lt_succ hf) hn'

theorem countZeros_fuel (l : List Bool) (f f' n : Nat) (h : l.length < f) (h' : l.length < f') :
    countZeros listSrc f l n = countZeros listSrc f' l n := by
  induction l generalizing f f' n with
  | nil =>
    obtain ⟨f, rfl⟩ := fuel_succ h
    obtain ⟨f', rfl⟩ := fuel_succ h'
    rfl
  | cons b t ih =>
    obtain ⟨f, rfl⟩ := fuel_succ h
    obtain ⟨f', rfl⟩ := fuel_succ h'
    cases b with
    | true => rfl
    | false =>
      rw [countZeros_false, countZeros_false,
        ih f f' (n+1) (Nat.lt_of_succ_lt_succ h) (Nat.lt_of_succ_lt_succ h')]

theorem readBits_list (N k : Nat) (l : List Bool) (a : Nat) :
    readBits listSrc N k l a =
      if k ≤ l.length then (l.drop k, some ((l.take k).foldl (stepN N) a)) else ([], none) := by
  induction k generalizing l a with
  | zero => simp [readBits]
  | succ k ih =>
    cases l with
    | nil => simp [readBits, listSrc]
    | cons b r =>
      simp only [readBits, listSrc, List.length_cons, Nat.add_le_add_iff_right, List.drop_succ_cons,
        List.take_succ_cons, List.foldl_cons]
      exact ih r (stepN N a b)

theorem decode_of_countZeros {N fuel k : Nat} {l s : List Bool}
    (h : countZeros listSrc fuel l 0 = .ok (s, some k)) :
    decode N listSrc fuel l =
      if N < k then .ok (s, .error .invalidCodeword)
      else if k ≤ s.length then
        .ok (s.drop k, if k = N ∧ (s.take k).foldl (stepN N) 1 ≠ 0 then .error .invalidCodeword
          else .ok (wsub N ((s.take k).foldl (stepN N) 1) 1))
      else .ok ([], .error .invalidCodeword) := by
  unfold decode
  rw [h]
  simp only [readBits_list]
  by_cases hkN : N < k
  · rw [if_pos hkN, if_pos hkN]
  · rw [if_neg hkN, if_neg hkN]
    by_cases hks : k ≤ s.length
    · rw [if_pos hks, if_pos hks]
      simp only []
      split <;> rfl
    · rw [if_neg hks, if_neg hks]

theorem decode_digits {N : Nat} (hN : ValidN N) (ds rest : List Bool) (hk : ds.length ≤ N)
    (fuel : Nat) (hf : ds.length < fuel) :
    decode N listSrc fuel (List.replicate ds.length false ++ true :: (ds ++ rest)) =
      .ok (rest, if valMSB ds = 0 ∨ ds.length < N then .ok (2^ds.length + valMSB ds - 1)
        else .error .invalidCodeword) := by
  have hcz := countZeros_true ds.length fuel 0 (ds ++ rest) hf
    (by rw [Nat.zero_add]; exact Nat.lt_of_le_of_lt hk hN.2)
  rw [Nat.zero_add] at hcz
  rw [decode_of_countZeros hcz, if_neg (Nat.not_lt.mpr hk), if_pos (by simp), List.drop_left,
    List.take_left, accept_spec hN.1 hk rfl]

/-- includes the maximum symbol `v = 2^N - 1`, whose increment wraps to zero in the coder -/
theorem decode_code {N v : Nat} (hN : ValidN N) (hv : v < 2^N) (rest : List Bool) (fuel : Nat)
    (hf : Nat.log2 (v+1) < fuel) :
    decode N listSrc fuel (code v ++ rest) = .ok (rest, .ok v) := by
  obtain ⟨ds, hlen, hval⟩ := digits_of (v + 1) (Nat.succ_ne_zero v)
  have hx := valMSB_lt ds
  have hcode : code v = List.replicate ds.length false ++ true :: ds := by
    rw [← code_digits, hval, Nat.add_sub_cancel]
  have hk : ds.length ≤ N := by
    apply Nat.le_of_lt_succ
    apply (Nat.pow_lt_pow_iff_right (by decide : 1 < 2)).mp
    rw [Nat.pow_succ]
    omega
  have hacc : valMSB ds = 0 ∨ ds.length < N := by
    rcases Nat.lt_or_eq_of_le hk with h | h
    · exact Or.inr h
    · rw [h] at hval; omega
  rw [hcode, List.append_assoc, List.cons_append, decode_digits hN ds rest hk fuel (hlen ▸ hf),
    if_pos hacc, hval, Nat.add_sub_cancel]

theorem decode_sound {N : Nat} (hN : ValidN N) {fuel : Nat} {l rest : List Bool} {v : Nat}
    (h : decode N listSrc fuel l = .ok (rest, .ok v)) : v < 2^N ∧ l = code v ++ rest := by
  cases hcz : countZeros listSrc fuel l 0 with
  | error e => simp [decode, hcz] at h
  | ok p =>
    obtain ⟨s, _ | k⟩ := p
    · simp [decode, hcz] at h
    · obtain ⟨z, hkz, hl⟩ := countZeros_inv fuel l 0 s k hcz
      rw [Nat.zero_add] at hkz
      subst hkz
      rw [decode_of_countZeros hcz] at h
      -- only the accepting branch returns a symbol
      by_cases hkN : N < k
      · rw [if_pos hkN] at h; cases h
      · by_cases hks : k ≤ s.length
        · have hlen : (s.take k).length = k := List.length_take_of_le hks
          have hx := valMSB_lt (s.take k)
          have hcode := code_digits (s.take k)
          rw [hlen] at hx hcode
          rw [if_neg hkN, if_pos hks, accept_spec hN.1 (Nat.le_of_not_lt hkN) hlen] at h
          by_cases hacc : valMSB (s.take k) = 0 ∨ k < N
          · rw [if_pos hacc] at h
            cases h
            refine ⟨?_, by rw [hcode, hl, List.append_assoc, List.cons_append, List.take_append_drop]⟩
            rcases hacc with h0 | hlt
            · have := pow_le_pow2 (Nat.le_of_not_lt hkN)
              have := Nat.two_pow_pos k
              omega
            · exact Nat.lt_of_le_of_lt (Nat.sub_le _ _) (two_pow_add_lt hx hlt)
          · rw [if_neg hacc] at h; cases h
        · rw [if_neg hkN, if_neg hks] at h; cases h

theorem decode_total {N : Nat} {fuel : Nat} {l : List Bool} (hf : l.length < fuel)
    (h32 : l.length < 2^32) :
    ∃ rest r, decode N listSrc fuel l = .ok (rest, r) ∧ r ≠ .error .outOfCompressedData := by
  obtain ⟨s, o, hcz⟩ := countZeros_total l fuel 0 hf (by rw [Nat.zero_add]; exact h32)
  cases o with
  | none => exact ⟨s, .error .invalidCodeword, by rw [decode, hcz], nofun⟩
  | some k =>
    rw [decode_of_countZeros hcz]
    by_cases hkN : N < k
    · rw [if_pos hkN]; exact ⟨_, _, rfl, nofun⟩
    · by_cases hks : k ≤ s.length
      · rw [if_neg hkN, if_pos hks]
        refine ⟨_, _, rfl, ?_⟩
        split <;> exact nofun
      · rw [if_neg hkN, if_neg hks]; exact ⟨_, _, rfl, nofun⟩

end CV.Bits.EG
