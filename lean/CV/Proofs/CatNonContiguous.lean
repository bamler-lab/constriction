import CV.Proofs.CatContiguous
/-!
# Symbol tables, the non-contiguous decoder model and the hash-table encoder model
-/
namespace CV.Cat
open CV

/-- the table of the specification: bin `i` labelled `lab i` -/
def specTable {Sym : Type} (lab : Nat → Sym) (ext : List Nat) : List (Sym × Nat × Nat) :=
  (List.range (ext.length - 1)).map fun i =>
    (lab i, ext.getD i 0, ext.getD (i + 1) 0 - ext.getD i 0)

theorem specTable_length {Sym : Type} (lab : Nat → Sym) (ext : List Nat) :
    (specTable lab ext).length = ext.length - 1 := by simp [specTable]

theorem specTable_getElem? {Sym : Type} (lab : Nat → Sym) (ext : List Nat) {i : Nat}
    (hi : i < ext.length - 1) :
    (specTable lab ext)[i]? = some (lab i, ext.getD i 0, ext.getD (i + 1) 0 - ext.getD i 0) := by
  simp [specTable, hi]

theorem specTable_drop {Sym : Type} (lab : Nat → Sym) (ext : List Nat) {i : Nat}
    (hi : i < ext.length - 1) :
    (specTable lab ext).drop i =
      (lab i, ext.getD i 0, ext.getD (i + 1) 0 - ext.getD i 0) :: (specTable lab ext).drop (i + 1) := by
  have hlt : i < (specTable lab ext).length := by rw [specTable_length]; exact hi
  rw [List.drop_eq_getElem_cons hlt]
  congr 1
  have := specTable_getElem? lab ext hi
  rw [List.getElem?_eq_getElem hlt] at this
  exact Option.some.inj this

def labelsOf {Sym : Type} (lab : Nat → Sym) (n : Nat) : List Sym := (List.range n).map lab

theorem labelsOf_getD {Sym : Type} [Inhabited Sym] (lab : Nat → Sym) {n i : Nat} (hi : i < n) :
    (labelsOf lab n).getD i default = lab i := by
  simp [labelsOf, List.getD_eq_getElem?_getD, hi]

theorem labelsOf_length {Sym : Type} (lab : Nat → Sym) (n : Nat) : (labelsOf lab n).length = n := by
  simp [labelsOf]

theorem labelsOf_getD_self {Sym : Type} [Inhabited Sym] (ss : List Sym) :
    labelsOf (fun i => ss.getD i default) ss.length = ss := by
  apply List.ext_getElem?
  intro i
  by_cases hi : i < ss.length
  · simp [labelsOf, hi, List.getD_eq_getElem?_getD]
  · simp [labelsOf, hi]

theorem specTable_keys {Sym : Type} (lab : Nat → Sym) (ext : List Nat) :
    (specTable lab ext).map (·.1) = labelsOf lab (ext.length - 1) := by
  simp [specTable, labelsOf, List.map_map, Function.comp_def]

theorem zip_psums {Sym : Type} [Inhabited Sym] (qs : List Nat) :
    ∀ (ss : List Sym) (acc : Nat), ss.length = qs.length →
      ss.zip ((psums acc qs).zip qs) =
        specTable (fun i => ss.getD i default) (psums acc qs ++ [acc + qs.sum]) := by
  induction qs with
  | nil =>
    intro ss acc h
    cases ss with
    | nil => rfl
    | cons _ _ => cases h
  | cons q qs ih =>
    intro ss acc h
    cases ss with
    | nil => cases h
    | cons s ss =>
      -- the boundary after the first row, whether or not it is the last one
      have hhead : (psums (acc + q) qs ++ [acc + q + qs.sum]).getD 0 0 = acc + q := by
        cases qs <;> simp [psums]
      rw [psums, List.zip_cons_cons, List.zip_cons_cons, ih ss (acc + q) (Nat.succ.inj h),
        List.sum_cons, ← Nat.add_assoc]
      unfold specTable
      simp only [List.cons_append, List.length_cons, List.length_append, psums_length,
        List.length_nil, Nat.add_sub_cancel, List.range_succ_eq_map, List.map_cons, List.map_map,
        Function.comp_def, List.getD_cons_zero, List.getD_cons_succ, hhead, Nat.add_sub_cancel_left]

theorem triples_eq_specTable {Sym : Type} [Inhabited Sym] {ss : List Sym} {qs : List Nat}
    (h : ss.length = qs.length) :
    triples ss qs = specTable (fun i => ss.getD i default) (extOf qs) := by
  have := zip_psums qs ss 0 h
  rwa [Nat.zero_add] at this

/-- `iter_extended_cdf` from position `i`: the `expect("quantization is leaky")` holds -/
theorem iterExtGo_valid {Sym : Type} [Inhabited Sym] {B P : Nat} {cdf : List (Nat × Sym)}
    (h : ValidCdf B P (cdf.map (·.1))) (hP : P ≤ B) :
    ∀ (m i : Nat), i + m + 1 = cdf.length →
      iterExtGo B (cdf.getD i default).1 (cdf.getD i default).2 (cdf.drop (i + 1)) =
        .ok ((specTable (fun j => (cdf.getD j default).2) (unwrap P (cdf.map (·.1)))).drop i) := by
  have hlen := h.length_eq
  rw [List.length_map] at hlen
  intro m
  induction m with
  | zero =>
    intro i hi
    rw [List.drop_eq_nil_of_le (by omega),
      List.drop_eq_nil_of_le (by rw [specTable_length]; omega)]
    rfl
  | succ m ih =>
    intro i hi
    have hlt : i + 1 < cdf.length := by omega
    -- `ValidCdf.prob` for a cdf that carries symbols
    obtain ⟨l, r, e1, e2, e3, e4, e5⟩ := h.prob hP (i := i) ((List.length_map _).symm ▸ hlt)
    rw [List.getElem?_map, getElem?_of_lt (d := default) (Nat.lt_of_succ_lt hlt)] at e1
    rw [List.getElem?_map, getElem?_of_lt (d := default) hlt] at e2
    simp only [Option.map_some, Option.some.injEq] at e1 e2
    rw [List.drop_eq_getElem_cons hlt, ← getD_of_lt (d := default) hlt,
      specTable_drop _ _ (hlen ▸ Nat.lt_sub_of_add_lt hlt)]
    simp only [iterExtGo]
    rw [ih (i + 1) (by omega), e2, e1, if_neg (Nat.ne_of_gt e5), e4, e3]

/-- `symbol_table()` of any cdf-with-symbols representation -/
theorem iterExtendedCdf_valid {Sym : Type} [Inhabited Sym] {B P : Nat} {cdf : List (Nat × Sym)}
    (h : ValidCdf B P (cdf.map (·.1))) (hP : P ≤ B) :
    iterExtendedCdf B cdf =
      .ok (specTable (fun i => (cdf.getD i default).2) (unwrap P (cdf.map (·.1)))) := by
  have h3 := h.three_le
  rw [List.length_map] at h3
  have := iterExtGo_valid h hP (cdf.length - 1) 0 (by omega)
  rw [List.drop_zero] at this
  rw [← this]
  cases cdf with
  | nil => simp at h3
  | cons x rest => rfl

theorem Contiguous.table_eq {B P : Nat} {m : Contiguous} (h : ValidCdf B P m.cdf) (hP : P ≤ B) :
    m.table B = .ok (specTable id (unwrap P m.cdf)) := by
  unfold Contiguous.table
  have hmap : (m.cdf.zipIdx.map (fun (c, i) => (c, i))).map (·.1) = m.cdf := by
    simp
  have h' : ValidCdf B P ((m.cdf.zipIdx.map (fun (c, i) => (c, i))).map (·.1)) := by
    rw [hmap]; exact h
  rw [iterExtendedCdf_valid h' hP, hmap]
  congr 1
  unfold specTable
  apply List.map_congr_left
  intro i hi
  simp only [List.mem_range] at hi
  have hl := h.length_eq
  have : i < m.cdf.length := by omega
  simp [List.getD_eq_getElem?_getD, this]

/-! ## `NonContiguousCategoricalDecoderModel` -/

/-- the decoder model for the table `ext` with bin `i` labelled `labels[i]`
    (the last cdf entry repeats the last label, as all constructors do) -/
def ncCdf {Sym : Type} (B P : Nat) (labels : List Sym) (ext : List Nat) (last : Sym) :
    List (Nat × Sym) :=
  ext.dropLast.zip labels ++ [(wrappingPow2 B P, last)]

theorem ncCdf_label {Sym : Type} [Inhabited Sym] {B P : Nat} {labels : List Sym} {ext : List Nat}
    {last : Sym} (hlen : labels.length + 1 = ext.length) {i : Nat} (hi : i < labels.length) :
    ((ncCdf B P labels ext last).getD i default).2 = labels.getD i default := by
  unfold ncCdf
  have hz : i < (ext.dropLast.zip labels).length := by simp; omega
  rw [List.getD_eq_getElem?_getD, List.getElem?_append_left hz]
  rw [List.getElem?_eq_getElem hz, List.getElem_zip]
  simp [List.getD_eq_getElem?_getD, hi]

theorem ncCdf_valid {Sym : Type} {B P : Nat} {labels : List Sym} {ext : List Nat} {last : Sym}
    (h : ValidExt P ext) (hlen : labels.length + 1 = ext.length) :
    ValidCdf B P ((ncCdf B P labels ext last).map (·.1)) ∧
      unwrap P ((ncCdf B P labels ext last).map (·.1)) = ext := by
  have hmap : (ncCdf B P labels ext last).map (·.1) = wrapCdf B P ext := by
    unfold ncCdf wrapCdf
    rw [List.map_append, List.map_fst_zip (by simp; omega)]
    rfl
  rw [hmap]
  exact ⟨wrapCdf_valid h, unwrap_wrapCdf h⟩

theorem NcDec.dec_clamped {Sym : Type} [Inhabited Sym] {B P : Nat} {m : NcDec Sym}
    (h : ValidCdf B P (m.cdf.map (·.1))) (hP : P ≤ B) (q : Nat) :
    m.dec B q =
      .ok ((m.cdf.getD (specIdx (unwrap P (m.cdf.map (·.1))) (min q (2 ^ P - 1))) default).2,
        (specDec (unwrap P (m.cdf.map (·.1))) (min q (2 ^ P - 1))).2) := by
  unfold NcDec.dec
  rw [cdfQuantile_clamped h hP q]
  simp only [specDec]
  have hin := (specIdx_inBin h.2 (q := min q (2 ^ P - 1)) (by have := Nat.two_pow_pos P; omega)).1
  rw [h.length_eq, List.length_map] at hin
  rw [getElem?_of_lt (d := default) (by omega)]

theorem NcDec.dec_total {Sym : Type} [Inhabited Sym] {B P : Nat} {m : NcDec Sym}
    (h : ValidCdf B P (m.cdf.map (·.1))) (hP : P ≤ B) (q : Nat) : ∃ r, m.dec B q = .ok r :=
  ⟨_, NcDec.dec_clamped h hP q⟩

theorem NcDec.dec_canon {Sym : Type} [DecidableEq Sym] [Inhabited Sym] {B P : Nat}
    {labels : List Sym} {ext : List Nat} {last : Sym}
    (h : ValidExt P ext) (hlen : labels.length + 1 = ext.length) (hP : P ≤ B) {q : Nat}
    (hq : q < 2 ^ P) :
    NcDec.dec B { cdf := ncCdf B P labels ext last } q = .ok ((labelledModel labels ext).dec q) := by
  rw [NcDec.dec_clamped (m := { cdf := ncCdf B P labels ext last }) (ncCdf_valid h hlen).1 hP q,
    Nat.min_eq_left (Nat.le_sub_one_of_lt hq)]
  simp only [(ncCdf_valid h hlen).2, labelledModel]
  rw [ncCdf_label hlen (Nat.lt_of_add_lt_add_right (hlen ▸ (specIdx_inBin h hq).1))]

theorem NcDec.table_canon {Sym : Type} [Inhabited Sym] {B P : Nat}
    {labels : List Sym} {ext : List Nat} {last : Sym}
    (h : ValidExt P ext) (hlen : labels.length + 1 = ext.length) (hP : P ≤ B) :
    NcDec.table B { cdf := ncCdf B P labels ext last } =
      .ok (specTable (fun i => labels.getD i default) ext) := by
  rw [NcDec.table, iterExtendedCdf_valid (ncCdf_valid h hlen).1 hP]
  simp only [(ncCdf_valid h hlen).2]
  congr 1
  unfold specTable
  apply List.map_congr_left
  intro i hi
  simp only [List.mem_range] at hi
  simp only [ncCdf_label (B := B) (P := P) (last := last) hlen (i := i) (by omega)]

/-- **C19 for `NonContiguousCategoricalDecoderModel::from_symbols_and_nonzero_fixed_point_
    probabilities`**: never panics; exactly as many symbols as entries (D13) -/
theorem NcDec.fromFixed_some {Sym : Type} {B P : Nat} {syms : List Sym} {probs : List Nat}
    {infer : Bool} (hP1 : 1 ≤ P) (hP : P ≤ B) (hprobs : ∀ p ∈ probs, p < 2 ^ B) :
    (NcDec.fromSymbolsAndNonzeroFixedPoint B P syms probs infer = .ok none) ∨
    ∃ m last, NcDec.fromSymbolsAndNonzeroFixedPoint B P syms probs infer = .ok (some m) ∧
      ValidProbs P (fullTable P probs infer) ∧
      syms.length = (fullTable P probs infer).length ∧
      m.cdf = ncCdf B P syms (extOf (fullTable P probs infer)) last := by
  unfold NcDec.fromSymbolsAndNonzeroFixedPoint
  cases hacc : accumulate B P (fun (cdf : List (Nat × Sym)) s left _ => some (cdf ++ [(left, s)]))
      (.list syms) probs [] infer with
  | none => left; rfl
  | some r =>
    obtain ⟨rest, cdf⟩ := r
    simp only
    obtain ⟨hv, ss, rem, e1, e2, e3, hfold⟩ := accumulate_list_some hP1 hP hprobs hacc
    generalize fullTable P probs infer = qs at hv e3 hfold ⊢
    rw [foldOp_push (fun s l _ => (l, s))] at hfold
    simp only [List.nil_append, Option.some.injEq] at hfold
    rw [← List.zip_map' (f := fun t : Sym × Nat × Nat => t.2.1) (g := fun t => t.1),
      triples_lefts e3, triples_syms e3] at hfold
    obtain ⟨c, last, hl⟩ := getLast?_zip_some (as := psums 0 qs) (bs := ss) (by simp [e3])
      (by have := hv.1; omega)
    rw [hfold] at hl
    rw [hl]
    simp only
    subst e2
    cases rem with
    | cons x rem => left; simp [SymIter.next]
    | nil =>
      right
      simp only [SymIter.next, List.append_nil] at e1 ⊢
      subst e1
      refine ⟨_, last, rfl, hv, e3, ?_⟩
      simp only [ncCdf, extOf_dropLast, ← hfold]

/-! ## `NonContiguousCategoricalEncoderModel` -/

theorem NcEnc.get_idxOf {Sym : Type} [DecidableEq Sym] (t : List (Sym × Nat × Nat)) (s : Sym) :
    NcEnc.get t s = (t[(t.map (·.1)).idxOf s]?).map (·.2) := by
  induction t with
  | nil => simp [NcEnc.get]
  | cons x t ih =>
    obtain ⟨k, v⟩ := x
    simp only [NcEnc.get, List.map_cons, List.idxOf_cons]
    by_cases hk : k = s
    · subst hk; simp
    · have : (k == s) = false := by simpa using hk
      rw [if_neg hk, this]
      simp only [cond_false, List.getElem?_cons_succ]
      exact ih

theorem NcEnc.get_none_iff {Sym : Type} [DecidableEq Sym] (t : List (Sym × Nat × Nat)) (s : Sym) :
    NcEnc.get t s = none ↔ s ∉ t.map (·.1) := by
  rw [NcEnc.get_idxOf, Option.map_eq_none_iff, List.getElem?_eq_none_iff,
    ← List.length_map (f := (·.1)), ← Nat.not_lt, List.idxOf_lt_length_iff]

/-- symbols outside the support give `None`: the lookup is by symbol value, nothing is
    narrowed (C09) -/
theorem NcEnc.get_specTable {Sym : Type} [DecidableEq Sym] [Inhabited Sym] (lab : Nat → Sym)
    (ext : List Nat) (s : Sym) :
    NcEnc.get (specTable lab ext) s = (labelledModel (labelsOf lab (ext.length - 1)) ext).enc s := by
  rw [NcEnc.get_idxOf, specTable_keys]
  simp only [labelledModel]
  by_cases hmem : s ∈ labelsOf lab (ext.length - 1)
  · rw [if_pos hmem]
    have hi : (labelsOf lab (ext.length - 1)).idxOf s < ext.length - 1 := by
      have := List.idxOf_lt_length_of_mem hmem
      simpa [labelsOf] using this
    rw [specTable_getElem? lab ext hi]
    simp only [Option.map_some, specEnc]
    rw [if_pos (by omega)]
  · rw [if_neg hmem]
    have hi : ¬ (labelsOf lab (ext.length - 1)).idxOf s < (labelsOf lab (ext.length - 1)).length := by
      intro h; exact hmem (List.idxOf_lt_length_iff.mp h)
    have hlen := labelsOf_length lab (ext.length - 1)
    rw [List.getElem?_eq_none (by rw [specTable_length]; omega)]
    rfl

theorem NcEnc.insert_fresh {Sym : Type} [DecidableEq Sym] (t : List (Sym × Nat × Nat)) (s : Sym)
    (v : Nat × Nat) (h : s ∉ t.map (·.1)) : NcEnc.insert t s v = t ++ [(s, v)] := by
  unfold NcEnc.insert
  congr 1
  rw [List.filter_eq_self]
  intro e he
  have : e.1 ≠ s := fun hh => h (by rw [← hh]; exact List.mem_map_of_mem he)
  simpa using this

/-- `collect::<HashMap>()` of a table with distinct labels keeps every row -/
theorem NcEnc.foldl_insert_nodup {Sym : Type} [DecidableEq Sym] (t t0 : List (Sym × Nat × Nat))
    (h : ((t0 ++ t).map (·.1)).Nodup) :
    t.foldl (fun t (x : Sym × Nat × Nat) => NcEnc.insert t x.1 (x.2.1, x.2.2)) t0 = t0 ++ t := by
  induction t generalizing t0 with
  | nil => simp
  | cons x t ih =>
    obtain ⟨s, l, p⟩ := x
    simp only [List.foldl_cons]
    have hfresh : s ∉ t0.map (·.1) := by
      intro hm
      rw [List.map_append, List.map_cons] at h
      have := (List.nodup_append.mp h).2.2 s hm s (by simp)
      exact this rfl
    rw [NcEnc.insert_fresh t0 s (l, p) hfresh]
    rw [ih (t0 ++ [(s, l, p)]) (by simpa using h)]
    simp

theorem NcEnc.fromTable_nodup {Sym : Type} [DecidableEq Sym] (t : List (Sym × Nat × Nat))
    (h : (t.map (·.1)).Nodup) : (NcEnc.fromTable t).tbl = t := by
  unfold NcEnc.fromTable
  have := NcEnc.foldl_insert_nodup t [] (by simpa using h)
  simpa using this

theorem NcEnc.foldOp_insertNew_iff {Sym : Type} [DecidableEq Sym]
    (t t0 tbl : List (Sym × Nat × Nat)) (h0 : (t0.map (·.1)).Nodup) :
    foldOp NcEnc.insertNew t0 t = some tbl ↔
      tbl = t0 ++ t ∧ ((t0 ++ t).map (·.1)).Nodup ∧ ∀ x ∈ t, x.2.2 ≠ 0 := by
  induction t generalizing t0 with
  | nil => simp [foldOp, h0, eq_comm]
  | cons x t ih =>
    obtain ⟨s, l, p⟩ := x
    have hcons : t0 ++ (s, l, p) :: t = t0 ++ [(s, l, p)] ++ t := by simp
    simp only [foldOp, NcEnc.insertNew]
    cases hg : NcEnc.get t0 s with
    | some v =>
      have hmem : s ∈ t0.map (·.1) := Decidable.by_contra fun h => by
        rw [(NcEnc.get_none_iff t0 s).mpr h] at hg; cases hg
      refine ⟨nofun, fun ⟨_, hnd, _⟩ => ?_⟩
      rw [List.map_append, List.map_cons] at hnd
      exact absurd rfl ((List.nodup_append.mp hnd).2.2 s hmem s List.mem_cons_self)
    | none =>
      have hfresh := (NcEnc.get_none_iff t0 s).mp hg
      have h0' : ((t0 ++ [(s, (l, p))]).map (·.1)).Nodup := by
        rw [List.map_append, List.nodup_append]
        exact ⟨h0, by simp,
          fun a ha b hb e => hfresh (by simp at hb; rw [← hb, ← e]; exact ha)⟩
      by_cases hp : p = 0
      · simp [hp]
      · rw [if_neg hp]
        simp only [ih _ h0', hcons, List.forall_mem_cons, ne_eq, hp, not_false_eq_true, true_and]

/-- **C19 for the hash-table encoder model**: as many symbols as entries (D13), pairwise
    distinct -/
theorem NcEnc.fromFixed_some {Sym : Type} [DecidableEq Sym] [Inhabited Sym] {B P : Nat}
    {syms : List Sym} {probs : List Nat} {infer : Bool} {m : NcEnc Sym}
    (hP1 : 1 ≤ P) (hP : P ≤ B) (hprobs : ∀ p ∈ probs, p < 2 ^ B)
    (h : NcEnc.fromSymbolsAndNonzeroFixedPoint B P syms probs infer = some m) :
    ValidProbs P (fullTable P probs infer) ∧ syms.length = (fullTable P probs infer).length ∧
      syms.Nodup ∧
      m.tbl = specTable (fun i => syms.getD i default) (extOf (fullTable P probs infer)) := by
  unfold NcEnc.fromSymbolsAndNonzeroFixedPoint at h
  cases hacc : accumulate B P NcEnc.insertNew (.list syms) probs [] infer with
  | none => simp [hacc] at h
  | some r =>
    obtain ⟨rest, tbl⟩ := r
    simp only [hacc] at h
    obtain ⟨hv, ss, rem, e1, e2, e3, hfold⟩ := accumulate_list_some hP1 hP hprobs hacc
    generalize fullTable P probs infer = qs at hv e3 hfold ⊢
    subst e2
    cases rem with
    | cons x rem => simp [SymIter.next] at h
    | nil =>
      simp only [SymIter.next, Option.some.injEq] at h
      simp only [List.append_nil] at e1
      subst e1
      obtain ⟨t1, t2, -⟩ := (NcEnc.foldOp_insertNew_iff _ [] tbl (by simp)).mp hfold
      simp only [List.nil_append] at t1 t2
      rw [triples_syms e3] at t2
      refine ⟨hv, e3, t2, ?_⟩
      rw [← h, t1, triples_eq_specTable e3]

theorem NcEnc.enc_of_specTable {Sym : Type} [DecidableEq Sym] [Inhabited Sym] {m : NcEnc Sym}
    {syms : List Sym} {ext : List Nat} (hlen : syms.length + 1 = ext.length)
    (h : m.tbl = specTable (fun i => syms.getD i default) ext) (s : Sym) :
    m.enc s = (labelledModel syms ext).enc s := by
  unfold NcEnc.enc
  rw [h, NcEnc.get_specTable]
  have : ext.length - 1 = syms.length := by omega
  rw [this, labelsOf_getD_self]

/-! ### `from_iterable_entropy_model` of the decoder model (with the D32 validation) -/

theorem dropLast_getElem_eq' {ext : List Nat} {j : Nat} (hj : j < ext.dropLast.length) :
    ext.dropLast[j] = ext.getD j 0 := by
  have hj' : j < ext.length := by simp at hj; omega
  rw [List.getElem_dropLast, getD_of_lt hj']

def cdfRows {Sym : Type} (lab : Nat → Sym) (ext : List Nat) : List (Nat × Sym) :=
  ext.dropLast.zip (labelsOf lab (ext.length - 1))

theorem cdfRows_length {Sym : Type} (lab : Nat → Sym) (ext : List Nat) :
    (cdfRows lab ext).length = ext.length - 1 := by
  rw [cdfRows, List.length_zip, List.length_dropLast, labelsOf_length, Nat.min_self]

theorem cdfRows_drop {Sym : Type} (lab : Nat → Sym) (ext : List Nat) {i : Nat}
    (hi : i < ext.length - 1) :
    (cdfRows lab ext).drop i = (ext.getD i 0, lab i) :: (cdfRows lab ext).drop (i + 1) := by
  rw [List.drop_eq_getElem_cons (by rw [cdfRows_length]; exact hi)]
  congr 1
  simp only [cdfRows, labelsOf, List.getElem_zip, List.getElem_map, List.getElem_range,
    dropLast_getElem_eq']

/-- the two tests on `probability - 1` against `total - 1 - left`, without the `- 1`s -/
theorem row_fits {p T l : Nat} (hp : 0 < p) (hl : l < T) :
    (p - 1 ≤ T - 1 - l ↔ l + p ≤ T) ∧ (p - 1 = T - 1 - l ↔ l + p = T) := by omega

theorem fromTableCheck_cons_ok {Sym : Type} {B P : Nat} (hP : P ≤ B) {s : Sym} {l p e : Nat}
    {rest : List (Sym × Nat × Nat)} {cdf : List (Nat × Sym)} {r : Bool × List (Nat × Sym)}
    (hp : 0 < p) (he : e < 2 ^ P) :
    NcDec.fromTableCheck B (2 ^ P - 1) ((s, l, p) :: rest) e false cdf = .ok r ↔
      l = e ∧ l + p ≤ 2 ^ P ∧
        NcDec.fromTableCheck B (2 ^ P - 1) rest (wadd B l p) (decide (l + p = 2 ^ P))
          (cdf ++ [(l, s)]) = .ok r := by
  simp only [NcDec.fromTableCheck, Bool.false_eq_true, false_or]
  by_cases hl : l = e
  · subst hl
    obtain ⟨hle, heq⟩ := row_fits hp he
    rw [if_neg (by simp), csub_ok hp]
    simp only
    rw [wsub_of_le (Nat.le_sub_one_of_lt he) (Nat.lt_of_lt_of_le
      (Nat.sub_lt (Nat.two_pow_pos P) Nat.one_pos) (pow_le_pow2 hP))]
    have hb : (p - 1 == 2 ^ P - 1 - l) = decide (l + p = 2 ^ P) := by
      rw [Bool.eq_iff_iff, beq_iff_eq, decide_eq_true_iff, heq]
    by_cases hfit : l + p ≤ 2 ^ P
    · rw [if_neg (not_not_intro (hle.mpr hfit)), hb]
      simp [hfit]
    · rw [if_pos (mt hle.mp hfit)]
      simp [hfit]
  · rw [if_pos hl]
    simp [hl]

/-- from row `i` on; `expected` is not looked at once `complete` is set -/
theorem fromTableCheck_specTable {Sym : Type} {B P : Nat} {ext : List Nat} (h : ValidExt P ext)
    (hP : P ≤ B) (lab : Nat → Sym) :
    ∀ (m i e : Nat) (cdf : List (Nat × Sym)), i + m + 1 = ext.length →
      (ext.getD i 0 < 2 ^ P → e = ext.getD i 0) →
      NcDec.fromTableCheck B (2 ^ P - 1) ((specTable lab ext).drop i) e
          (decide (ext.getD i 0 = 2 ^ P)) cdf = .ok (true, cdf ++ (cdfRows lab ext).drop i) := by
  have hPB := pow_le_pow2 hP
  intro m
  induction m with
  | zero =>
    intro i e cdf hi _
    have hl : ext.length - 1 = i := Nat.sub_eq_of_eq_add hi.symm
    rw [List.drop_eq_nil_of_le (by rw [specTable_length, hl]; exact Nat.le_refl i),
      List.drop_eq_nil_of_le (by rw [cdfRows_length, hl]; exact Nat.le_refl i),
      decide_eq_true (by rw [← hl]; exact h.2.2.1), List.append_nil]
    rfl
  | succ m ih =>
    intro i e cdf hi he
    have hi1 : i + 1 < ext.length := by omega
    obtain ⟨b1, b2, _⟩ := h.bin hi1
    have hin := h.inner_lt hi1
    have hw := Nat.add_sub_cancel' (Nat.le_of_lt b1)
    rw [he hin, decide_eq_false (Nat.ne_of_lt hin),
      specTable_drop lab ext (Nat.lt_sub_of_add_lt hi1)]
    refine (fromTableCheck_cons_ok hP (Nat.sub_pos_of_lt b1) hin).mpr
      ⟨rfl, Nat.le_trans (Nat.le_of_eq hw) b2, ?_⟩
    rw [hw, cdfRows_drop lab ext (Nat.lt_sub_of_add_lt hi1), ih (i + 1) _ _ (by omega)
      (fun hlt => by
        rw [wadd_of_lt (Nat.lt_of_le_of_lt (Nat.le_of_eq hw) (Nat.lt_of_lt_of_le hlt hPB)), hw])]
    simp

/-- `to_generic_decoder_model` / `from_iterable_entropy_model` on the specification's table -/
theorem NcDec.fromTable_specTable {Sym : Type} {B P : Nat} (lab : Nat → Sym) {ext : List Nat}
    (h : ValidExt P ext) (hP1 : 1 ≤ P) (hP : P ≤ B) :
    ∃ last, NcDec.fromTable B P (specTable lab ext) =
      .ok { cdf := ncCdf B P (labelsOf lab (ext.length - 1)) ext last } := by
  have h3 := h.1
  unfold NcDec.fromTable
  have hc := fromTableCheck_specTable (B := B) h hP lab (ext.length - 1) 0 0 [] (by omega)
    (fun _ => h.2.1.symm)
  rw [List.drop_zero, h.2.1, decide_eq_false (Nat.ne_of_lt (Nat.two_pow_pos P))] at hc
  rw [wsub_total_one hP1 hP, hc]
  simp only [List.nil_append, cdfRows]
  obtain ⟨c, last, hl⟩ := getLast?_zip_some (as := ext.dropLast)
    (bs := labelsOf lab (ext.length - 1)) (by rw [List.length_dropLast, labelsOf_length])
    (by rw [labelsOf_length]; omega)
  exact ⟨last, by simp [hl, ncCdf]⟩

end CV.Cat
