import CV.Proofs.ChainHist
import CV.Proofs.ChainLocal
import CV.Model.TableModel
/-!
# Chain coder: concrete instances (non-vacuity of the hypotheses of the property theorems)
-/
namespace CV.Chain

section
variable {a b q : Nat}

theorem two_find_lo (hq : q < a) : tableFind [0, a, b] q = 0 := by
  show ([a, b].takeWhile _).length = 0
  rw [List.takeWhile_cons_of_neg (by simpa using hq)]; rfl

theorem two_find_hi (h1 : a ≤ q) (h2 : q < b) : tableFind [0, a, b] q = 1 := by
  show ([a, b].takeWhile _).length = 1
  rw [List.takeWhile_cons_of_pos (by simpa using h1),
    List.takeWhile_cons_of_neg (by simpa using h2)]; rfl

end

/-- a two-symbol table model `[0, a, 2^P]` is well-formed; with `a = 1` it has a symbol of one
    quantum and one of `2^P - 1` quanta -/
theorem wf_two {P a : Nat} (h1 : 0 < a) (h2 : a < 2^P) : (tableModel [0, a, 2^P]).WellFormed P := by
  have e0 : (tableModel [0, a, 2^P]).enc 0 = some (0, a) := by
    show (if 0 < a then some (0, a - 0) else none) = _
    rw [if_pos h1]; rfl
  have e1 : (tableModel [0, a, 2^P]).enc 1 = some (a, 2^P - a) := by
    show (if a < 2^P then some (a, 2^P - a) else none) = _
    rw [if_pos h2]
  have dlo : ∀ q, q < a → (tableModel [0, a, 2^P]).dec q = (0, 0, a) := fun q hq => by
    show (tableFind [0, a, 2^P] q, _, _) = _
    rw [two_find_lo hq]; rfl
  have dhi : ∀ q, a ≤ q → q < 2^P → (tableModel [0, a, 2^P]).dec q = (1, a, 2^P - a) :=
    fun q hq hq2 => by
    show (tableFind [0, a, 2^P] q, _, _) = _
    rw [two_find_hi hq hq2]; rfl
  constructor
  · intro s cum p hs
    match s with
    | 0 =>
      rw [e0] at hs; cases hs
      exact ⟨h1, by omega, h2, fun q _ hq => dlo q (by omega)⟩
    | 1 =>
      rw [e1] at hs; cases hs
      exact ⟨by omega, by omega, by omega, fun q hq1 hq2 => dhi q hq1 (by omega)⟩
    | n + 2 => cases hs
  · intro q hq
    by_cases hlo : q < a
    · rw [dlo q hlo]; exact ⟨e0, Nat.zero_le _, by show q < 0 + a; omega⟩
    · rw [dhi q (by omega) hq]; exact ⟨e1, by show a ≤ q; omega, by show q < a + (2^P - a); omega⟩

def exCfg : Cfg := { W := 8, S := 16, P := 3, B := 8 }
/-- top of stack first; contains a zero word -/
def exData : List Nat := [0xa5, 0x00, 0x3c, 0xff, 0x00, 0x81, 0x17]
def exSteps : List (Step Nat) :=
  [.dec 8 (tableModel [0, 1, 8]), .dec 8 (tableModel [0, 1, 8]), .prec 5,
   .dec 8 (tableModel [0, 31, 32]), .dec 8 (tableModel [0, 31, 32]), .prec 2,
   .dec 8 (tableModel [0, 1, 4]), .dec 8 (tableModel [0, 3, 4]), .prec 8,
   .dec 8 (tableModel [0, 255, 256])]

theorem exCfg_valid : exCfg.Valid := by decide
theorem exCfg_prec : PrecOk exCfg.W exCfg.S exCfg.P := by decide
theorem exData_words : Words exCfg.W exData := by
  intro w hw; simp [exData] at hw; rcases hw with rfl | rfl | rfl | rfl | rfl | rfl | rfl <;> decide

theorem exSteps_ok : StepsOk exCfg exSteps := by
  refine ⟨by decide, wf_two (by decide) (by decide), by decide, wf_two (by decide) (by decide),
    by decide, by decide, wf_two (P := 5) (by decide) (by decide), by decide,
    wf_two (P := 5) (by decide) (by decide), by decide, by decide,
    wf_two (P := 2) (by decide) (by decide), by decide, wf_two (P := 2) (by decide) (by decide),
    by decide, by decide, wf_two (P := 8) (by decide) (by decide), trivial⟩

/-- the example schedule runs to completion on the example data (precision 3 → 5 → 2 → 8) -/
theorem exRun_binary : ∃ x0 log c' y, fromBinary exCfg exData = some x0 ∧
    runDec exCfg exSteps x0 = some (log, c', y) ∧ c'.P = 8 ∧ log.length = 10 :=
  ⟨_, _, _, _, rfl, rfl, rfl, rfl⟩

theorem exRun_compressed : ∃ x0 log c' y, fromCompressed exCfg exData = some x0 ∧
    runDec exCfg exSteps x0 = some (log, c', y) ∧ c'.P = 8 :=
  ⟨_, _, _, _, rfl, rfl, rfl⟩

/-- a coder on both thresholds: compressed head exactly `2^P`, remainders head exactly
    `2^(S-W-P)` -/
def exCoder : Coder :=
  { compressed := [0x12, 0x00], remainders := [0x34], heads := { compressed := 8, remainders := 32 } }

theorem exCoder_inv : Inv exCfg exCoder := by
  refine ⟨⟨by decide, by decide, by decide, by decide⟩, ?_, ?_⟩
  · intro w hw; simp [exCoder] at hw; rcases hw with rfl | rfl <;> decide
  · intro w hw; simp [exCoder] at hw; subst hw; decide

end CV.Chain
