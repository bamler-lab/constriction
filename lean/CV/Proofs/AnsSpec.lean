import CV.Spec.RansSpec
import CV.Proofs.AnsExport
/-!
# The Impl model of the ANS coder produces exactly the words of the reference rANS spec
-/
namespace CV.Ans
open CV

theorem digits_eq_chunksLE {W : Nat} (hW : 0 < W) :
    ∀ (fuel x : Nat), x < 2^fuel → RansSpec.digits W fuel x = chunksLE W x := by
  intro fuel
  induction fuel with
  | zero =>
    intro x hx
    obtain rfl : x = 0 := by omega
    exact (chunksLE_zero hW).symm
  | succ fuel ih =>
    intro x hx
    rcases Nat.eq_zero_or_pos x with h | h
    · subst h; exact (chunksLE_zero hW).symm
    · rw [RansSpec.digits, if_neg (Nat.ne_of_gt h), chunksLE_rec hW h]
      -- a chunk is at least one bit
      have : x / 2^W ≤ x / 2^1 := Nat.div_le_div_left (pow_le_pow2 hW) (Nat.two_pow_pos _)
      exact congrArg _ (ih _ (by omega))

variable {c : Cfg}

def Mirrors (st : RansSpec.St) (x : Coder) : Prop := st.emitted = x.bulk.reverse ∧ st.x = x.state

/-- the `while` loop of the specification runs at most once on an invariant state,
    which is what the implementation's single `if` relies on -/
theorem renorm_eq (hc : c.Valid) {x : Coder} (hx : Inv c x) {p : Nat} (hp : 0 < p)
    (hp1 : p ≤ 2^c.P) {st : RansSpec.St} (hm : Mirrors st x) (fuel : Nat) :
    Mirrors (RansSpec.renorm c.W c.S c.P p (fuel + 2) st) (afterFlush c x p) := by
  obtain ⟨hm1, hm2⟩ := hm
  have hlt := (flush_norm hc hx hp hp1).1
  unfold afterFlush at hlt ⊢
  by_cases hf : flushCond c x p
  · have hf' : p * 2^(c.S - c.P) ≤ x.state := hf
    simp only [if_pos hf] at hlt ⊢
    simp only [RansSpec.renorm, hm2, if_pos hf', if_neg (Nat.not_le_of_lt hlt)]
    exact ⟨by simp [hm1], rfl⟩
  · have hf' : ¬ p * 2^(c.S - c.P) ≤ x.state := hf
    simp only [if_neg hf, RansSpec.renorm, hm2, if_neg hf']
    exact ⟨hm1, hm2⟩

theorem push_mirrors (hc : c.Valid) {x : Coder} (hx : Inv c x) {cum p : Nat} (hp : 0 < p)
    (hp1 : p ≤ 2^c.P) {st : RansSpec.St} (hm : Mirrors st x) :
    Mirrors (RansSpec.push c.W c.S st (c.P, cum, p)) (encArith c x cum p) := by
  have hfuel : c.S / c.W + 1 = (c.S / c.W - 1) + 2 :=
    congrArg (· + 1) (Nat.sub_add_cancel (Nat.div_pos hc.W_le_S hc.W_pos)).symm
  unfold RansSpec.push
  simp only
  rw [hfuel]
  obtain ⟨h1, h2⟩ := renorm_eq hc hx hp hp1 hm (c.S / c.W - 1)
  exact ⟨h1, by simp only [encArith, h2, Nat.add_assoc]⟩

end CV.Ans
