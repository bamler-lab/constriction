import CV.Proofs.RangeMsg
/-!
# Suffix immunity, non-empty sinks, messages stored back to back (C11)

`D3Safe c st`: if sealing `st` emits two words (point word + zero word), the interval's upper
end is at least `2^(S-2W)` above the chosen point.  Under this condition — always true when
`S = 2W`, and trivially true when only one word is emitted — the sealed words followed by
*any* words still lie in the final interval, so decoding is unaffected.  For `S > 2W` the
condition can fail (defect D3): see `Properties/C11_range.lean` for the counterexample.
-/
namespace CV.Range
variable {c : Cfg} {Sym : Type}
open RangeSpec (St step run)

def D3Safe (c : Cfg) (st : St) : Prop :=
  (st.Lo + st.R) / 2^(c.S - c.W) % 2^c.W = sealY c st % 2^c.W →
    sealY c st * 2^(c.S - c.W) + 2^(c.S - 2 * c.W) ≤ st.Lo + st.R

theorem suffix_contains (hc : RValid c) {st : St} (hI : SpecInv c st)
    {suffix : List Nat} (hs : WordsOK c suffix) (hsafe : D3Safe c st) :
    Contains c st (RangeSpec.sealWords c.W c.S st ++ suffix) := by
  have hN := hc.two_le_nW
  have hU := Nat.two_pow_pos (c.S - c.W)
  have hlo := (seal_contains hc hI).1.1
  rw [seal_pre hc hI] at hlo
  unfold Contains
  -- split the stream after the `m + 1` point digits
  rw [sealWords_spec_eq, List.append_assoc, show st.m + nW c = (st.m + 1) + (nW c - 1) by omega,
    pre_digits_append c.W (sealY_lt hc hI), hc.pow_nW_pred]
  split
  · next heq =>
    -- two seal words: the suffix starts `2W` bits below the point
    have h3 : pre c.W suffix (nW c - 2) < 2^(c.S - 2 * c.W) := by
      rw [← hc.pow_nW_pred2]; exact pre_lt hs _
    rw [show nW c - 1 = (nW c - 2) + 1 by omega, List.singleton_append, pre_cons, Nat.zero_mul,
      Nat.zero_add]
    exact ⟨Nat.le_trans hlo (Nat.le_add_right _ _),
      Nat.lt_of_lt_of_le (Nat.add_lt_add_left h3 _) (hsafe heq)⟩
  · next hne =>
    -- one seal word: the next word boundary is inside the interval
    have h3 : pre c.W suffix (nW c - 1) < 2^(c.S - c.W) := by
      rw [← hc.pow_nW_pred]; exact pre_lt hs _
    have hZ : sealY c st ≤ (st.Lo + st.R) / 2^(c.S - c.W) :=
      Nat.div_le_div_right (Nat.le_trans (Nat.sub_le _ 1) (Nat.add_le_add_left hI.1 _))
    have hZ1 : sealY c st + 1 ≤ (st.Lo + st.R) / 2^(c.S - c.W) :=
      Nat.lt_of_le_of_ne hZ (fun h => hne (by rw [h]))
    have h4 := Nat.le_trans (Nat.mul_le_mul_right _ hZ1) (Nat.div_mul_le_self _ _)
    rw [Nat.add_mul, Nat.one_mul] at h4
    rw [List.nil_append]
    exact ⟨Nat.le_trans hlo (Nat.le_add_right _ _),
      Nat.lt_of_lt_of_le (Nat.add_lt_add_left h3 _) h4⟩

theorem d3Safe_of_2W (hc : RValid c) (h2 : c.S = 2 * c.W) {st : St}
    (hI : SpecInv c st) : D3Safe c st := by
  intro _
  have hhi := (seal_contains hc hI).1.2
  rw [seal_pre hc hI] at hhi
  rw [show c.S - 2 * c.W = 0 by omega]
  exact hhi

theorem decode_words_suffix (hc : RValid c) (msg : List (MStep Sym))
    (hv : ∀ x ∈ msg, x.Valid c)
    (hsafe : D3Safe c (run c.W c.S (RangeSpec.init c.S) (msg.map MStep.spec)))
    (suffix : List Nat) (hs : WordsOK c suffix) :
    ∃ d0 d, Decoder.fromCompressed c (RangeSpec.words c.W c.S (msg.map MStep.spec) ++ suffix)
        = .ok d0 ∧
      decodeMsg c d0 msg = .ok (msg.map (·.sym), d) := by
  have hwok : WordsOK c (RangeSpec.words c.W c.S (msg.map MStep.spec) ++ suffix) :=
    (words_spec_wordsOK c _).append hs
  obtain ⟨d0, hd0, hrel0⟩ := fromCompressed_eq hc hwok
  cases msg with
  | nil => exact ⟨d0, d0, hd0, rfl⟩
  | cons x xs =>
    have hcont := suffix_contains hc (specInv_run _ _ (specInv_init hc) hv) hs hsafe
    obtain ⟨d, hd, _⟩ := decodeMsg_ok hwok (x :: xs) _ d0 (specInv_init hc) hv hcont hrel0
    exact ⟨d0, d, hd0, hd⟩

/-- under `D3Safe` of the final reference state, the sealed words followed by an arbitrary suffix
    decode to exactly the message -/
theorem suffix_immune_of_safe (hc : RValid c) (msg : List (MStep Sym))
    (hn : MsgFits c msg.length) (hv : ∀ x ∈ msg, x.Valid c)
    (hsafe : D3Safe c (run c.W c.S (RangeSpec.init c.S) (msg.map MStep.spec)))
    (suffix : List Nat) (hs : WordsOK c suffix) :
    ∃ e ws d0 d, encodeMsg c (Encoder.empty c) msg = .ok e ∧
      intoCompressed c e = .ok ws ∧
      Decoder.fromCompressed c (ws ++ suffix) = .ok d0 ∧
      decodeMsg c d0 msg = .ok (msg.map (·.sym), d) := by
  obtain ⟨e, he, _, _, hws⟩ := words_eq_spec hc msg hn hv
  obtain ⟨d0, d, hd0, hd⟩ := decode_words_suffix hc msg hv hsafe suffix hs
  exact ⟨e, _, d0, d, he, hws, hd0, hd⟩

theorem suffix_immune_2W {Sym : Type} {c : Cfg} (hc : RValid c) (h2 : c.S = 2 * c.W)
    (msg : List (MStep Sym)) (hn : MsgFits c msg.length) (hv : ∀ x ∈ msg, x.Valid c)
    (suffix : List Nat) (hs : WordsOK c suffix) :
    ∃ e ws d0 d, encodeMsg c (Encoder.empty c) msg = .ok e ∧
      intoCompressed c e = .ok ws ∧
      Decoder.fromCompressed c (ws ++ suffix) = .ok d0 ∧
      decodeMsg c d0 msg = .ok (msg.map (·.sym), d) :=
  suffix_immune_of_safe hc msg hn hv
    (d3Safe_of_2W hc h2 (specInv_run _ _ (specInv_init hc) hv)) suffix hs

/-! ### the reference coder behind a prefix -/

/-- the reference state `st` seen behind `k` words of value `V`: the same interval, moved up by
    `V` at the scale of `st` -/
def shiftSt (c : Cfg) (V k : Nat) (st : St) : St :=
  { Lo := V * ((2^c.W)^st.m * 2^c.S) + st.Lo, R := st.R, m := k + st.m }

theorem absE_withBackend (c : Cfg) (ws0 : List Nat) :
    absE c (Encoder.withBackend c ws0)
      = shiftSt c (val c.W ws0) ws0.length (RangeSpec.init c.S) := by
  show (⟨val c.W (ws0 ++ []) * 2^c.S + 0, maxState c, ws0.length + 0⟩ : St)
    = ⟨val c.W ws0 * ((2^c.W)^0 * 2^c.S) + 0, 2^c.S - 1, ws0.length + 0⟩
  rw [List.append_nil, Nat.pow_zero, Nat.one_mul]
  rfl

theorem step_shift (c : Cfg) (V k : Nat) (st : St) (P cum p : Nat) :
    step c.W c.S (shiftSt c V k st) P cum p = shiftSt c V k (step c.W c.S st P cum p) := by
  unfold step shiftSt
  dsimp only
  split
  · dsimp only
    rw [Nat.add_assoc, Nat.add_mul, Nat.pow_succ, Nat.mul_assoc V, Nat.mul_right_comm _ (2^c.S),
      Nat.add_assoc]
  · dsimp only
    rw [Nat.add_assoc]

theorem run_shift (c : Cfg) (V k : Nat) : ∀ (l : List (Nat × Nat × Nat)) (st : St),
    run c.W c.S (shiftSt c V k st) l = shiftSt c V k (run c.W c.S st l)
  | [], _ => rfl
  | (P, cum, p) :: l, st => by
    simp only [run, step_shift]
    exact run_shift c V k l _

theorem specInv_shift {V k : Nat} (hV : V < (2^c.W)^k) {st : St} (hI : SpecInv c st) :
    SpecInv c (shiftSt c V k st) := by
  refine ⟨hI.1, hI.2.1, ?_⟩
  have h1 := Nat.mul_le_mul_right ((2^c.W)^st.m * 2^c.S) (Nat.succ_le_of_lt hV)
  rw [Nat.succ_mul] at h1
  show V * ((2^c.W)^st.m * 2^c.S) + st.Lo + st.R ≤ (2^c.W)^(k + st.m) * 2^c.S
  rw [Nat.pow_add, Nat.mul_assoc, Nat.add_assoc]
  exact Nat.le_trans (Nat.add_le_add_left hI.2.2 _) h1

theorem contains_shift (hc : RValid c) (ws1 ws : List Nat) (st : St) :
    Contains c (shiftSt c (val c.W ws1) ws1.length st) (ws1 ++ ws) ↔ Contains c st ws := by
  have hpre : pre c.W (ws1 ++ ws) (ws1.length + st.m + nW c)
      = val c.W ws1 * ((2^c.W)^st.m * 2^c.S) + pre c.W ws (st.m + nW c) := by
    rw [Nat.add_assoc, pre_drop, pre_append_left _ _ _ _ (Nat.le_refl _), pre_length,
      List.drop_left, Nat.pow_add, hc.pow_nW]
  unfold Contains shiftSt
  dsimp only
  rw [hpre, Nat.add_assoc, Nat.add_le_add_iff_left, Nat.add_lt_add_iff_left]

theorem sealWords_shift (hc : RValid c) {ws1 : List Nat} (hw1 : WordsOK c ws1)
    {st : St} (hI : SpecInv c st) :
    RangeSpec.sealWords c.W c.S (shiftSt c (val c.W ws1) ws1.length st)
      = ws1 ++ RangeSpec.sealWords c.W c.S st := by
  have hU := Nat.two_pow_pos (c.S - c.W)
  -- the point index is the old one behind the digits `ws1`, and likewise the upper end's
  have hmove : val c.W ws1 * ((2^c.W)^st.m * 2^c.S)
      = 2^(c.S - c.W) * (val c.W ws1 * (2^c.W)^(st.m + 1)) := by
    rw [hc.pow_S, Nat.pow_succ]; ac_rfl
  have hY : sealY c (shiftSt c (val c.W ws1) ws1.length st)
      = val c.W ws1 * (2^c.W)^(st.m + 1) + sealY c st := by
    unfold sealY shiftSt
    dsimp only
    rw [hmove, Nat.add_assoc, Nat.add_sub_assoc (Nat.le_trans hU (Nat.le_add_left _ _)),
      Nat.mul_add_div hU]
  have hup : ((shiftSt c (val c.W ws1) ws1.length st).Lo + st.R) / 2^(c.S - c.W)
      = val c.W ws1 * (2^c.W)^(st.m + 1) + (st.Lo + st.R) / 2^(c.S - c.W) := by
    unfold shiftSt
    dsimp only
    rw [hmove, Nat.add_assoc, Nat.mul_add_div hU]
  have hmod : ∀ x, (val c.W ws1 * (2^c.W)^(st.m + 1) + x) % 2^c.W = x % 2^c.W := by
    intro x
    rw [Nat.pow_succ, ← Nat.mul_assoc, Nat.add_comm, Nat.add_mul_mod_self_right]
  have hdig : RangeSpec.digits c.W (ws1.length + st.m + 1)
      (val c.W ws1 * (2^c.W)^(st.m + 1) + sealY c st)
      = ws1 ++ RangeSpec.digits c.W (st.m + 1) (sealY c st) := by
    have h := digits_val (ws1 ++ RangeSpec.digits c.W (st.m + 1) (sealY c st))
      (hw1.append (digits_wordsOK c _ _))
    rwa [val_append, val_digits, length_digits, Nat.mod_eq_of_lt (sealY_lt hc hI),
      List.length_append, length_digits, ← Nat.add_assoc] at h
  rw [sealWords_spec_eq, sealWords_spec_eq, hY, show (shiftSt c (val c.W ws1) ws1.length st).R = st.R
    from rfl, hup, hmod, hmod, show (shiftSt c (val c.W ws1) ws1.length st).m = ws1.length + st.m
    from rfl, hdig, List.append_assoc]

end CV.Range
