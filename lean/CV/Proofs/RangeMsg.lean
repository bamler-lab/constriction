import CV.Proofs.RangeSeal
import CV.Proofs.RangeRoundtrip
/-!
# Whole messages

Encoding a message never faults, keeps the invariant and refines the reference run, so the sealed
words are the reference's (C06); decoding a stream that lies in the final interval of the run
returns the message; decoding arbitrary words returns in-support symbols or `InvalidData` (C10).
`decode_sealed` is the common core of the round trip (C02) and of random access (C07): a decoder
that stands at any reference state on the way decodes the rest.
-/
namespace CV.Range
variable {c : Cfg} {Sym : Type}
open RangeSpec (St step run)

/-- `encode_symbols`: one `encode_symbol` per step -/
def encodeMsg {Sym : Type} (c : Cfg) : Encoder → List (MStep Sym) → Except EncErr Encoder
  | e, [] => .ok e
  | e, x :: xs =>
    match encode (cfgAt c x.B x.P) x.model x.sym e with
    | .ok e' => encodeMsg c e' xs
    | .error err => .error err

/-- `decode_symbols`: one `decode_symbol` per step -/
def decodeMsg {Sym : Type} (c : Cfg) : Decoder → List (MStep Sym) →
    Except DecErr (List Sym × Decoder)
  | d, [] => .ok ([], d)
  | d, x :: xs =>
    match decode (cfgAt c x.B x.P) x.model d with
    | .error err => .error err
    | .ok (s, d') =>
      match decodeMsg c d' xs with
      | .error err => .error err
      | .ok (ss, d'') => .ok (s :: ss, d'')

/-- the message is short enough for the `usize` counters:
    `Word::BITS · (n + 2) < 2^usize::BITS` (`n` symbols need at most `n + 2` words) -/
def MsgFits (c : Cfg) (n : Nat) : Prop := c.W * (n + 2) < 2^usizeBits

instance (c : Cfg) (n : Nat) : Decidable (MsgFits c n) := by
  unfold MsgFits; exact inferInstance

theorem fits_withBackend {n : Nat} {ws : List Nat} (h : MsgFits c (ws.length + n)) :
    Fits c (Encoder.withBackend c ws) n := by
  unfold Fits MsgFits at *
  simpa [Encoder.withBackend, Situation.held, Nat.add_assoc] using h

theorem fits_empty {n : Nat} (h : MsgFits c n) : Fits c (Encoder.empty c) n :=
  fits_withBackend (ws := []) (by rwa [List.length_nil, Nat.zero_add])

theorem inv_cfgAt {c : Cfg} {e : Encoder} (B P : Nat) : Inv (cfgAt c B P) e ↔ Inv c e := Iff.rfl

theorem absE_cfgAt {c : Cfg} {e : Encoder} (B P : Nat) : absE (cfgAt c B P) e = absE c e := rfl

/-- one valid step: encoded without a fault, invariant kept, one unit of head-room used, one step
    of the reference; and `range` has left `State::max_value()`, which `seal`, `is_empty` and
    `maybe_exhausted` take as "nothing encoded" -/
theorem MStep.Valid.encode_step {x : MStep Sym} (hx : x.Valid c) {e : Encoder} (hI : Inv c e)
    {k : Nat} (hf : Fits c e (k + 1)) :
    ∃ e', encode (cfgAt c x.B x.P) x.model x.sym e = .ok e' ∧ Inv c e' ∧ Fits c e' k ∧
      absE c e' = step c.W c.S (absE c e) x.P x.cp.1 x.cp.2 ∧ e'.range ≠ maxState c := by
  obtain ⟨hp, hcp, hp2⟩ := hx.cp_ok
  have h := encPure_spec (c := cfgAt c x.B x.P) hx.1 hI hp hcp
  have hR := step_R_lt (c := cfgAt c x.B x.P) hx.1 (st := absE (cfgAt c x.B x.P) e) hI.2.2.1
    hI.2.2.2.1 (cum := x.cp.1) hp2
  rw [← h.2] at hR
  exact ⟨_, encode_eq_pure (c := cfgAt c x.B x.P) hx.1 hx.2.1 hI (hf.mono (Nat.le_add_left _ _))
    hx.enc_eq, h.1, encPure_fits (c := cfgAt c x.B x.P) hx.1 hI hp hcp hf, h.2, Nat.ne_of_lt hR⟩

theorem encodeMsg_ok (k : Nat) : ∀ (msg : List (MStep Sym)) (e : Encoder),
    Inv c e → Fits c e (msg.length + k) → (∀ x ∈ msg, x.Valid c) →
    ∃ e', encodeMsg c e msg = .ok e' ∧ Inv c e' ∧ Fits c e' k ∧
      absE c e' = run c.W c.S (absE c e) (msg.map MStep.spec) ∧
      (msg ≠ [] ∨ e.range ≠ maxState c → e'.range ≠ maxState c)
  | [], e, hI, hf, _ =>
    ⟨e, rfl, hI, by rwa [List.length_nil, Nat.zero_add] at hf, rfl,
      fun h => h.elim (fun h => absurd rfl h) id⟩
  | x :: xs, e, hI, hf, hv => by
    obtain ⟨hx, hv'⟩ := List.forall_mem_cons.mp hv
    rw [List.length_cons, Nat.add_right_comm] at hf
    obtain ⟨e1, he1, hI2, hf2, habs, hne⟩ := hx.encode_step hI hf
    obtain ⟨e', he', hI3, hf3, habs3, hne3⟩ := encodeMsg_ok k xs e1 hI2 hf2 hv'
    refine ⟨e', ?_, hI3, hf3, ?_, fun _ => hne3 (.inr hne)⟩
    · simp only [encodeMsg, he1]; exact he'
    · rw [habs3, habs]; rfl

theorem words_eq_spec (hc : RValid c) (msg : List (MStep Sym))
    (hn : MsgFits c msg.length) (hv : ∀ x ∈ msg, x.Valid c) :
    ∃ e, encodeMsg c (Encoder.empty c) msg = .ok e ∧ Inv c e ∧ Fits c e 0 ∧
      intoCompressed c e = .ok (RangeSpec.words c.W c.S (msg.map MStep.spec)) := by
  obtain ⟨e, he, hI, hf, habs, hne⟩ :=
    encodeMsg_ok 0 msg (Encoder.empty c) (inv_empty hc) (fits_empty hn) hv
  refine ⟨e, he, hI, hf, ?_⟩
  rw [intoCompressed_eq hc hI]
  cases msg with
  | nil =>
    cases he
    simp [RangeSpec.words, sealP, Encoder.empty]
  | cons x xs =>
    rw [seal_conforms hc hI (hne (.inl (List.cons_ne_nil _ _))), habs, absE_empty]
    rfl

theorem decodeMsg_ok {ws : List Nat} (hw : WordsOK c ws) :
    ∀ (msg : List (MStep Sym)) (st : St) (d : Decoder),
    SpecInv c st → (∀ x ∈ msg, x.Valid c) →
    Contains c (run c.W c.S st (msg.map MStep.spec)) ws → DRel c st ws d →
    ∃ d', decodeMsg c d msg = .ok (msg.map (·.sym), d') ∧
      DRel c (run c.W c.S st (msg.map MStep.spec)) ws d'
  | [], _, d, _, _, _, hrel => ⟨d, rfl, hrel⟩
  | x :: xs, st, d, hI, hv, hcont, hrel => by
    obtain ⟨hx, hv'⟩ := List.forall_mem_cons.mp hv
    have hI2 := hx.specInv hI
    -- the stream lies in every interval on the way
    have hcont1 := contains_of_run hw xs _ hI2 hv' hcont
    obtain ⟨d1, hd1, hrel1⟩ := dec_step (c := cfgAt c x.B x.P) hx.1 hx.2.1 hx.enc_eq hI hw hcont1
      (hrel.congr rfl rfl)
    obtain ⟨d', hd', hrel2⟩ := decodeMsg_ok hw xs _ d1 hI2 hv' hcont (hrel1.congr rfl rfl)
    exact ⟨d', by simp only [decodeMsg, hd1, hd', List.map_cons], hrel2⟩

/-- every decoded symbol belongs to the support of the model it was decoded with -/
def InSupport {Sym : Type} : List Sym → List (MStep Sym) → Prop
  | [], [] => True
  | s :: ss, x :: xs => (x.model.enc s).isSome ∧ InSupport ss xs
  | _, _ => False

theorem decodeMsg_total : ∀ (msg : List (MStep Sym)) (d : Decoder),
    DReg c d → (∀ x ∈ msg, x.DecValid c) →
    (∃ ss d', decodeMsg c d msg = .ok (ss, d') ∧ DReg c d' ∧ InSupport ss msg) ∨
    decodeMsg c d msg = .error .invalidData
  | [], d, hI, _ => .inl ⟨[], d, rfl, hI, trivial⟩
  | x :: xs, d, hI, hv => by
    obtain ⟨hx, hv'⟩ := List.forall_mem_cons.mp hv
    rcases decode_total (c := cfgAt c x.B x.P) hx.1 hx.2 hI with
      ⟨herr, _⟩ | ⟨s, d', hok, hinv, hsup, _⟩
    · right; simp only [decodeMsg, herr]
    · rcases decodeMsg_total xs d' hinv.1 hv' with ⟨ss, d'', hok2, hreg2, hsup2⟩ | herr2
      · exact .inl ⟨s :: ss, d'', by simp only [decodeMsg, hok, hok2], hreg2, hsup, hsup2⟩
      · right; simp only [decodeMsg, hok, herr2]

theorem decode_sealed (hc : RValid c) {st : St} (hI : SpecInv c st)
    (post : List (MStep Sym)) (hv : ∀ x ∈ post, x.Valid c) {d : Decoder}
    (hrel : DRel c st
      (RangeSpec.sealWords c.W c.S (run c.W c.S st (post.map MStep.spec))) d) :
    ∃ d', decodeMsg c d post = .ok (post.map (·.sym), d') ∧ d'.maybeExhausted c = .ok true := by
  have hIn := specInv_run post st hI hv
  obtain ⟨hcont, hnear⟩ := seal_contains hc hIn
  obtain ⟨d', hd', hrel'⟩ :=
    decodeMsg_ok (sealWords_spec_wordsOK c _) post st d hI hv hcont hrel
  refine ⟨d', hd', exhausted_of_rel hc hrel' hIn hcont hnear ?_⟩
  have := (sealWords_spec_length c (run c.W c.S st (post.map MStep.spec))).2
  have := hc.two_le_nW
  omega

theorem roundtrip {Sym : Type} {c : Cfg} (hc : RValid c) (msg : List (MStep Sym))
    (hn : MsgFits c msg.length) (hv : ∀ x ∈ msg, x.Valid c) :
    ∃ e ws d0 d, encodeMsg c (Encoder.empty c) msg = .ok e ∧
      intoCompressed c e = .ok ws ∧
      Decoder.fromCompressed c ws = .ok d0 ∧
      decodeMsg c d0 msg = .ok (msg.map (·.sym), d) ∧
      d.maybeExhausted c = .ok true ∧
      (msg = [] → ws = []) := by
  obtain ⟨e, he, _, _, hws⟩ := words_eq_spec hc msg hn hv
  obtain ⟨d0, hd0, hrel0⟩ := fromCompressed_eq hc (words_spec_wordsOK c (msg.map MStep.spec))
  cases msg with
  | nil => exact ⟨e, _, d0, d0, he, hws, hd0, rfl, exhausted_init hc hrel0, fun _ => rfl⟩
  | cons x xs =>
    obtain ⟨d, hd, hex⟩ := decode_sealed hc (specInv_init hc) (x :: xs) hv hrel0
    exact ⟨e, _, d0, d, he, hws, hd0, hd, hex, fun h => by cases h⟩

end CV.Range
