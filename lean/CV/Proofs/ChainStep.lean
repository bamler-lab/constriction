import CV.Proofs.ChainArith
/-!
# Chain coder: single steps

Each primitive of the model (`takeChunk`, `putChunk`, `absorb`, `release`) gets a few plain
equations in `* / % +`; the step theorems are arithmetic on those.  Inverses are stated framed:
for every content of the stacks below.
-/
namespace CV.Chain

/-- What the crate's static assertions (`PRECISION > 0`, `PRECISION <= Word::BITS`,
    `State::BITS >= Word::BITS + PRECISION`) and trait bounds (`Probability: Into<Word>`,
    entropy models with `PRECISION <= Probability::BITS`) allow for a chain coder.
    Weaker than `Cfg.Valid`. -/
def CValid (c : Cfg) : Prop := 1 ≤ c.P ∧ c.P ≤ c.B ∧ c.B ≤ c.W ∧ c.W + c.P ≤ c.S

theorem CValid.of_valid {c : Cfg} (h : c.Valid) : CValid c := by
  obtain ⟨h1, h2, h3, h4⟩ := h
  refine ⟨h1, h2, h3, ?_⟩; omega

instance (c : Cfg) : Decidable (CValid c) := by unfold CValid; exact inferInstance

/-- the static assertions on the coder's own parameters (no entropy model involved):
    what `from_binary`, `change_precision::<q>`, … require of a precision `q` -/
def PrecOk (W S q : Nat) : Prop := 1 ≤ q ∧ q ≤ W ∧ W + q ≤ S

instance (W S q : Nat) : Decidable (PrecOk W S q) := by unfold PrecOk; exact inferInstance

theorem CValid.precOk {c : Cfg} (h : CValid c) : PrecOk c.W c.S c.P := by
  obtain ⟨h1, h2, h3, h4⟩ := h
  exact ⟨h1, by omega, h4⟩

theorem PrecOk.window {W S q : Nat} (h : PrecOk W S q) : 2^(S - q) = 2^(S - W - q) * 2^W := by
  rw [← Nat.pow_add, Nat.sub_right_comm, Nat.sub_add_cancel (Nat.le_sub_of_add_le h.2.2)]

/-- why `probability << (State::BITS - Word::BITS - PRECISION)` stays inside the window -/
theorem PrecOk.prob_le {W S q p : Nat} (h : PrecOk W S q) (hp : p ≤ 2^q) :
    p * 2^(S - W - q) ≤ 2^(S - q) := by
  rw [h.window, Nat.mul_comm]
  exact Nat.mul_le_mul_left _ (Nat.le_trans hp (pow_le_pow2 h.2.1))

/-- why `remainders * probability + remainder` does not overflow -/
theorem PrecOk.prob_top {W S q p : Nat} (h : PrecOk W S q) (hp : p ≤ 2^q) :
    2^(S - q) * p ≤ 2^S := by
  rw [pow_split (Nat.le_of_add_left_le h.2.2)]; exact Nat.mul_le_mul_left _ hp

theorem PrecOk.W_pos {W S q : Nat} (h : PrecOk W S q) : 1 ≤ W := Nat.le_trans h.1 h.2.1

theorem PrecOk.thr {W S q : Nat} (h : PrecOk W S q) : shlT S 1 (S - W - q) = 2^(S - W - q) := by
  obtain ⟨_, _, _⟩ := h
  exact shlT_one (by omega)

theorem Inv.rem_ne_zero {c : Cfg} {x : Coder} (h : Inv c x) : x.heads.remainders ≠ 0 :=
  Nat.ne_of_gt (Nat.lt_of_lt_of_le (Nat.two_pow_pos _) h.1.2.2.1)

theorem Words.tail {W : Nat} {w : Nat} {l : List Nat} (h : Words W (w :: l)) : Words W l :=
  fun x hx => h x (List.mem_cons_of_mem _ hx)

theorem Words.head {W : Nat} {w : Nat} {l : List Nat} (h : Words W (w :: l)) : w < 2^W :=
  h w (List.mem_cons_self)

theorem Words.cons {W : Nat} {w : Nat} {l : List Nat} (hw : w < 2^W) (h : Words W l) :
    Words W (w :: l) := by
  intro x hx
  rcases List.mem_cons.mp hx with rfl | hx
  · exact hw
  · exact h x hx

theorem Words.nil {W : Nat} : Words W [] := fun _ h => by simp at h

theorem Words.append {W : Nat} {a b : List Nat} (ha : Words W a) (hb : Words W b) :
    Words W (a ++ b) := by
  intro x hx
  rcases List.mem_append.mp hx with h | h
  · exact ha x h
  · exact hb x h

theorem Words.left {W : Nat} {a b : List Nat} (h : Words W (a ++ b)) : Words W a :=
  fun x hx => h x (List.mem_append_left _ hx)

theorem Words.right {W : Nat} {a b : List Nat} (h : Words W (a ++ b)) : Words W b :=
  fun x hx => h x (List.mem_append_right _ hx)

theorem Words.drop {W : Nat} {l : List Nat} (h : Words W l) (n : Nat) : Words W (l.drop n) :=
  fun w hw => h w (List.mem_of_mem_drop hw)

/-! ## the bit buffer `(heads.compressed, compressed)`

With `1 ≤ hc < 2^W` there are two moves in each direction, decided by the number of leftover
bits in the head: `takeChunk` *reads* a word if `hc < 2^P` and serves the chunk from the
*buffered* bits otherwise; `putChunk` *appends* to the head if `hc < 2^(W-P)` and *emits* a word
otherwise.  `PRECISION == Word::BITS`, which the code treats separately, is the instance
`W - P = 0` of the same formulas (always read, always emit).  The chunk is `word % 2^P`. -/

/-- `.as_()` loses nothing since `P ≤ B` -/
theorem quantileOf_eq {c : Cfg} (hv : CValid c) {word : Nat} (hw : word < 2^c.W) :
    quantileOf c word = word % 2^c.P := by
  obtain ⟨_, hPB, hBW, _⟩ := hv
  have hlt : word % 2^c.P < 2^c.B :=
    Nat.lt_of_lt_of_le (Nat.mod_lt _ (Nat.two_pow_pos _)) (pow_le_pow2 hPB)
  rw [← narrow_of_lt hlt]
  unfold quantileOf
  by_cases hPW : c.P = c.W
  · rw [if_pos hPW, hPW, Nat.mod_eq_of_lt hw]
  · rw [if_neg hPW, shlT_one (show c.P < c.W by omega)]

section takeChunk
variable {c : Cfg} {hc : Nat}

theorem takeChunk_aligned (hEq : c.P = c.W) (hc : Nat) :
    takeChunk c hc [] = .error .outOfData ∧
    ∀ w r, takeChunk c hc (w :: r) = .ok (w, hc, r) := by
  simp [takeChunk, hEq]

/-- a `w ≥ 2^W` only occurs in the safety theorems, which need no more than the `ok` -/
theorem takeChunk_read (hPW : c.P ≤ c.W) (h1 : 1 ≤ hc) (hlow : hc < 2^c.P) :
    takeChunk c hc [] = .error .outOfData ∧
    ∀ w r, ∃ hc', takeChunk c hc (w :: r) = .ok (w, hc', r) ∧
      (w < 2^c.W → hc' = hc * 2^(c.W - c.P) + w / 2^c.P) := by
  by_cases hEq : c.P = c.W
  · refine ⟨(takeChunk_aligned hEq hc).1, fun w r =>
      ⟨hc, (takeChunk_aligned hEq hc).2 w r, fun hw => ?_⟩⟩
    rw [hEq, Nat.sub_self, Nat.div_eq_of_lt hw, Nat.pow_zero, Nat.mul_one, Nat.add_zero]
  · have hlt : c.P < c.W := by omega
    have hnt : hc * 2^(c.W - c.P) < 2^c.W := by
      rw [pow_split hPW, Nat.mul_comm (2^(c.W - c.P))]
      exact Nat.mul_lt_mul_of_pos_right hlow (Nat.two_pow_pos _)
    have hpos : 1 ≤ hc * 2^(c.W - c.P) := Nat.mul_pos h1 (Nat.two_pow_pos _)
    have h0 : ∀ w, hc * 2^(c.W - c.P) ||| w / 2^c.P ≠ 0 := fun w h => by
      have := (Nat.or_eq_zero_iff.mp h).1; omega
    refine ⟨by simp [takeChunk, hEq, shlT_one hlt, hlow], fun w r =>
      ⟨hc * 2^(c.W - c.P) ||| w / 2^c.P, ?_, fun hw => ?_⟩⟩
    · simp [takeChunk, hEq, shlT_one hlt, hlow, shlT_of_lt hnt, shr_eq, h0]
    · exact or_eq_add (div_pow_lt hPW hw)

theorem takeChunk_buffered (h2 : hc < 2^c.W) (hge : 2^c.P ≤ hc) (comp : List Nat) :
    takeChunk c hc comp = .ok (hc, hc / 2^c.P, comp) := by
  have hlt : c.P < c.W := lt_of_pow_le_lt hge h2
  have hne : c.P ≠ c.W := by omega
  have hlow : ¬ hc < 2^c.P := by omega
  have h0 : hc / 2^c.P ≠ 0 := by
    have := (Nat.one_le_div_iff (Nat.two_pow_pos c.P)).mpr hge; omega
  simp [takeChunk, hne, shlT_one hlt, hlow, shr_eq, h0]

end takeChunk

section putChunk
variable {c : Cfg} {hc : Nat}

theorem putChunk_append (hP1 : 1 ≤ c.P) (hPW : c.P ≤ c.W) (h1 : 1 ≤ hc) (hs : hc < 2^(c.W - c.P))
    (comp : List Nat) (q : Nat) :
    putChunk c hc comp q = .ok (hc * 2^c.P ||| q, comp) := by
  have hne : c.P ≠ c.W := fun h => by rw [h, Nat.sub_self] at hs; omega
  have hnt : hc * 2^c.P < 2^c.W := by
    rw [pow_split hPW]; exact Nat.mul_lt_mul_of_pos_right hs (Nat.two_pow_pos _)
  have hpos : 1 ≤ hc * 2^c.P := Nat.mul_pos h1 (Nat.two_pow_pos _)
  have h0 : hc * 2^c.P ||| q ≠ 0 := fun h => by have := (Nat.or_eq_zero_iff.mp h).1; omega
  simp [putChunk, hne, shlT_one (show c.W - c.P < c.W by omega), hs, shlT_of_lt hnt, h0]

theorem putChunk_emit (hP1 : 1 ≤ c.P) (hPW : c.P ≤ c.W) (hge : 2^(c.W - c.P) ≤ hc)
    (comp : List Nat) (q : Nat) :
    putChunk c hc comp q =
      .ok (hc / 2^(c.W - c.P), (hc % 2^(c.W - c.P) * 2^c.P ||| q) :: comp) := by
  by_cases hEq : c.P = c.W
  · simp [putChunk, hEq, Nat.mod_one]
  · have hs : ¬ hc < 2^(c.W - c.P) := by omega
    have h0 : hc / 2^(c.W - c.P) ≠ 0 := by
      have := (Nat.one_le_div_iff (Nat.two_pow_pos (c.W - c.P))).mpr hge; omega
    simp [putChunk, hEq, shlT_one (show c.W - c.P < c.W by omega), hs, shlT_eq,
      mul_pow_mod hPW, shr_eq, h0]

end putChunk

theorem takeChunk_spec {c : Cfg} (hP1 : 1 ≤ c.P) (hPW : c.P ≤ c.W) {hc : Nat} {comp : List Nat}
    (h1 : 1 ≤ hc) (h2 : hc < 2^c.W) (hw : Words c.W comp) :
    (takeChunk c hc comp = .error .outOfData ∧ comp = [] ∧ hc < 2^c.P) ∨
    ∃ word hc' comp', takeChunk c hc comp = .ok (word, hc', comp') ∧
      1 ≤ hc' ∧ hc' < 2^c.W ∧ word < 2^c.W ∧ Words c.W comp' ∧
      ∃ D, comp = D ++ comp' ∧
        ∀ K, putChunk c hc' K (word % 2^c.P) = .ok (hc, D ++ K) := by
  have hA := Nat.two_pow_pos c.P
  by_cases hlow : hc < 2^c.P
  · cases comp with
    | nil => exact .inl ⟨(takeChunk_read hPW h1 hlow).1, rfl, hlow⟩
    | cons w r =>
      -- the new head `hc * 2^(W-P) + w / 2^P` is full: `putChunk` emits `w` again
      obtain ⟨_, htk, hv⟩ := (takeChunk_read hPW h1 hlow).2 w r
      cases hv hw.head
      have hdiv : w / 2^c.P < 2^(c.W - c.P) := div_pow_lt hPW hw.head
      have hlo : 2^(c.W - c.P) ≤ hc * 2^(c.W - c.P) + w / 2^c.P := le_mul_add_of_pos h1 _ _
      refine .inr ⟨w, _, r, htk, Nat.le_trans (Nat.two_pow_pos _) hlo, ?_, hw.head, hw.tail, [w], rfl,
        fun K => ?_⟩
      · rw [pow_split hPW, Nat.mul_comm (2^(c.W - c.P))]; exact mul_add_lt_mul hlow hdiv
      · rw [putChunk_emit hP1 hPW hlo, mul_add_div_of_lt hdiv, mul_add_mod_of_lt hdiv,
          or_eq_add (Nat.mod_lt _ hA), div_mul_add_mod]; rfl
  · -- the new head `hc / 2^P` has room for the `P` bits taken out
    have hge : 2^c.P ≤ hc := Nat.le_of_not_lt hlow
    have hv1 : 1 ≤ hc / 2^c.P := (Nat.one_le_div_iff hA).mpr hge
    have hv2 : hc / 2^c.P < 2^(c.W - c.P) := div_pow_lt hPW h2
    refine .inr ⟨hc, _, comp, takeChunk_buffered h2 hge comp, hv1,
      Nat.lt_of_le_of_lt (Nat.div_le_self _ _) h2, h2, hw, [], rfl, fun K => ?_⟩
    rw [putChunk_append hP1 hPW hv1 hv2, or_eq_add (Nat.mod_lt _ hA), div_mul_add_mod]; rfl

theorem putChunk_spec {c : Cfg} (hP1 : 1 ≤ c.P) (hPW : c.P ≤ c.W) {hc q : Nat} {comp : List Nat}
    (h1 : 1 ≤ hc) (h2 : hc < 2^c.W) (hq : q < 2^c.P) (hw : Words c.W comp) :
    ∃ hc' comp' word, putChunk c hc comp q = .ok (hc', comp') ∧
      1 ≤ hc' ∧ hc' < 2^c.W ∧ Words c.W comp' ∧ word < 2^c.W ∧
      takeChunk c hc' comp' = .ok (word, hc, comp) ∧ word % 2^c.P = q := by
  have hB := Nat.two_pow_pos (c.W - c.P)
  by_cases hs : hc < 2^(c.W - c.P)
  · -- appended to the head, which then holds at least `P` bits
    have hlo : 2^c.P ≤ hc * 2^c.P + q := le_mul_add_of_pos h1 _ _
    have hhi : hc * 2^c.P + q < 2^c.W := by rw [pow_split hPW]; exact mul_add_lt_mul hs hq
    refine ⟨_, comp, hc * 2^c.P + q, ?_, Nat.le_trans (Nat.two_pow_pos _) hlo, hhi, hw, hhi, ?_,
      mul_add_mod_of_lt hq⟩
    · rw [putChunk_append hP1 hPW h1 hs, or_eq_add hq]
    · rw [takeChunk_buffered hhi hlo, mul_add_div_of_lt hq]
  · -- a word is emitted, the head is left with fewer than `P` bits
    have hge : 2^(c.W - c.P) ≤ hc := Nat.le_of_not_lt hs
    have hv1 : 1 ≤ hc / 2^(c.W - c.P) := (Nat.one_le_div_iff hB).mpr hge
    have hv2 : hc / 2^(c.W - c.P) < 2^c.P := by
      have := div_pow_lt (Nat.sub_le c.W c.P) h2
      rwa [Nat.sub_sub_self hPW] at this
    have hm := Nat.mod_lt hc hB
    have hwd : hc % 2^(c.W - c.P) * 2^c.P + q < 2^c.W := by
      rw [pow_split hPW]; exact mul_add_lt_mul hm hq
    obtain ⟨_, htk, hv⟩ := (takeChunk_read hPW hv1 hv2).2 (hc % 2^(c.W - c.P) * 2^c.P + q) comp
    cases hv hwd
    refine ⟨_, _, hc % 2^(c.W - c.P) * 2^c.P + q, ?_, hv1,
      Nat.lt_of_le_of_lt (Nat.div_le_self _ _) h2, .cons hwd hw, hwd, ?_, mul_add_mod_of_lt hq⟩
    · rw [putChunk_emit hP1 hPW hge, or_eq_add hq]
    · rw [htk, mul_add_div_of_lt hq, div_mul_add_mod]

/-! ## the remainders head: flush and refill

Every operation on the remainders side ends with `if head >= H { flush }` (`decode_symbol`,
`increase_precision`) or starts with `if head < L { refill }` (`encode_symbol`,
`decrease_precision`).  The two undo each other whatever the thresholds are, as long as the
head moves between windows that span one word each. -/

def flushIf (c : Cfg) (H : Nat) (s : Nat × List Nat) : Nat × List Nat :=
  if H ≤ s.1 then flushHead c s.1 s.2 else s

def refillIf (c : Cfg) (L : Nat) (s : Nat × List Nat) : Option (Nat × List Nat) :=
  if s.1 < L then refillHead c s.1 s.2 else some s

theorem flushHead_eq (c : Cfg) (r : Nat) (l : List Nat) :
    flushHead c r l = (r / 2^c.W, r % 2^c.W :: l) := by
  simp [flushHead, shr_eq, narrow]

theorem refillHead_cons {c : Cfg} {hr w : Nat} (h : hr * 2^c.W < 2^c.S) (hw : w < 2^c.W)
    (l : List Nat) : refillHead c hr (w :: l) = some (hr * 2^c.W + w, l) := by
  simp [refillHead, shlT_or h hw]

theorem flushed_bounds {lo hi q r : Nat} (hq : 0 < q) (h1 : lo * q ≤ r) (h2 : r < hi * q) :
    lo ≤ r / q ∧ r / q < hi :=
  ⟨(Nat.le_div_iff_mul_le hq).mpr h1, (Nat.div_lt_iff_lt_mul hq).mpr h2⟩

theorem flushIf_spec {c : Cfg} {lo H L R : Nat} {rems : List Nat} (hH : H = lo * 2^c.W)
    (hS : R < 2^c.S) (hLR : L ≤ R) (hRL : R < L * 2^c.W) (hlo : lo ≤ L) (hLH : L ≤ H)
    (hw : Words c.W rems) :
    ∃ hr' rems', flushIf c H (R, rems) = (hr', rems') ∧ lo ≤ hr' ∧ hr' < H ∧ Words c.W rems' ∧
      ∀ T, refillIf c L (hr', rems' ++ T) = some (R, rems ++ T) := by
  have hW0 := Nat.two_pow_pos c.W
  by_cases hfl : H ≤ R
  · obtain ⟨h1, h2⟩ := flushed_bounds hW0 (hH ▸ hfl) hRL
    refine ⟨_, _, by rw [flushIf, if_pos hfl, flushHead_eq], h1, Nat.lt_of_lt_of_le h2 hLH,
      .cons (Nat.mod_lt _ hW0) hw, fun T => ?_⟩
    rw [refillIf, if_pos h2, List.cons_append, refillHead_cons
      (Nat.lt_of_le_of_lt (Nat.div_mul_le_self _ _) hS) (Nat.mod_lt _ hW0), div_mul_add_mod]
  · exact ⟨R, rems, by rw [flushIf, if_neg hfl], Nat.le_trans hlo hLR, Nat.not_le.mp hfl, hw,
      fun T => by rw [refillIf, if_neg (Nat.not_lt.mpr hLR)]⟩

theorem refillIf_spec {c : Cfg} {lo H L hr : Nat} {rems : List Nat} (hH : H = lo * 2^c.W)
    (hlo : lo ≤ hr) (hhi : hr < H) (hloL : lo ≤ L) (hLH : L ≤ H) (hS : L * 2^c.W ≤ 2^c.S)
    (hw : Words c.W rems) :
    (refillIf c L (hr, rems) = none ∧ rems = [] ∧ hr < L) ∨
    ∃ R rems', refillIf c L (hr, rems) = some (R, rems') ∧ L ≤ R ∧ R < L * 2^c.W ∧
      Words c.W rems' ∧ ∀ T, flushIf c H (R, rems' ++ T) = (hr, rems ++ T) := by
  by_cases hre : hr < L
  · cases rems with
    | nil => exact .inl ⟨by rw [refillIf, if_pos hre]; rfl, rfl, hre⟩
    | cons w rest =>
      have hR : H ≤ hr * 2^c.W + w := hH ▸ le_mul_add hlo _ _
      have hup : hr * 2^c.W + w < L * 2^c.W := mul_add_lt_mul hre hw.head
      refine .inr ⟨_, rest, ?_, Nat.le_trans hLH hR, hup, hw.tail, fun T => ?_⟩
      · rw [refillIf, if_pos hre, refillHead_cons (Nat.lt_of_le_of_lt (Nat.le_add_right _ w)
          (Nat.lt_of_lt_of_le hup hS)) hw.head]
      · rw [flushIf, if_pos hR, flushHead_eq, mul_add_div_of_lt hw.head,
          mul_add_mod_of_lt hw.head]; rfl
  · refine .inr ⟨hr, rems, by rw [refillIf, if_neg hre], Nat.le_of_not_lt hre, ?_, hw,
      fun T => by rw [flushIf, if_neg (Nat.not_le.mpr hhi)]⟩
    exact Nat.lt_of_lt_of_le hhi (hH ▸ Nat.mul_le_mul_right _ hloL)

section absorb
variable {c : Cfg} {hr p : Nat}

theorem absorb_eq (hv : PrecOk c.W c.S c.P) {r : Nat} (hRS : hr * p + r < 2^c.S)
    (rems : List Nat) :
    absorb c hr rems p r = .ok (flushIf c (2^(c.S - c.P)) (hr * p + r, rems)) := by
  obtain ⟨hP1, _, hS⟩ := hv
  have hmul : hr * p < 2^c.S := Nat.lt_of_le_of_lt (Nat.le_add_right _ _) hRS
  simp only [absorb, cmul, cadd, hmul, hRS, if_true, shlT_one (show c.S - c.P < c.S by omega),
    flushIf]
  split <;> rfl

theorem release_eq (hv : PrecOk c.W c.S c.P) (hp : p ≤ 2^c.P) (rems : List Nat) :
    release c hr rems p =
      match refillIf c (p * 2^(c.S - c.W - c.P)) (hr, rems) with
      | none => .error .outOfRemainders
      | some (R, rems') => .ok (R % p, R / p, rems') := by
  have : shlT c.S p (c.S - c.W - c.P) = p * 2^(c.S - c.W - c.P) := by
    apply shlT_of_lt
    calc p * 2^(c.S - c.W - c.P) ≤ 2^(c.S - c.P) := hv.prob_le hp
      _ < 2^c.S := pow_lt_pow2 (by obtain ⟨_, _, _⟩ := hv; omega)
  rw [release, this]; rfl

end absorb

theorem absorb_ok {c : Cfg} (hv : PrecOk c.W c.S c.P) {hr p r : Nat} {rems : List Nat}
    (hlo : 2^(c.S - c.W - c.P) ≤ hr) (hhi : hr < 2^(c.S - c.P))
    (hp0 : 0 < p) (hp : p ≤ 2^c.P) (hrp : r < p) (hw : Words c.W rems) :
    ∃ hr' rems', absorb c hr rems p r = .ok (hr', rems') ∧
      2^(c.S - c.W - c.P) ≤ hr' ∧ hr' < 2^(c.S - c.P) ∧ Words c.W rems' ∧
      ∀ T, release c hr' (rems' ++ T) p = .ok (r, hr, rems ++ T) := by
  -- `R = hr * p + r` lies in the window `[p * 2^k, p * 2^k * 2^W)`, `2^k` the lower bound of the head
  have hR1 : p * 2^(c.S - c.W - c.P) ≤ hr * p + r := by
    rw [Nat.mul_comm p]; exact le_mul_add hlo p r
  have hR2 : hr * p + r < p * 2^(c.S - c.W - c.P) * 2^c.W := by
    rw [Nat.mul_assoc, ← hv.window, Nat.mul_comm p]; exact mul_add_lt_mul hhi hrp
  have hRS := Nat.lt_of_lt_of_le (mul_add_lt_mul hhi hrp) (hv.prob_top hp)
  obtain ⟨hr', rems', hfl, h1, h2, hw', hback⟩ := flushIf_spec hv.window hRS hR1 hR2
    (Nat.le_mul_of_pos_left _ hp0) (hv.prob_le hp) hw
  refine ⟨hr', rems', by rw [absorb_eq hv hRS, hfl], h1, h2, hw', fun T => ?_⟩
  rw [release_eq hv hp, hback T]
  simp only [mul_add_mod_of_lt hrp, mul_add_div_of_lt hrp]

theorem release_ok {c : Cfg} (hv : PrecOk c.W c.S c.P) {hr p : Nat} {rems : List Nat}
    (hlo : 2^(c.S - c.W - c.P) ≤ hr) (hhi : hr < 2^(c.S - c.P))
    (hp0 : 0 < p) (hp : p ≤ 2^c.P) (hw : Words c.W rems) :
    (release c hr rems p = .error .outOfRemainders ∧ rems = [] ∧
        hr < p * 2^(c.S - c.W - c.P)) ∨
    ∃ r hr' rems', release c hr rems p = .ok (r, hr', rems') ∧ r < p ∧
      2^(c.S - c.W - c.P) ≤ hr' ∧ hr' < 2^(c.S - c.P) ∧ Words c.W rems' ∧
      absorb c hr' rems' p r = .ok (hr, rems) := by
  have hwin : p * 2^(c.S - c.W - c.P) * 2^c.W = 2^(c.S - c.P) * p := by
    rw [Nat.mul_assoc, ← hv.window, Nat.mul_comm]
  rw [release_eq hv hp]
  rcases refillIf_spec hv.window hlo hhi (Nat.le_mul_of_pos_left _ hp0) (hv.prob_le hp)
      (hwin ▸ hv.prob_top hp) hw with ⟨hn, hnil, hlt⟩ | ⟨R, rems', hre, hLR, hRL, hw', hback⟩
  · exact .inl ⟨by rw [hn], hnil, hlt⟩
  · -- `R / p` is in the window again, and `absorb` computes `R / p * p + R % p = R`
    rw [hwin] at hRL
    obtain ⟨hd1, hd2⟩ := flushed_bounds hp0 (Nat.mul_comm p _ ▸ hLR) hRL
    refine .inr ⟨_, _, rems', by rw [hre], Nat.mod_lt R hp0, hd1, hd2, hw', ?_⟩
    have := hback []
    rw [List.append_nil, List.append_nil] at this
    rw [absorb_eq hv (by rw [div_mul_add_mod]; exact Nat.lt_of_lt_of_le hRL (hv.prob_top hp)),
      div_mul_add_mod, this]

theorem release_error {c : Cfg} {hr p : Nat} {rems : List Nat} {e : EncErr}
    (h : release c hr rems p = .error e) : e = .outOfRemainders := by
  unfold release at h
  dsimp only at h
  split at h
  · injection h with h; exact h.symm
  · cases h

theorem encodeCP_ne_impossible (c : Cfg) (x : Coder) (cum p : Nat) :
    encodeCP c x cum p ≠ .error .impossible := by
  intro h
  unfold encodeCP at h
  split at h
  · cases h
  · split at h
    · next hrel => cases release_error hrel; cases h
    · dsimp only at h
      split at h
      · cases h
      · split at h <;> cases h

/-! ## `decode_symbol` and `encode_symbol` under the invariant -/

section
variable {Sym : Type} {c : Cfg} {m : Model Sym} {x : Coder} {s : Sym} {cum p : Nat}

theorem decode_of_halves {word hc' hr' : Nat} {comp' rems' : List Nat}
    (htk : takeChunk c x.heads.compressed x.compressed = .ok (word, hc', comp'))
    (hdec : m.dec (quantileOf c word) = (s, cum, p)) (hp : p ≠ 0) (hle : cum ≤ quantileOf c word)
    (habs : absorb c x.heads.remainders x.remainders p (quantileOf c word - cum) = .ok (hr', rems')) :
    decode c m x = .ok (s, ⟨comp', rems', ⟨hc', hr'⟩⟩) := by
  simp [decode, htk, hdec, hp, csub, hle, habs]

theorem encode_of_halves {r hc' hr' : Nat} {comp' rems' : List Nat}
    (hs : m.enc s = some (cum, p)) (hp : p ≠ 0)
    (hrel : release c x.heads.remainders x.remainders p = .ok (r, hr', rems'))
    (hq : cum + r < 2^c.B) (hBW : c.B ≤ c.W)
    (hput : putChunk c x.heads.compressed x.compressed (cum + r) = .ok (hc', comp')) :
    encode c m s x = .ok ⟨comp', rems', ⟨hc', hr'⟩⟩ := by
  have hrB : r < 2^c.B := by omega
  have hrW : r < 2^c.W := Nat.lt_of_lt_of_le hrB (pow_le_pow2 hBW)
  simp [encode, hs, encodeCP, hp, hrel, cadd, hq, hput, narrow_of_lt hrW, narrow_of_lt hrB]

end

/-- what a successful `decode c m x = .ok (s, y)` that took `word` establishes; `undo` is the
    framed inverse by `encode` (C13), `chunk` and `symbol` are locality (C14) -/
structure DecodeStep {Sym : Type} (c : Cfg) (m : Model Sym) (x : Coder) (s : Sym) (y : Coder)
    (word : Nat) : Prop where
  inv : Inv c y
  chunk : takeChunk c x.heads.compressed x.compressed
    = .ok (word, y.heads.compressed, y.compressed)
  word_lt : word < 2^c.W
  symbol : s = (m.dec (quantileOf c word)).1
  support : ∃ cp, m.enc s = some cp
  undo : ∃ D, x.compressed = D ++ y.compressed ∧
    ∀ K T, encode c m s { compressed := K, remainders := y.remainders ++ T, heads := y.heads }
      = .ok { compressed := D ++ K, remainders := x.remainders ++ T, heads := x.heads }

/-- the only error is `outOfData` (C10), raised by `takeChunk` on an empty stack -/
theorem decode_spec {Sym : Type} {c : Cfg} (hv : CValid c) {m : Model Sym}
    (hm : m.WellFormed c.P) {x : Coder} (hx : Inv c x) :
    (decode c m x = .error .outOfData ∧ x.compressed = [] ∧
        (c.P = c.W ∨ x.heads.compressed < 2^c.P) ∧
        takeChunk c x.heads.compressed x.compressed = .error .outOfData) ∨
    ∃ s y word, decode c m x = .ok (s, y) ∧ DecodeStep c m x s y word := by
  obtain ⟨⟨hc1, hc2, hr1, hr2⟩, hwc, hwr⟩ := hx
  have hP := hv.precOk
  rcases takeChunk_spec hP.1 hP.2.1 hc1 hc2 hwc with
    ⟨herr, hnil, hcond⟩ | ⟨word, hc', comp', htk, h1', h2', hword, hwc', D, hD, hput⟩
  · exact .inl ⟨by simp [decode, herr], hnil, .inr hcond, herr⟩
  · rw [← quantileOf_eq hv hword] at hput
    have hq : quantileOf c word < 2^c.P := quantileOf_eq hv hword ▸ Nat.mod_lt _ (Nat.two_pow_pos _)
    obtain ⟨henc, hcumle, hqlt⟩ := hm.2 _ hq
    rcases hdec : m.dec (quantileOf c word) with ⟨s, cum, p⟩
    simp only [hdec] at henc hcumle hqlt
    obtain ⟨hp0, _, hpl, _⟩ := hm.1 s cum p henc
    obtain ⟨hr', rems', habs, hlo', hhi', hwr', hrel⟩ :=
      absorb_ok hP hr1 hr2 hp0 (Nat.le_of_lt hpl) (show quantileOf c word - cum < p by omega) hwr
    have hsum : cum + (quantileOf c word - cum) = quantileOf c word := Nat.add_sub_cancel' hcumle
    refine .inr ⟨s, ⟨comp', rems', ⟨hc', hr'⟩⟩, word,
      decode_of_halves htk hdec (Nat.ne_of_gt hp0) hcumle habs, ⟨⟨h1', h2', hlo', hhi'⟩, hwc', hwr'⟩,
      htk, hword, by rw [hdec], ⟨_, henc⟩, D, hD, fun K T => ?_⟩
    refine encode_of_halves henc (Nat.ne_of_gt hp0) (hrel T) ?_ hv.2.2.1 ?_
    · rw [hsum]; exact Nat.lt_of_lt_of_le hq (pow_le_pow2 hv.2.1)
    · rw [hsum]; exact hput K

theorem encode_spec {Sym : Type} {c : Cfg} (hv : CValid c) {m : Model Sym}
    (hm : m.WellFormed c.P) {x : Coder} (hx : Inv c x) {s : Sym} {cum p : Nat}
    (hs : m.enc s = some (cum, p)) :
    (encode c m s x = .error .outOfRemainders ∧ x.remainders = [] ∧
        x.heads.remainders < p * 2^(c.S - c.W - c.P)) ∨
    ∃ y, encode c m s x = .ok y ∧ Inv c y ∧ decode c m y = .ok (s, x) := by
  obtain ⟨⟨hc1, hc2, hr1, hr2⟩, hwc, hwr⟩ := hx
  have hP := hv.precOk
  obtain ⟨hp0, hcp, hpl, hdecq⟩ := hm.1 s cum p hs
  have hp0' : p ≠ 0 := Nat.ne_of_gt hp0
  rcases release_ok hP hr1 hr2 hp0 (Nat.le_of_lt hpl) hwr with
    ⟨herr, hnil, hlt⟩ | ⟨r, hr', rems', hrel, hrp, hlo', hhi', hwr', habs⟩
  · exact .inl ⟨by simp [encode, hs, encodeCP, hp0', herr], hnil, hlt⟩
  · have hqP : cum + r < 2^c.P := by omega
    obtain ⟨hc', comp', word, hput, h1', h2', hwc', hword, htk, hqo⟩ :=
      putChunk_spec hP.1 hP.2.1 hc1 hc2 hqP hwc
    rw [← quantileOf_eq hv hword] at hqo
    refine .inr ⟨⟨comp', rems', ⟨hc', hr'⟩⟩,
      encode_of_halves hs hp0' hrel (Nat.lt_of_lt_of_le hqP (pow_le_pow2 hv.2.1)) hv.2.2.1 hput,
      ⟨⟨h1', h2', hlo', hhi'⟩, hwc', hwr'⟩, ?_⟩
    have hd := hdecq (cum + r) (Nat.le_add_right _ _) (by omega)
    rw [← hqo] at hd
    refine decode_of_halves (x := ⟨comp', rems', ⟨hc', hr'⟩⟩) htk hd hp0'
      (hqo ▸ Nat.le_add_right _ _) ?_
    rw [hqo, Nat.add_sub_cancel_left]; exact habs

section
variable {Sym : Type} {c : Cfg} {m : Model Sym} {x : Coder}

theorem decode_ok (hv : CValid c) (hm : m.WellFormed c.P) (hx : Inv c x) {s : Sym} {y : Coder}
    (h : decode c m x = .ok (s, y)) :
    Inv c y ∧ ∃ D, x.compressed = D ++ y.compressed ∧
      ∀ K T, encode c m s { compressed := K, remainders := y.remainders ++ T, heads := y.heads }
        = .ok { compressed := D ++ K, remainders := x.remainders ++ T, heads := x.heads } := by
  rcases decode_spec hv hm hx with ⟨herr, _⟩ | ⟨_, _, _, hdec, hstep⟩
  · rw [herr] at h; cases h
  · rw [hdec] at h; cases h; exact ⟨hstep.inv, hstep.undo⟩

theorem decode_error (hv : CValid c) (hm : m.WellFormed c.P) (hx : Inv c x) {e : DecErr}
    (h : decode c m x = .error e) :
    e = .outOfData ∧ x.compressed = [] ∧ (c.P = c.W ∨ x.heads.compressed < 2^c.P) := by
  rcases decode_spec hv hm hx with ⟨herr, h1, h2, _⟩ | ⟨_, _, _, hdec, _⟩
  · rw [herr] at h; cases h; exact ⟨rfl, h1, h2⟩
  · rw [hdec] at h; cases h

theorem encode_ok (hv : CValid c) (hm : m.WellFormed c.P) (hx : Inv c x) {s : Sym} {y : Coder}
    (h : encode c m s x = .ok y) : Inv c y ∧ decode c m y = .ok (s, x) := by
  cases hs : m.enc s with
  | none => simp [encode, hs] at h
  | some cp =>
    rcases encode_spec hv hm hx hs with ⟨herr, _⟩ | ⟨_, henc, hy, hdec⟩
    · rw [herr] at h; cases h
    · rw [henc] at h; cases h; exact ⟨hy, hdec⟩

theorem encode_error (hv : CValid c) (hm : m.WellFormed c.P) (hx : Inv c x) {s : Sym}
    {cum p : Nat} (hs : m.enc s = some (cum, p)) {e : EncErr} (h : encode c m s x = .error e) :
    e = .outOfRemainders ∧ x.remainders = [] ∧
      x.heads.remainders < p * 2^(c.S - c.W - c.P) := by
  rcases encode_spec hv hm hx hs with ⟨herr, h1, h2⟩ | ⟨_, henc, _⟩
  · rw [herr] at h; cases h; exact ⟨rfl, h1, h2⟩
  · rw [henc] at h; cases h

end

end CV.Chain
