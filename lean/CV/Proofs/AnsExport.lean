import CV.Proofs.AnsStep
import CV.Proofs.Chunks
/-!
# ANS coder: `into_compressed` / `from_compressed`, the guards, `seek`
-/
namespace CV.Ans
open CV

variable {c : Cfg} {x y : Coder}

theorem pushAll_some (ws : List Nat) (h : pushAll x ws = some y) :
    y = { x with bulk := ws.reverse ++ x.bulk } := by
  induction ws generalizing x with
  | nil => cases h; rfl
  | cons w ws ih =>
    simp only [pushAll] at h
    split at h
    · rw [ih h]; simp
    · cases h

theorem pushAll_none (hcap : x.cap = none) (ws : List Nat) :
    pushAll x ws = some { x with bulk := ws.reverse ++ x.bulk } := by
  induction ws generalizing x with
  | nil => rfl
  | cons w ws ih =>
    have hw : canWrite x = true := by simp [canWrite, hcap]
    simp only [pushAll, hw, if_true]
    rw [ih (x := { x with bulk := w :: x.bulk }) hcap]
    simp

theorem dropReads_pushAll (ws : List Nat) (h : pushAll x ws = some y) :
    dropReads y ws.length = x := by
  rw [pushAll_some ws h]
  exact Coder.ext3 (by simp only [dropReads]; rw [← List.length_reverse, List.drop_left]) rfl rfl

theorem intoCompressed_none (hcap : x.cap = none) :
    intoCompressed c x = some (chunksBE c.W x.state ++ x.bulk) := by
  simp [intoCompressed, pushAll_none hcap, chunksBE]

theorem iterCompressed_eq (c : Cfg) (x : Coder) :
    iterCompressed c x = (chunksBE c.W x.state ++ x.bulk).reverse := by
  simp [iterCompressed, chunksBE]

theorem getCompressed_guard (hcap : x.cap = none) : getCompressedThenDrop c x = some x := by
  unfold getCompressedThenDrop
  rw [pushAll_none hcap]
  exact congrArg some (dropReads_pushAll _ (pushAll_none hcap _))

theorem getBinary_guard (hcap : x.cap = none) {ws : List Nat}
    (h : getBinary c x = .ok ws) : getBinaryThenDrop c x = some x := by
  unfold getBinary at h
  unfold getBinaryThenDrop
  split at h
  · cases h
  · next top restBE _ =>
    split at h
    · cases h
    · next htop =>
      rw [if_neg htop, pushAll_none hcap]
      have := dropReads_pushAll _ (pushAll_none hcap restBE.reverse)
      rw [List.length_reverse] at this
      exact congrArg some this

theorem intoCompressed_cases (hc : c.Valid) (hx : Inv c x) (hcap : x.cap = none) :
    (x.state = 0 ∧ x.bulk = [] ∧ intoCompressed c x = some []) ∨
    ∃ n top, top = x.state / 2^(n * c.W) ∧ 0 < x.state ∧ 0 < top ∧ top < 2^c.W ∧
      intoCompressed c x = some (top :: (digitsBE c.W x.state n ++ x.bulk)) := by
  rw [intoCompressed_none hcap]
  rcases Nat.eq_zero_or_pos x.state with h0 | h0
  · have hb := hx.bulk_nil (h0 ▸ Nat.two_pow_pos _)
    exact Or.inl ⟨h0, hb, by rw [h0, chunksBE_zero hc.W_pos, hb]; rfl⟩
  · obtain ⟨n, _, hch, hpos, hlt⟩ := chunksBE_pos hc.W_pos h0
    exact Or.inr ⟨n, _, rfl, h0, hpos, hlt, by rw [hch]; rfl⟩

theorem readInitialLoop_cons (hc : c.Valid) {st w : Nat} (hst : st < 2^(c.S - c.W)) (hw : w < 2^c.W)
    (rest : List Nat) :
    readInitialLoop c st (w :: rest) =
      if st * 2^c.W + w ≥ 2^(c.S - c.W) then (st * 2^c.W + w, rest)
      else readInitialLoop c (st * 2^c.W + w) rest := by
  simp only [readInitialLoop, shl_mod_or hc.W_le_S hst hw]

theorem readInitialLoop_digits (hc : c.Valid) {x : Nat} (hx : x < 2^c.S) (rest : List Nat)
    (hrest : rest ≠ [] → 2^(c.S - c.W) ≤ x) (n : Nat) :
    readInitialLoop c (x / 2^((n + 1) * c.W)) (digitsBE c.W x (n + 1) ++ rest) = (x, rest) := by
  -- prefixes with at least one chunk removed are small
  have hsmall : ∀ k, x / 2^((k + 1) * c.W) < 2^(c.S - c.W) := fun k =>
    Nat.div_lt_of_lt_mul (Nat.lt_of_lt_of_le hx (by
      rw [pow_split hc.W_le_S, Nat.mul_comm]
      exact Nat.mul_le_mul_right _ (pow_le_pow2 (Nat.le_mul_of_pos_left _ (Nat.succ_pos k)))))
  have hstep : ∀ k, readInitialLoop c (x / 2^((k + 1) * c.W)) (digitsBE c.W x (k + 1) ++ rest) =
      if x / 2^(k * c.W) ≥ 2^(c.S - c.W) then (x / 2^(k * c.W), digitsBE c.W x k ++ rest)
      else readInitialLoop c (x / 2^(k * c.W)) (digitsBE c.W x k ++ rest) := fun k => by
    rw [digitsBE_succ, List.cons_append,
      readInitialLoop_cons hc (hsmall k) (Nat.mod_lt _ (Nat.two_pow_pos _)), shr_eq, digit_step]
  induction n with
  | zero =>
    rw [hstep 0, Nat.zero_mul, Nat.pow_zero, Nat.div_one, digitsBE_zero, List.nil_append]
    split
    · rfl
    · next hge =>
      cases rest with
      | nil => rfl
      | cons a l => exact absurd (hrest (List.cons_ne_nil _ _)) hge
  | succ n ih => rw [hstep (n + 1), if_neg (Nat.not_le_of_lt (hsmall n)), ih]

theorem readInitialLoop_inv (hc : c.Valid) (ws : List Nat) (hws : ∀ w ∈ ws, w < 2^c.W) :
    ∀ st, st < 2^(c.S - c.W) →
      Inv c { bulk := (readInitialLoop c st ws).2, state := (readInitialLoop c st ws).1 } := by
  induction ws with
  | nil =>
    intro st hst
    exact ⟨Nat.lt_of_lt_of_le hst (pow_le_pow2 (Nat.sub_le _ _)), fun _ h => absurd h List.not_mem_nil,
      fun h => absurd rfl h⟩
  | cons w ws ih =>
    intro st hst
    have hw : w < 2^c.W := hws w List.mem_cons_self
    have hws' : ∀ w' ∈ ws, w' < 2^c.W := fun w' hw' => hws w' (List.mem_cons_of_mem _ hw')
    rw [readInitialLoop_cons hc hst hw]
    split
    · next hge => exact ⟨pow_split hc.W_le_S ▸ mul_add_lt_mul hst hw, hws', fun _ => hge⟩
    · next hlt => exact ih hws' _ (Nat.lt_of_not_le hlt)

theorem fromCompressed_inv (hc : c.Valid) (ws : List Nat) (hws : ∀ w ∈ ws, w < 2^c.W)
    (h : fromCompressed c ws = some x) : Inv c x ∧ x.cap = none := by
  cases ws with
  | nil => cases h; exact ⟨inv_empty c, rfl⟩
  | cons w ws =>
    simp only [fromCompressed] at h
    split at h
    · cases h
    · cases h
      have hw : w < 2^(c.S - c.W) := Nat.lt_of_lt_of_le (hws w List.mem_cons_self) hc.pow_W_le
      exact ⟨readInitialLoop_inv hc ws (fun w' hw' => hws w' (List.mem_cons_of_mem _ hw')) w hw, rfl⟩

theorem fromCompressed_none_iff (ws : List Nat) :
    fromCompressed c ws = none ↔ ∃ rest, ws = 0 :: rest := by
  cases ws with
  | nil => simp [fromCompressed]
  | cons w ws =>
    simp only [fromCompressed]
    split
    · next h => subst h; simp
    · next h => simp; exact h

theorem encArith_bulk_suffix (x : Coder) (cum p : Nat) :
    ∃ pre, (encArith c x cum p).bulk = pre ++ x.bulk := by
  simp only [encArith, afterFlush]
  split
  · exact ⟨[x.state % 2^c.W], rfl⟩
  · exact ⟨[], rfl⟩

theorem seek_snapshot (x y : Coder) (hcap : y.cap = x.cap) (pre : List Nat) (h : y.bulk = pre ++ x.bulk) :
    seek y (pos x) = some x := by
  have hle : x.bulk.length ≤ y.bulk.length := by rw [h]; simp
  simp only [seek, pos, hle, if_true]
  exact congrArg some (Coder.ext3 (by rw [h]; simp) rfl hcap)

end CV.Ans
