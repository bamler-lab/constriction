import CV.Proofs.RangeSpecProps
/-!
# `encode_symbol` keeps the invariant and is one step of the big-number reference (C02 / C06 core)

`absE c e = (Lo, R, m)`: the finalised words `bulk`, followed by the held-back words in their
*uncarried* form, followed by the `S`-bit register `lower`, read as one big number.
`encode_symbol` is `RangeSpec.step` on this abstraction: carries are ordinary addition.
-/
namespace CV.Range
variable {c : Cfg} {Sym : Type}
open RangeSpec (St step)

/-- the held-back words, assuming no carry will happen -/
def heldDigits (c : Cfg) : Situation → List Nat
  | .normal => []
  | .inverted n first => first :: List.replicate (n - 1) (2^c.W - 1)

abbrev heldCount : Situation → Nat := Situation.held

def digitsOf (c : Cfg) (e : Encoder) : List Nat := e.bulk ++ heldDigits c e.situation

def absLo (c : Cfg) (e : Encoder) : Nat := val c.W (digitsOf c e) * 2^c.S + e.lower

def absE (c : Cfg) (e : Encoder) : St :=
  { Lo := absLo c e, R := e.range, m := e.bulk.length + heldCount e.situation }

theorem heldDigits_length {c : Cfg} {sit : Situation}
    (h : ∀ n f, sit = .inverted n f → 1 ≤ n) : (heldDigits c sit).length = heldCount sit := by
  cases sit with
  | normal => rfl
  | inverted n f =>
    rw [heldDigits, List.length_cons, List.length_replicate]
    exact Nat.sub_add_cancel (h n f rfl)

theorem absE_empty (c : Cfg) : absE c (Encoder.empty c) = RangeSpec.init c.S := by
  show (⟨val c.W ([] ++ []) * 2^c.S + 0, maxState c, 0 + 0⟩ : St) = ⟨0, 2^c.S - 1, 0⟩
  rw [List.append_nil, val_nil, Nat.zero_mul]
  rfl

theorem absE_lower {e : Encoder} (hI : Inv c e) : e.lower = (absE c e).Lo % 2^c.S :=
  (mul_add_mod_of_lt hI.2.1).symm

theorem heldP_wordsOK {n first : Nat} {carry : Bool} (hf : first + 1 < 2^c.W) :
    WordsOK c (heldP c n first carry) := by
  have hb := Nat.two_pow_pos c.W
  unfold heldP
  cases carry
  · exact WordsOK.cons (by omega) (WordsOK.replicate (by omega))
  · exact WordsOK.cons hf (WordsOK.replicate hb)

theorem heldP_length (c : Cfg) {n : Nat} (first : Nat) (carry : Bool) (hn : 1 ≤ n) :
    (heldP c n first carry).length = n := by
  unfold heldP
  split <;> rw [List.length_cons, List.length_replicate, Nat.sub_add_cancel hn]

/-- releasing the held-back words for `[lower + off, lower + off + r1)`, a part of the old interval:
    the words so far followed by the new `lower` are the old big number plus `off` — a carry into
    the held-back words is the carry of that addition.  (`r1 = 0` is the case of sealing.) -/
theorem resolveP_spec {e : Encoder} {off r1 : Nat} (hb : WordsOK c e.bulk)
    (hl : e.lower < 2^c.S) (hr : e.range < 2^c.S) (hoff : off + r1 ≤ e.range)
    (hs : SitInv c e.lower e.range e.situation) :
    WordsOK c (resolveP c e off r1).1 ∧
    SitInv c ((e.lower + off) % 2^c.S) r1 (resolveP c e off r1).2 ∧
    val c.W ((resolveP c e off r1).1 ++ heldDigits c (resolveP c e off r1).2) * 2^c.S
      + (e.lower + off) % 2^c.S = absLo c e + off ∧
    (resolveP c e off r1).1.length + heldCount (resolveP c e off r1).2
      = e.bulk.length + heldCount e.situation := by
  unfold resolveP absLo digitsOf
  cases hsit : e.situation with
  | normal =>
    rw [hsit] at hs
    have h1 : e.lower + off + r1 < 2^c.S :=
      Nat.lt_of_le_of_lt (by rw [Nat.add_assoc]; exact Nat.add_le_add_left hoff _) hs
    rw [Nat.mod_eq_of_lt (Nat.lt_of_le_of_lt (Nat.le_add_right _ r1) h1)]
    exact ⟨hb, h1, (Nat.add_assoc _ _ _).symm, rfl⟩
  | inverted n first =>
    rw [hsit] at hs
    obtain ⟨hn, hf, hw⟩ := hs
    dsimp only
    have hoffT : off < 2^c.S := Nat.lt_of_le_of_lt (Nat.le_trans (Nat.le_add_right _ _) hoff) hr
    rw [mod_two (show e.lower + off < 2 * 2^c.S by rw [Nat.two_mul]; exact Nat.add_lt_add hl hoffT)]
    by_cases hwrap : e.lower + off < 2^c.S
    · -- adding `off` does not wrap: no carry
      simp only [hwrap, if_true, Nat.not_le.mpr hwrap, decide_false]
      split
      · next h =>
        refine ⟨hb.append (heldP_wordsOK hf), h, ?_, ?_⟩
        · simp only [heldP, heldDigits, Bool.false_eq_true, if_false, List.append_nil]
          exact (Nat.add_assoc _ _ _).symm
        · simp only [List.length_append, heldP_length c first false hn, heldCount, Situation.held,
            Nat.add_zero]
      · next h => exact ⟨hb, ⟨hn, hf, Nat.le_of_not_lt h⟩, (Nat.add_assoc _ _ _).symm, rfl⟩
    · -- it wraps: the held-back words take the carry, and the rest fits below `2^S`
      have hge : 2^c.S ≤ e.lower + off := Nat.le_of_not_lt hwrap
      have h : e.lower + off - 2^c.S + r1 < 2^c.S := by omega
      simp only [hwrap, if_false, h, if_true, hge, decide_true]
      refine ⟨hb.append (heldP_wordsOK hf), h, ?_, ?_⟩
      · simp only [heldP, heldDigits, if_true, List.append_nil]
        rw [val_carry, Nat.add_mul, Nat.one_mul, Nat.add_assoc _ (2^c.S), Nat.add_sub_cancel' hge,
          Nat.add_assoc]
      · simp only [List.length_append, heldP_length c first true hn, heldCount, Situation.held,
          Nat.add_zero]

/-! ### renormalisation -/

/-! `x < U·b` is `lower`, read as top digit `x / U` and rest `x % U`; `r` is the range. -/

/-- if the interval `[x, x + r)` reaches `U·b`, the rest and the range fill a block -/
theorem wrap_low {U b x r : Nat} (hx : x < U * b) (h : U * b ≤ x + r) : U ≤ x % U + r := by
  have h3 := Nat.mul_le_mul_left U (Nat.div_lt_of_lt_mul hx)
  have := Nat.div_add_mod x U
  rw [Nat.mul_succ] at h3; omega

/-- if it does not, but rest and range fill a block, the top digit can take a carry -/
theorem carry_room {U b x r : Nat} (h1 : x + r < U * b) (h2 : U ≤ x % U + r) :
    x / U + 1 < b := by
  have := Nat.div_add_mod x U
  exact Nat.lt_of_mul_lt_mul_left (a := U) (by rw [Nat.mul_succ]; omega)

/-- an interval shorter than `U` that reaches `U·b` starts in the last block -/
theorem top_ones {U b x r : Nat} (hr : r < U) (hx : x < U * b) (h : U * b ≤ x + r) :
    x / U = b - 1 := by
  have hq := Nat.div_lt_of_lt_mul hx
  have := Nat.div_add_mod x U
  have := Nat.mod_lt x (Nat.lt_of_le_of_lt (Nat.zero_le r) hr)
  rcases Nat.lt_or_ge (x / U + 1) b with h' | h'
  · have h3 := Nat.mul_le_mul_left U h'
    rw [Nat.mul_succ, Nat.mul_succ] at h3; omega
  · exact Nat.le_antisymm (Nat.le_sub_one_of_lt hq) (Nat.sub_le_of_le_add h')

/-- appending the top word of `lower` and shifting the register is multiplication by `2^W` -/
theorem shift_digit (hc : RValid c) (ds : List Nat) (lower : Nat) :
    val c.W (ds ++ [lower / 2^(c.S - c.W)]) * 2^c.S + (lower % 2^(c.S - c.W)) * 2^c.W
      = (val c.W ds * 2^c.S + lower) * 2^c.W := by
  have hdm := Nat.div_add_mod' lower (2^(c.S - c.W))
  rw [val_snoc]
  generalize lower / 2^(c.S - c.W) = q at *
  generalize lower % 2^(c.S - c.W) = r at *
  rw [← hdm, hc.pow_S]
  simp only [Nat.add_mul, Nat.mul_assoc, Nat.add_assoc, Nat.mul_comm (2^c.W)]

/-- whatever the situation, the top word of `lower` becomes the next digit -/
theorem renormP_spec (hc : RValid c) {bulk : List Nat} {sit : Situation}
    {lower range : Nat} (hb : WordsOK c bulk) (hl : lower < 2^c.S)
    (hlo : 2^(c.S - c.W) ≤ range * 2^c.W) (hhi : range < 2^c.S)
    (hs : SitInv c lower range sit) :
    Inv c (renormP c bulk sit lower range) ∧
    absE c (renormP c bulk sit lower range) =
      if range < 2^(c.S - c.W) then
        { Lo := (val c.W (bulk ++ heldDigits c sit) * 2^c.S + lower) * 2^c.W,
          R := range * 2^c.W, m := bulk.length + heldCount sit + 1 }
      else
        { Lo := val c.W (bulk ++ heldDigits c sit) * 2^c.S + lower,
          R := range, m := bulk.length + heldCount sit } := by
  unfold renormP
  split
  · next hlt =>
    have hr2 := hc.mul_lt hlt
    have hl2 := hc.mul_lt (Nat.mod_lt lower (Nat.two_pow_pos (c.S - c.W)))
    have hq := hc.top_lt hl
    rw [hc.pow_S] at hl
    cases sit with
    | inverted n first =>
      obtain ⟨hn, hf, hw⟩ := hs
      rw [hc.pow_S] at hw
      refine ⟨⟨hb, hl2, hlo, hr2, Nat.le_add_left 1 n, hf, ?_⟩, ?_⟩
      · rw [← Nat.add_mul, hc.pow_S]
        exact Nat.mul_le_mul_right _ (wrap_low hl hw)
      · -- the top word of `lower` is all ones
        have hrep : first :: List.replicate (n + 1 - 1) (2^c.W - 1)
            = (first :: List.replicate (n - 1) (2^c.W - 1)) ++ [lower / 2^(c.S - c.W)] := by
          rw [top_ones hlt hl hw, Nat.add_sub_cancel, List.cons_append,
            ← List.replicate_succ', Nat.sub_add_cancel hn]
        simp only [absE, absLo, digitsOf, heldDigits, heldCount, Situation.held]
        rw [hrep, ← List.append_assoc, shift_digit hc, Nat.add_assoc]
    | normal =>
      simp only [SitInv] at hs
      dsimp only
      split
      · next hw =>
        refine ⟨⟨hb.append (WordsOK.cons hq WordsOK.nil), hl2, hlo, hr2, hw⟩, ?_⟩
        simp only [absE, absLo, digitsOf, heldDigits, heldCount, Situation.held,
          List.append_nil, List.length_append, List.length_singleton, Nat.add_zero]
        rw [shift_digit hc]
      · next hw =>
        have hge : 2^(c.S - c.W) ≤ lower % 2^(c.S - c.W) + range := by
          rw [← Nat.add_mul, hc.pow_S] at hw
          exact Nat.le_of_mul_le_mul_right (Nat.le_of_not_lt hw) (Nat.two_pow_pos _)
        rw [hc.pow_S] at hs
        refine ⟨⟨hb, hl2, hlo, hr2, Nat.le_refl 1, carry_room hs hge, Nat.le_of_not_lt hw⟩, ?_⟩
        simp only [absE, absLo, digitsOf, heldDigits, heldCount, Situation.held,
          List.append_nil, Nat.add_zero, Nat.sub_self, List.replicate_zero]
        rw [shift_digit hc]
  · next hlt => exact ⟨⟨hb, hl, Nat.le_of_not_lt hlt, hhi, hs⟩, rfl⟩

/-- `encode_symbol` keeps the invariant and is one step of the reference on `absE` -/
theorem encPure_spec (hc : RValid c) {e : Encoder} (hI : Inv c e) {cum p : Nat}
    (hp : 0 < p) (hcp : cum + p ≤ 2^c.P) :
    Inv c (encPure c e cum p) ∧
    absE c (encPure c e cum p) = step c.W c.S (absE c e) c.P cum p := by
  obtain ⟨hb, hl, hr, hr2, hs⟩ := hI
  obtain ⟨_, _, hsub, hge⟩ := scale_facts hc hr hp hcp
  obtain ⟨h1, h2, h3, h4⟩ := resolveP_spec hb hl hr2 hsub hs
  obtain ⟨hinv, habs⟩ := renormP_spec hc h1 (Nat.mod_lt _ (Nat.two_pow_pos _)) hge
    (Nat.lt_of_le_of_lt (Nat.le_trans (Nat.le_add_left _ _) hsub) hr2) h2
  refine ⟨hinv, ?_⟩
  unfold encPure
  rw [habs, h3, h4]
  rfl

theorem encPure_fits (hc : RValid c) {e : Encoder} (hI : Inv c e) {cum p k : Nat}
    (hp : 0 < p) (hcp : cum + p ≤ 2^c.P) (hf : Fits c e (k + 1)) :
    Fits c (encPure c e cum p) k := by
  have hm := (step_m_le c.W c.S (absE c e) c.P cum p).2
  rw [← (encPure_spec hc hI hp hcp).2] at hm
  exact hf.of_le (by simp only [absE, heldCount] at hm; omega)

theorem encode_eq_pure (hc : RValid c) {m : Model Sym} (hm : m.WellFormed c.P) {e : Encoder}
    (hI : Inv c e) (hf : Fits c e 1) {s : Sym} {cum p : Nat} (hs : m.enc s = some (cum, p)) :
    encode c m s e = .ok (encPure c e cum p) := by
  unfold encode
  rw [hs]
  exact encodeCP_eq_pure hc hI hf (hm.1 s cum p hs).1 (hm.1 s cum p hs).2.1

theorem encode_ok {Sym : Type} {c : Cfg} (hc : RValid c) {m : Model Sym} (hm : m.WellFormed c.P)
    {e : Encoder} (hI : Inv c e) (hf : Fits c e 1) {s : Sym} {cum p : Nat}
    (hs : m.enc s = some (cum, p)) :
    ∃ e', encode c m s e = .ok e' ∧ Inv c e' := by
  obtain ⟨hp, hcp, _, _⟩ := hm.1 s cum p hs
  exact ⟨_, encode_eq_pure hc hm hI hf hs, (encPure_spec hc hI hp hcp).1⟩

theorem encode_impossible {m : Model Sym} {e : Encoder} {s : Sym}
    (hs : m.enc s = none) : encode c m s e = .error .impossible := by
  unfold encode; rw [hs]

end CV.Range
