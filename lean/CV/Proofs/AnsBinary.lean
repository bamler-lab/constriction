import CV.Proofs.AnsExport
/-!
# ANS coder: raw binary import / export (`from_binary`, `get_binary`, `into_binary`, `num_valid_bits`)

A coder holding raw binary data has a *marker state* `2^(k·W) + v` with `v < 2^(k·W)`: `k` whole
words of payload below a single marker bit.
-/
namespace CV.Ans
open CV

variable {c : Cfg}

theorem xor_marker {n v : Nat} (hv : v < 2^n) : (2^n + v) ^^^ (1 <<< n) = v := by
  rw [Nat.shiftLeft_eq, Nat.one_mul]
  have h := Nat.two_pow_add_eq_or_of_lt hv 1
  rw [Nat.mul_one] at h
  rw [h]
  apply Nat.eq_of_testBit_eq
  intro j
  simp only [Nat.testBit_xor, Nat.testBit_or, Nat.testBit_two_pow]
  by_cases hj : n = j
  · subst hj; simp [Nat.testBit_lt_two_pow hv]
  · simp [hj]

/-- the `from_binary` loop: starting from a marker state, it keeps a marker state -/
theorem fromBinaryLoop_spec (hc : c.Valid) (ws : List Nat) (hws : ∀ w ∈ ws, w < 2^c.W) :
    ∀ (k v : Nat), v < 2^(k * c.W) → 2^(k * c.W) + v < 2^c.S →
    ∃ k' v' rest, fromBinaryLoop c (2^(k * c.W) + v) ws = (2^(k' * c.W) + v', rest) ∧
      v' < 2^(k' * c.W) ∧ 2^(k' * c.W) + v' < 2^c.S ∧
      (rest ≠ [] → 2^(c.S - c.W) ≤ 2^(k' * c.W) + v') ∧
      digitsBE c.W v' k' ++ rest = digitsBE c.W v k ++ ws := by
  induction ws with
  | nil => exact fun k v hv hs => ⟨k, v, [], rfl, hv, hs, fun h => absurd rfl h, rfl⟩
  | cons w ws ih =>
    intro k v hv hs
    have hw : w < 2^c.W := hws w List.mem_cons_self
    simp only [fromBinaryLoop]
    split
    · next hlt =>
      have hk : 2^((k + 1) * c.W) = 2^(k * c.W) * 2^c.W := by rw [Nat.succ_mul, Nat.pow_add]
      have hst : (2^(k * c.W) + v) * 2^c.W + w = 2^((k + 1) * c.W) + (v * 2^c.W + w) := by
        rw [hk, Nat.add_mul, Nat.add_assoc]
      rw [shl_mod_or hc.W_le_S hlt hw, hst]
      obtain ⟨k', v', rest, h1, h2, h3, h4, h5⟩ :=
        ih (fun w' hw' => hws w' (List.mem_cons_of_mem _ hw')) (k + 1) (v * 2^c.W + w)
          (hk ▸ mul_add_lt_mul hv hw) (hst ▸ pow_split hc.W_le_S ▸ mul_add_lt_mul hlt hw)
      exact ⟨k', v', rest, h1, h2, h3, h4, by rw [h5, digitsBE_shift hw, List.append_assoc]; rfl⟩
    · next hge => exact ⟨k, v, w :: ws, rfl, hv, hs, fun _ => Nat.le_of_not_lt hge, rfl⟩

theorem fromBinary_spec (hc : c.Valid) (ws : List Nat) (hws : ∀ w ∈ ws, w < 2^c.W) :
    ∃ k v, (fromBinary c ws).state = 2^(k * c.W) + v ∧ v < 2^(k * c.W) ∧
      Inv c (fromBinary c ws) ∧ (fromBinary c ws).cap = none ∧
      digitsBE c.W v k ++ (fromBinary c ws).bulk = ws := by
  have h1S : 2^(0 * c.W) + 0 < 2^c.S := by
    rw [Nat.zero_mul]; exact Nat.one_lt_two_pow (Nat.ne_of_gt (Nat.lt_of_lt_of_le hc.W_pos hc.W_le_S))
  obtain ⟨k', v', rest, h1, h2, h3, h4, h5⟩ :=
    fromBinaryLoop_spec hc ws hws 0 0 (Nat.two_pow_pos _) h1S
  rw [Nat.zero_mul] at h1
  have hfb : fromBinary c ws = { bulk := rest, state := 2^(k' * c.W) + v' } := by
    simp only [fromBinary]; rw [h1]
  rw [hfb]
  refine ⟨k', v', rfl, h2, ⟨h3, fun w hw => hws w ?_, h4⟩, rfl, h5⟩
  have : w ∈ digitsBE c.W v' k' ++ rest := List.mem_append_right _ hw
  rwa [h5] at this

theorem numValidBits_fromBinary (hc : c.Valid) (ws : List Nat) (hws : ∀ w ∈ ws, w < 2^c.W) :
    numValidBits c (fromBinary c ws) = c.W * ws.length := by
  obtain ⟨k, v, hst, hv, _, _, hdig⟩ := fromBinary_spec hc ws hws
  have hlen := congrArg List.length hdig
  rw [List.length_append, digitsBE_length] at hlen
  unfold numValidBits
  rw [hst, bitlen_pow_add hv, ← hlen, Nat.mul_add, Nat.mul_comm c.W k, Nat.max_eq_left (Nat.succ_pos _),
    Nat.add_succ_sub_one, Nat.add_comm]

theorem getBinary_marker (hc : c.Valid) {x : Coder} (hcap : x.cap = none) {k v : Nat}
    (hst : x.state = 2^(k * c.W) + v) (hv : v < 2^(k * c.W)) :
    getBinary c x = .ok (digitsBE c.W v k ++ x.bulk) := by
  unfold getBinary
  rw [chunksBE_eq, hst, nchunks_marker hc.W_pos hv, digitsBE_succ,
    show digitsBE c.W (2^(k * c.W) + v) k = _ from digitsBE_marker k 0]
  have htop : ((2^(k * c.W) + v) >>> (k * c.W)) % 2^c.W = 1 := by
    rw [shr_eq, Nat.add_comm, Nat.add_div_right _ (Nat.two_pow_pos _), Nat.div_eq_of_lt hv]
    exact Nat.mod_eq_of_lt (Nat.one_lt_two_pow (Nat.ne_of_gt hc.W_pos))
  simp only [htop, ne_eq, not_true_eq_false, if_false]
  rw [pushAll_none hcap]
  simp

/-- the consuming accessor (after the D2 repair) returns the same words -/
theorem intoBinary_marker (hc : c.Valid) {x : Coder} (hcap : x.cap = none) {k v : Nat}
    (hst : x.state = 2^(k * c.W) + v) (hv : v < 2^(k * c.W)) :
    intoBinary c x = .ok (digitsBE c.W v k ++ x.bulk) := by
  unfold intoBinary
  have hne : x.state ≠ 0 := hst ▸ Nat.ne_of_gt (Nat.lt_add_right v (Nat.two_pow_pos _))
  rw [if_neg hne, hst, bitlen_pow_add hv, Nat.add_sub_cancel]
  simp only [Nat.mul_mod_left, ne_eq, not_true_eq_false, if_false]
  rw [xor_marker hv, Nat.mul_div_cancel _ hc.W_pos, pushAll_none hcap]
  simp [digitsBE, List.map_reverse]

end CV.Ans
