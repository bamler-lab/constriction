import CV.Model.QuantFloatReplica
import CV.Proofs.QuantModels
import CV.Proofs.QuantCatLink
/-!
# Kernel-checked *realistic* instances of the float-layer hypotheses

Lean 4.33's kernel reduces closed `Float`/`Float32` terms, so on a concrete table `TBF1Fast`, `TBF2`,
`GOk` are *proved* from the native-float replica itself (kernel reduction only, no compiled
evaluation).  Each instance is evaluated once, to the integers the float pipeline hands to the
fixed-point layer.  This is per-instance evidence on hardware floats (for all inputs TB-F1 is a
theorem on the software IEEE model; TB-F2 remains a hypothesis); the driver prints the same
evaluation as `mono=`, `tbf2=`, `bound=` for every sampled instance.
-/
namespace CV.Quant
open CV

instance (h : Nat → Nat) (n : Nat) : Decidable (TBF1Fast h n) :=
  decidable_of_iff (Mono h n ∧ h 0 = 0) ⟨fun ⟨a, b⟩ => ⟨a, b⟩, fun ⟨a, b⟩ => ⟨a, b⟩⟩

instance (P n free : Nat) (h k0 : Nat → Nat) : Decidable (TBF2 P n free h k0) := by
  unfold TBF2; exact Nat.decidableBallLT (2 ^ P) (fun q _ => 1 ≤ k0 q ∧ k0 q ≤ n ∧ cumF P n free h (k0 q - 1) ≤ q)

theorem getD_of_map_range {f : Nat → Nat} {n : Nat} {t : List Nat} (h : (List.range n).map f = t)
    {i : Nat} (hi : i < n) : f i = t.getD i 0 := by
  rw [← h]; simp [hi]

theorem TBF1Fast.congr {h h' : Nat → Nat} {n : Nat} (e : ∀ i, i ≤ n → h i = h' i)
    (t : TBF1Fast h' n) : TBF1Fast h n := by
  constructor
  · intro i hi
    rw [e i (by omega), e (i + 1) (by omega)]
    exact t.mono i hi
  · rw [e 0 (Nat.zero_le n)]
    exact t.zero

theorem TBF2.congr {P n free : Nat} {h h' k k' : Nat → Nat} (eh : ∀ i, i < n → h i = h' i)
    (ek : ∀ q, q < 2 ^ P → k q = k' q) (t : TBF2 P n free h' k') : TBF2 P n free h k := by
  intro q hq
  have ec : cumF P n free h (k' q - 1) = cumF P n free h' (k' q - 1) := by
    unfold cumF
    by_cases hi : k' q - 1 < n
    · rw [if_pos hi, if_pos hi, eh _ hi]
    · rw [if_neg hi, if_neg hi]
  rw [ek q hq, ec]
  exact t q hq

theorem GOk.congr {m : LQ} {g g' : Int → Nat} (e : ∀ s, m.min < s → s ≤ m.max → g s = g' s)
    (t : GOk m g') : GOk m g := by
  constructor
  · intro s h1 h2
    rw [e s h1 (by omega), e (s + 1) (by omega) (by omega)]
    exact t.mono s h1 h2
  · intro s h1 h2
    rw [e s h1 h2]
    exact t.bound s h1 h2

/-! ### the D4 table (`f32`, `u32`, `P = 24`, the clamp binds): `[70.591324, 0.4555307, 49.606285, 0.45611787, 0.0]` -/

def d4tbl : List Float32 :=
  [Float32.ofBits 0x428d2ec2, Float32.ofBits 0x3ee93b54, Float32.ofBits 0x42466cd6,
   Float32.ofBits 0x3ee98848, Float32.ofBits 0]

def d4opt : Option (FastCtx Float32) := fastSetup f32Ops 32 24 d4tbl none
theorem d4_accepted : d4opt.isSome = true := by decide +kernel
def d4 : FastCtx Float32 := d4opt.get d4_accepted
theorem d4_setup : fastSetup f32Ops 32 24 d4tbl none = some d4 := by
  show d4opt = some (d4opt.get d4_accepted); simp

def d4H : List Nat := [0, 9778985, 9842089, 16714026, 16777212, 16777212]

theorem d4_eval : d4.n = 5 ∧ d4.free = 16777211 ∧ (List.range 6).map (d4.hE f32Ops 32) = d4H ∧
    (List.range 6).map (d4.hL f32Ops 32) = d4H := by decide +kernel

theorem d4_hE {i : Nat} (hi : i < 6) : d4.hE f32Ops 32 i = d4H.getD i 0 :=
  getD_of_map_range d4_eval.2.2.1 hi

theorem d4_n : d4.n = 5 := d4_eval.1

theorem d4_tbf1 : TBF1Fast (d4.hE f32Ops 32) d4.n :=
  d4_n ▸ TBF1Fast.congr (fun _ hi => d4_hE (by omega)) (by decide)
/-- the pre-repair hypothesis `h i ≤ free` fails here: D4 -/
theorem d4_unclamped_exceeds : d4.hE f32Ops 32 4 = d4.free + 1 := by
  rw [d4_hE (by decide), d4_eval.2.1]; rfl
theorem d4_hL_eq_hE : ∀ i, i < 6 → d4.hL f32Ops 32 i = d4.hE f32Ops 32 i := fun _ hi =>
  (getD_of_map_range d4_eval.2.2.2 hi).trans (d4_hE hi).symm

/-! ### a lazy `f32` model at `u8` / `P = 6` with a skip phase that skips -/

def lzTbl : List Float32 :=
  [Float32.ofBits 0x3e99999a, Float32.ofBits 0x3dcccccd, Float32.ofBits 0x3ecccccd,
   Float32.ofBits 0x3e4ccccd, Float32.ofBits 0x3d4ccccd, Float32.ofBits 0x3e800000]  -- .3 .1 .4 .2 .05 .25

def lzOpt : Option (FastCtx Float32) := fastSetup f32Ops 8 6 lzTbl none
theorem lz_accepted : lzOpt.isSome = true := by decide +kernel
def lz : FastCtx Float32 := lzOpt.get lz_accepted

def lzH : List Nat := [0, 13, 17, 35, 44, 46, 58]
def lzK (q : Nat) : Nat :=
  if q < 20 then 1 else if q < 24 then 2 else if q < 42 then 3 else if q < 51 then 4
  else if q < 53 then 5 else 6

theorem lz_eval : lz.n = 6 ∧ lz.free = freeWeight 8 6 6 ∧
    (List.range 7).map (lz.hE f32Ops 8) = lzH ∧
    (List.range 64).map (lz.k0 f32Ops 8) = (List.range 64).map lzK := by
  decide +kernel

theorem lz_hE {i : Nat} (hi : i < 7) : lz.hE f32Ops 8 i = lzH.getD i 0 :=
  getD_of_map_range lz_eval.2.2.1 hi

theorem lz_k0 {q : Nat} (hq : q < 64) : lz.k0 f32Ops 8 q = lzK q :=
  List.map_inj_left.1 lz_eval.2.2.2 q (List.mem_range.2 hq)

theorem lz_n : lz.n = 6 := lz_eval.1
theorem lz_free : lz.free = freeWeight 8 6 6 := lz_eval.2.1
theorem lz_tbf1 : TBF1Fast (lz.hE f32Ops 8) 6 :=
  TBF1Fast.congr (fun _ hi => lz_hE (by omega)) (by decide)
theorem lz_tbf2 : TBF2 6 6 (freeWeight 8 6 6) (lz.hE f32Ops 8) (lz.k0 f32Ops 8) :=
  TBF2.congr (fun _ hi => lz_hE (by omega)) (fun _ hq => lz_k0 hq) (by decide +kernel)
/-- the skip phase does skip -/
theorem lz_skips : lz.k0 f32Ops 8 63 = 6 ∧ lz.k0 f32Ops 8 32 = 3 ∧ lz.k0 f32Ops 8 0 = 1 :=
  ⟨lz_k0 (by decide), lz_k0 (by decide), lz_k0 (by decide)⟩

/-! ### the quantised standard Gaussian of `probability::distribution` on `-5..=5` (`i32`, `u32`, `P = 24`) -/

/-- `Gaussian::new(0.0, 1.0).distribution(x)` at the half-integers, as recorded by the harness
    (`corpus/quant/repro.txt`), sorted by key bits -/
def gaussRec : Array (UInt64 × UInt64) := #[
  (0x3fe0000000000000, 0x3fe62075e232ac77), (0x3ff8000000000000, 0x3feddcb724ed3702),
  (0x4004000000000000, 0x3fefcd21635036c6), (0x400c000000000000, 0x3feffe182436d488),
  (0x4012000000000000, 0x3feffff8dfe35c8b), (0xbfe0000000000000, 0x3fd3bf143b9aa712),
  (0xbff8000000000000, 0x3fb11a46d89647f0), (0xc004000000000000, 0x3f796f4e57e49d00),
  (0xc00c000000000000, 0x3f2e7dbc92b78000), (0xc012000000000000, 0x3ecc80728dd40000)]

def gaussLQ : LQ := { t := ⟨32, true⟩, B := 32, P := 24, min := -5, max := 5, free := 2 ^ 24 - 11 }

theorem gaussLQ_new : LQ.new ⟨32, true⟩ 32 24 (-5) 5 = .ok gaussLQ := by rfl

theorem gaussLQ_ok : gaussLQ.Ok :=
  ⟨by decide, by decide, by decide, by decide, by decide, by decide, by decide, by decide⟩

/-- `g s = (free * cdf(s - 0.5)) as u32`, computed in `f64` from the recorded values -/
def gaussG : Int → Nat := fun s => (leakyExt 32 gaussLQ.free gaussRec (-0.5) s).getD 0

def gokCheck (m : LQ) (g : Int → Nat) : Bool :=
  (List.range (m.max - m.min).toNat).all fun k =>
    let s := m.min + 1 + (k : Int)
    decide (g s ≤ m.free) && (decide (s + 1 > m.max) || decide (g s ≤ g (s + 1)))

theorem GOk.of_check {m : LQ} {g : Int → Nat} (h : gokCheck m g = true) : GOk m g := by
  unfold gokCheck at h
  rw [List.all_eq_true] at h
  have key : ∀ s, m.min < s → s ≤ m.max → g s ≤ m.free ∧ (s < m.max → g s ≤ g (s + 1)) := by
    intro s h1 h2
    have := h (s - m.min - 1).toNat (by rw [List.mem_range]; omega)
    have e : m.min + 1 + (((s - m.min - 1).toNat : Nat) : Int) = s := by omega
    simp only [e, Bool.and_eq_true, Bool.or_eq_true, decide_eq_true_eq] at this
    refine ⟨this.1, fun hlt => ?_⟩
    rcases this.2 with h3 | h3
    · omega
    · exact h3
  exact ⟨fun s h1 h2 => (key s h1 (by omega)).2 h2, fun s h1 h2 => (key s h1 h2).1⟩

/-- `g (-4), …, g 5` -/
def gaussT : List Nat :=
  [57, 3902, 104180, 1120838, 5176397, 11600807, 15656366, 16673024, 16773302, 16777147]

theorem gauss_eval : (List.range 10).map (fun k : Nat => gaussG (-4 + (k : Int))) = gaussT := by
  decide +kernel

theorem gaussG_eq (s : Int) (h1 : -5 < s) (h2 : s ≤ 5) : gaussG s = gaussT.getD (s + 4).toNat 0 := by
  have e := getD_of_map_range gauss_eval (i := (s + 4).toNat) (by omega)
  rwa [show -4 + ((s + 4).toNat : Int) = s by omega] at e

theorem gauss_gok : GOk gaussLQ gaussG := GOk.congr gaussG_eq (GOk.of_check (by decide))

/-- the values are the ones the protocol shows for this model: `left(-4) = 58`, `p(-4) = 3846` -/
theorem gauss_enc : gaussLQ.enc (extL gaussG) (extR gaussG) (-4) = .ok (some (58, 3846)) := by
  rw [enc_eq gaussLQ_ok gauss_gok, encQ, leftQ, widthQ, rightQ, leftQ,
    gaussG_eq (-4) (by decide) (by decide), gaussG_eq (-4 + 1) (by decide) (by decide)]
  rfl

end CV.Quant
