import CV.Proofs.ChainLocal
import CV.Proofs.ChainPrecision
import CV.Proofs.ChainHist
/-!
# Chain coder: which bits of the data make up which chunk (C14, literal form)

`Pos` names a single bit of the data a coder is looking at: bit `b` of the leftover bits in the
compressed head (`head b`, below the marker bit) or bit `b` of the `i`-th word of the
compressed stack counted from the top (`word i b`).

`chunkPosV W Ps L idx m` lists, for a sequence of precisions `Ps` (one per symbol), the bit
positions that make up the successive chunks, most significant bit first.  It is a definition
on *lists of positions only*: no arithmetic on the data, no entropy model, no remainders side;
it depends on the data only through the number `m` of words and the number of leftover bits.
-/
namespace CV.Chain

inductive Pos where
  /-- bit `b` of the leftover bits in `heads.compressed` (the marker is not a data bit) -/
  | head (b : Nat)
  /-- bit `b` of the `i`-th word of the compressed stack, `i = 0` being the top -/
  | word (i b : Nat)
  deriving DecidableEq, Repr

/-- the value (0 or 1) of the data bit at a position -/
def bitOf (hc : Nat) (comp : List Nat) : Pos → Nat
  | .head b => hc / 2^b % 2
  | .word i b => comp.getD i 0 / 2^b % 2

theorem bitOf_lt (hc : Nat) (comp : List Nat) (p : Pos) : bitOf hc comp p < 2 := by
  cases p <;> exact Nat.mod_lt _ (by decide)

/-- the number spelled by the bits at the positions `l` (most significant first) -/
def valOf (f : Pos → Nat) : List Pos → Nat
  | [] => 0
  | p :: l => f p * 2^l.length + valOf f l

/-- positions `lo + n - 1, …, lo + 1, lo` of one source, most significant first -/
def seg (mk : Nat → Pos) (lo : Nat) : Nat → List Pos
  | 0 => []
  | n + 1 => mk (lo + n) :: seg mk lo n

@[simp] theorem seg_length (mk : Nat → Pos) (lo n : Nat) : (seg mk lo n).length = n := by
  induction n with
  | zero => rfl
  | succ n ih => simp [seg, ih]

theorem mem_seg {mk : Nat → Pos} {lo n : Nat} {q : Pos} :
    q ∈ seg mk lo n ↔ ∃ t, t < n ∧ q = mk (lo + t) := by
  induction n with
  | zero => simp [seg]
  | succ n ih =>
    simp only [seg, List.mem_cons, ih]
    constructor
    · rintro (h | ⟨t, ht, h⟩)
      · exact ⟨n, by omega, h⟩
      · exact ⟨t, by omega, h⟩
    · rintro ⟨t, ht, h⟩
      by_cases htn : t = n
      · left; rw [h, htn]
      · right; exact ⟨t, by omega, h⟩

theorem seg_nodup {mk : Nat → Pos} (hinj : ∀ a b, mk a = mk b → a = b) (lo n : Nat) :
    (seg mk lo n).Nodup := by
  induction n with
  | zero => simp [seg]
  | succ n ih =>
    simp only [seg, List.nodup_cons]
    refine ⟨?_, ih⟩
    intro hmem
    obtain ⟨t, ht, h⟩ := mem_seg.mp hmem
    have := hinj _ _ h
    omega

theorem valOf_append (f : Pos → Nat) (a b : List Pos) :
    valOf f (a ++ b) = valOf f a * 2^b.length + valOf f b := by
  induction a with
  | nil => simp [valOf]
  | cons p a ih =>
    simp only [List.cons_append, valOf, ih, List.length_append, Nat.pow_add, Nat.add_mul,
      Nat.mul_assoc, Nat.add_assoc]

theorem valOf_lt {f : Pos → Nat} (hf : ∀ p, f p < 2) (l : List Pos) : valOf f l < 2^l.length := by
  induction l with
  | nil => simp [valOf]
  | cons p l ih =>
    simp only [valOf, List.length_cons, Nat.pow_succ]
    have h1 : f p ≤ 1 := by have := hf p; omega
    have h2 : f p * 2^l.length ≤ 1 * 2^l.length := Nat.mul_le_mul_right _ h1
    omega

theorem valOf_congr {f g : Pos → Nat} {l : List Pos} (h : ∀ p ∈ l, f p = g p) :
    valOf f l = valOf g l := by
  induction l with
  | nil => rfl
  | cons p l ih =>
    simp only [valOf]
    rw [h p (List.mem_cons_self), ih (fun q hq => h q (List.mem_cons_of_mem _ hq))]

theorem valOf_seg {f : Pos → Nat} {mk : Nat → Pos} {x : Nat} (hf : ∀ b, f (mk b) = x / 2^b % 2)
    (lo n : Nat) : valOf f (seg mk lo n) = x / 2^lo % 2^n := by
  induction n with
  | zero => simp [seg, valOf, Nat.mod_one]
  | succ n ih =>
    simp only [seg, valOf, seg_length, ih, hf]
    rw [Nat.mod_pow_succ (x := x / 2^lo), Nat.pow_add, ← Nat.div_div_eq_div_mul]
    rw [Nat.mul_comm, Nat.add_comm]

/-- a bit buffer holding the bits at `l` below its marker bit -/
def markVal (f : Pos → Nat) (l : List Pos) : Nat := 2^l.length + valOf f l

theorem markVal_append (f : Pos → Nat) (a b : List Pos) :
    markVal f (a ++ b) = markVal f a * 2^b.length + valOf f b := by
  simp only [markVal, valOf_append, List.length_append, Nat.pow_add, Nat.add_mul, Nat.add_assoc]

theorem markVal_bounds {f : Pos → Nat} (hf : ∀ p, f p < 2) (l : List Pos) :
    2^l.length ≤ markVal f l ∧ markVal f l < 2^(l.length + 1) := by
  have := valOf_lt hf l
  rw [markVal, Nat.pow_succ]; omega

/-- positions of the successive chunks for the precisions `Ps`; `L` = positions of the leftover
    bits (most significant first), `idx` = index of the next word, `m` = words left -/
def chunkPosV (W : Nat) : List Nat → List Pos → Nat → Nat → List (List Pos)
  | [], _, _, _ => []
  | P :: Ps, L, idx, m =>
    if P = W ∨ L.length < P then
      match m with
      | 0 => []
      | m' + 1 =>
        if P = W then seg (.word idx) 0 W :: chunkPosV W Ps L (idx + 1) m'
        else seg (.word idx) 0 P :: chunkPosV W Ps (L ++ seg (.word idx) P (W - P)) (idx + 1) m'
    else L.drop (L.length - P) :: chunkPosV W Ps (L.take (L.length - P)) idx m

section chunkPosV
variable {W P : Nat} {L : List Pos}

theorem chunkPosV_dry (h : P = W ∨ L.length < P) (Ps : List Nat) (idx : Nat) :
    chunkPosV W (P :: Ps) L idx 0 = [] := by
  simp [chunkPosV, h]

theorem chunkPosV_read (h : P = W ∨ L.length < P) (Ps : List Nat) (idx m : Nat) :
    chunkPosV W (P :: Ps) L idx (m + 1) =
      seg (.word idx) 0 P :: chunkPosV W Ps (L ++ seg (.word idx) P (W - P)) (idx + 1) m := by
  by_cases hEq : P = W
  · simp [chunkPosV, hEq, seg]
  · simp [chunkPosV, hEq, h.resolve_left hEq]

theorem chunkPosV_buffered (h : ¬ (P = W ∨ L.length < P)) (Ps : List Nat) (idx m : Nat) :
    chunkPosV W (P :: Ps) L idx m =
      L.drop (L.length - P) :: chunkPosV W Ps (L.take (L.length - P)) idx m := by
  simp [chunkPosV, h]

end chunkPosV

/-- `quantiles` with one precision per chunk; the chunk is `word % 2^P`, which is what
    `quantileOf` gives on a word (`quantiles_eq_quantilesV`) -/
def quantilesV (c : Cfg) : List Nat → Nat → List Nat → List Nat
  | [], _, _ => []
  | P :: Ps, hc, comp =>
    match takeChunk (withP c P) hc comp with
    | .ok (word, hc', comp') => word % 2^P :: quantilesV c Ps hc' comp'
    | .error _ => []

/-- **The chunks are the data bits at the listed positions.**  `(hc, comp)` is the current state
    of the bit buffer: its leftover bits sit at `L`, its words are number `idx`, `idx + 1`, … -/
theorem quantilesV_eq_chunks {c : Cfg} {f : Pos → Nat} (hf : ∀ p, f p < 2) :
    ∀ (Ps : List Nat) (L : List Pos) (idx hc : Nat) (comp : List Nat),
      (∀ P ∈ Ps, 1 ≤ P ∧ P ≤ c.W) → Words c.W comp →
      (∀ i b, f (.word (idx + i) b) = comp.getD i 0 / 2^b % 2) →
      hc = markVal f L → hc < 2^c.W →
      quantilesV c Ps hc comp = (chunkPosV c.W Ps L idx comp.length).map (valOf f) := by
  intro Ps
  induction Ps with
  | nil => intros; simp [quantilesV, chunkPosV]
  | cons P Ps ih =>
    intro L idx hc comp hPs hw hbits hhc hlt
    obtain ⟨hP1, hPW⟩ := hPs P (List.mem_cons_self)
    have hPs' : ∀ P' ∈ Ps, 1 ≤ P' ∧ P' ≤ c.W := fun P' h => hPs P' (List.mem_cons_of_mem _ h)
    obtain ⟨hb1, hb2⟩ := markVal_bounds hf L
    rw [← hhc] at hb1 hb2
    have h1 : 1 ≤ hc := Nat.le_trans (Nat.two_pow_pos _) hb1
    have hLW : L.length < c.W := lt_of_pow_le_lt hb1 hlt
    simp only [quantilesV]
    by_cases hlow : L.length < P
    · have hcP : hc < 2^P := Nat.lt_of_lt_of_le hb2 (pow_le_pow2 hlow)
      have hread : P = c.W ∨ L.length < P := .inr hlow
      obtain ⟨hnil, hcons⟩ := takeChunk_read (c := withP c P) hPW h1 hcP
      cases comp with
      | nil => rw [List.length_nil, chunkPosV_dry hread, hnil]; rfl
      | cons w rest =>
        have hwf : ∀ b, f (.word idx b) = w / 2^b % 2 := hbits 0
        obtain ⟨_, htk, hv⟩ := hcons w rest
        cases hv hw.head
        have hdiv : w / 2^P < 2^(c.W - P) := div_pow_lt hPW hw.head
        -- the new head holds `L` and the upper bits of `w`
        have hL' : hc * 2^(c.W - P) + w / 2^P = markVal f (L ++ seg (.word idx) P (c.W - P)) := by
          rw [markVal_append, seg_length, valOf_seg hwf P (c.W - P), Nat.mod_eq_of_lt hdiv, hhc]
        have hlt' : hc * 2^(c.W - P) + w / 2^P < 2^c.W := by
          rw [pow_split hPW, Nat.mul_comm (2^(c.W - P))]; exact mul_add_lt_mul hcP hdiv
        rw [List.length_cons, chunkPosV_read hread, htk]
        simp only [withP_W, withP_P, List.map_cons]
        rw [ih _ (idx + 1) _ rest hPs' hw.tail
          (fun i b => by rw [Nat.add_assoc, Nat.add_comm 1]; exact hbits (i + 1) b) hL' hlt',
          valOf_seg hwf 0 P]
        simp
    · -- the chunk is the last `P` of the leftover bits: `L = take ++ drop`
      have hge : P ≤ L.length := Nat.le_of_not_lt hlow
      have hread : ¬ (P = c.W ∨ L.length < P) := fun h => h.elim (fun e => hlow (e ▸ hLW)) hlow
      have hdl : (L.drop (L.length - P)).length = P := by
        rw [List.length_drop, Nat.sub_sub_self hge]
      have hsplit := markVal_append f (L.take (L.length - P)) (L.drop (L.length - P))
      rw [List.take_append_drop, hdl, ← hhc] at hsplit
      have hchunk := valOf_lt hf (L.drop (L.length - P))
      rw [hdl] at hchunk
      rw [chunkPosV_buffered hread,
        takeChunk_buffered (c := withP c P) hlt (Nat.le_trans (pow_le_pow2 hge) hb1)]
      simp only [withP_P, List.map_cons]
      rw [ih _ idx _ comp hPs' hw hbits (hsplit ▸ mul_add_div_of_lt hchunk)
        (Nat.lt_of_le_of_lt (Nat.div_le_self _ _) hlt)]
      conv => lhs; rw [hsplit, mul_add_mod_of_lt hchunk]

theorem chunkPosV_cases (W P : Nat) (Ps : List Nat) (L : List Pos) (idx m : Nat) :
    chunkPosV W (P :: Ps) L idx m = [] ∨
    (∃ m', m = m' + 1 ∧ chunkPosV W (P :: Ps) L idx m =
      seg (.word idx) 0 P :: chunkPosV W Ps (L ++ seg (.word idx) P (W - P)) (idx + 1) m') ∨
    (P ≤ L.length ∧ chunkPosV W (P :: Ps) L idx m =
      L.drop (L.length - P) :: chunkPosV W Ps (L.take (L.length - P)) idx m) := by
  by_cases h : P = W ∨ L.length < P
  · cases m with
    | zero => exact .inl (chunkPosV_dry h Ps idx)
    | succ m' => exact .inr (.inl ⟨m', rfl, chunkPosV_read h Ps idx m'⟩)
  · exact .inr (.inr ⟨by omega, chunkPosV_buffered h Ps idx m⟩)

/-- a position that does not belong to the words `idx, idx+1, …` still on the stack -/
def Pos.Old (idx : Nat) : Pos → Prop
  | .head _ => True
  | .word i _ => i < idx

theorem Pos.Old.mono {idx idx' : Nat} {q : Pos} (h : Pos.Old idx q) (hle : idx ≤ idx') :
    Pos.Old idx' q := by
  cases q with
  | head b => trivial
  | word i b => simp only [Pos.Old] at h ⊢; omega

theorem chunkPosV_length (W : Nat) :
    ∀ (Ps : List Nat) (L : List Pos) (idx m : Nat) (i : Nat) (ch : List Pos),
      (chunkPosV W Ps L idx m)[i]? = some ch → Ps[i]? = some ch.length := by
  intro Ps
  induction Ps with
  | nil =>
    intro L idx m i ch h
    rw [show chunkPosV W [] L idx m = [] from rfl, List.getElem?_nil] at h; cases h
  | cons P Ps ih =>
    intro L idx m i ch h
    rcases chunkPosV_cases W P Ps L idx m with e | ⟨m', rfl, e⟩ | ⟨hge, e⟩ <;> rw [e] at h
    · rw [List.getElem?_nil] at h; cases h
    · cases i with
      | zero =>
        rw [List.getElem?_cons_zero] at h; cases h
        rw [List.getElem?_cons_zero, seg_length]
      | succ i => exact ih _ _ _ i ch h
    · cases i with
      | zero =>
        rw [List.getElem?_cons_zero] at h; cases h
        rw [List.getElem?_cons_zero, List.length_drop, Nat.sub_sub_self hge]
      | succ i => exact ih _ _ _ i ch h

/-- **No data bit belongs to two chunks**, none occurs twice in one chunk, and every position
    is a real bit of the data. -/
theorem chunkPosV_wf (W : Nat) :
    ∀ (Ps : List Nat) (L : List Pos) (idx m : Nat), (∀ P ∈ Ps, P ≤ W) →
      L.Nodup → (∀ q ∈ L, Pos.Old idx q) →
      (chunkPosV W Ps L idx m).Pairwise (fun a b => ∀ q ∈ a, q ∉ b) ∧
      ∀ ch ∈ chunkPosV W Ps L idx m, ch.Nodup ∧ ∀ q ∈ ch,
        q ∈ L ∨ ∃ i t, q = .word i t ∧ idx ≤ i ∧ i < idx + m ∧ t < W := by
  have winj : ∀ idx a b, Pos.word idx a = Pos.word idx b → a = b := by
    intro idx a b h; injection h
  intro Ps
  induction Ps with
  | nil => intro L idx m _ _ _; exact ⟨List.Pairwise.nil, fun _ h => by cases h⟩
  | cons P Ps ih =>
    intro L idx m hPs hnd hold
    have hPW := hPs P (List.mem_cons_self)
    have hPs' : ∀ P' ∈ Ps, P' ≤ W := fun P' h => hPs P' (List.mem_cons_of_mem _ h)
    -- a bit of word `idx` is not among the leftover bits
    have hnew : ∀ t, Pos.word idx t ∉ L := fun t hmem => by
      have := hold _ hmem; simp [Pos.Old] at this
    rcases chunkPosV_cases W P Ps L idx m with e | ⟨m', rfl, e⟩ | ⟨hge, e⟩ <;> rw [e]
    · exact ⟨List.Pairwise.nil, fun _ h => by cases h⟩
    · -- the chunk is the low bits of word `idx`; later chunks use its other bits, `L`, or
      -- later words
      have hnd' : (L ++ seg (Pos.word idx) P (W - P)).Nodup := by
        rw [List.nodup_append]
        refine ⟨hnd, seg_nodup (winj idx) _ _, fun a ha b hb hab => ?_⟩
        obtain ⟨t, _, rfl⟩ := mem_seg.mp hb
        exact hnew _ (hab ▸ ha)
      have hold' : ∀ q ∈ L ++ seg (Pos.word idx) P (W - P), Pos.Old (idx + 1) q := by
        intro q hq
        rcases List.mem_append.mp hq with h | h
        · exact (hold q h).mono (Nat.le_succ _)
        · obtain ⟨t, _, rfl⟩ := mem_seg.mp h; simp [Pos.Old]
      obtain ⟨ih1, ih2⟩ := ih _ (idx + 1) m' hPs' hnd' hold'
      have later : ∀ b ∈ chunkPosV W Ps (L ++ seg (Pos.word idx) P (W - P)) (idx + 1) m',
          ∀ q ∈ b, q ∈ L ∨ ∃ i t, q = .word i t ∧ idx ≤ i ∧ i < idx + (m' + 1) ∧ t < W ∧
            (i = idx → P ≤ t) := by
        intro b hb q hqb
        rcases (ih2 b hb).2 q hqb with h | ⟨i, t, rfl, h1, h2, h3⟩
        · rcases List.mem_append.mp h with h | h
          · exact .inl h
          · obtain ⟨t, ht, rfl⟩ := mem_seg.mp h
            exact .inr ⟨idx, P + t, rfl, Nat.le_refl _, Nat.lt_add_of_pos_right (Nat.succ_pos _),
              Nat.add_lt_of_lt_sub' ht, fun _ => Nat.le_add_right _ _⟩
        · exact .inr ⟨i, t, rfl, Nat.le_of_succ_le h1,
            by rwa [Nat.add_assoc, Nat.add_comm 1] at h2, h3, fun h => by omega⟩
      refine ⟨List.pairwise_cons.mpr ⟨fun b hb q hq hqb => ?_, ih1⟩, fun ch hch => ?_⟩
      · obtain ⟨t, ht, rfl⟩ := mem_seg.mp hq
        rcases later b hb _ hqb with h | ⟨i, t', h, _, _, _, h5⟩
        · exact hnew _ h
        · injection h with h h'
          have := h5 h.symm; omega
      · rcases List.mem_cons.mp hch with rfl | hch
        · refine ⟨seg_nodup (winj idx) _ _, fun q hq => ?_⟩
          obtain ⟨t, ht, rfl⟩ := mem_seg.mp hq
          exact .inr ⟨idx, 0 + t, rfl, Nat.le_refl _, Nat.lt_add_of_pos_right (Nat.succ_pos _),
            by rw [Nat.zero_add]; exact Nat.lt_of_lt_of_le ht hPW⟩
        · refine ⟨(ih2 ch hch).1, fun q hq => ?_⟩
          rcases later ch hch q hq with h | ⟨i, t, h, h1, h2, h3, _⟩
          · exact .inl h
          · exact .inr ⟨i, t, h, h1, h2, h3⟩
    · -- the chunk is the end of `L`; later chunks use the rest of `L` or words
      have hnd2 : (L.take (L.length - P) ++ L.drop (L.length - P)).Nodup := by
        rw [List.take_append_drop]; exact hnd
      obtain ⟨hndt, hndd, hdisj⟩ := List.nodup_append.mp hnd2
      obtain ⟨ih1, ih2⟩ := ih (L.take (L.length - P)) idx m hPs' hndt
        (fun q hq => hold q (List.mem_of_mem_take hq))
      refine ⟨List.pairwise_cons.mpr ⟨fun b hb q hq hqb => ?_, ih1⟩, fun ch hch => ?_⟩
      · rcases (ih2 b hb).2 q hqb with h | ⟨i, t', rfl, h1, _⟩
        · exact hdisj _ h _ hq rfl
        · have := hold _ (List.mem_of_mem_drop hq)
          simp [Pos.Old] at this; omega
      · rcases List.mem_cons.mp hch with rfl | hch
        · exact ⟨hndd, fun q hq => .inl (List.mem_of_mem_drop hq)⟩
        · exact ⟨(ih2 ch hch).1, fun q hq => ((ih2 ch hch).2 q hq).imp_left List.mem_of_mem_take⟩

/-! ## chunks of a coder with `k` leftover bits in its head -/

theorem quantiles_eq_quantilesV {c : Cfg} (hv : CValid c) :
    ∀ (n hc : Nat) (comp : List Nat), 1 ≤ hc → hc < 2^c.W → Words c.W comp →
      quantiles c n hc comp = quantilesV c (List.replicate n c.P) hc comp := by
  intro n
  induction n with
  | zero => intros; simp [quantiles, quantilesV]
  | succ n ih =>
    intro hc comp h1 h2 hw
    simp only [quantiles, List.replicate_succ, quantilesV, withP_self]
    rcases takeChunk_spec hv.1 hv.precOk.2.1 h1 h2 hw with
      ⟨herr, _⟩ | ⟨word, hc', comp', htk, h1', h2', hword, hw', _⟩
    · simp [herr]
    · simp only [htk]
      rw [ih hc' comp' h1' h2' hw', quantileOf_eq hv hword]

theorem replicate_prec_ok {c : Cfg} (hv : CValid c) (n : Nat) :
    ∀ P ∈ List.replicate n c.P, 1 ≤ P ∧ P ≤ c.W := by
  intro P hP
  obtain ⟨_, rfl⟩ := List.mem_replicate.mp hP
  exact ⟨hv.1, hv.precOk.2.1⟩

/-- the positions of the leftover bits of a head with `k` bits below the marker -/
def headPos (k : Nat) : List Pos := seg .head 0 k

theorem markVal_headPos {hc k : Nat} (hlo : 2^k ≤ hc) (hhi : hc < 2^(k + 1)) (comp : List Nat) :
    hc = markVal (bitOf hc comp) (headPos k) := by
  have hf : ∀ b, bitOf hc comp (.head b) = hc / 2^b % 2 := fun b => rfl
  rw [markVal, headPos, seg_length, valOf_seg hf 0 k, Nat.pow_zero, Nat.div_one]
  have hd : hc / 2^k = 1 :=
    Nat.div_eq_of_lt_le (by rw [Nat.one_mul]; exact hlo) (by rw [Nat.pow_succ] at hhi; omega)
  have := Nat.div_add_mod hc (2^k)
  rw [hd] at this; omega

theorem quantilesV_eq_chunkPos {c : Cfg} {hc k : Nat} {comp : List Nat}
    (hlo : 2^k ≤ hc) (hhi : hc < 2^(k + 1)) (hW : hc < 2^c.W) (hw : Words c.W comp)
    (Ps : List Nat) (hPs : ∀ P ∈ Ps, 1 ≤ P ∧ P ≤ c.W) :
    quantilesV c Ps hc comp =
      (chunkPosV c.W Ps (headPos k) 0 comp.length).map (valOf (bitOf hc comp)) := by
  exact quantilesV_eq_chunks (bitOf_lt hc comp) Ps (headPos k) 0 hc comp hPs hw
    (fun i b => by rw [Nat.zero_add]; rfl) (markVal_headPos hlo hhi comp) hW

theorem quantiles_eq_chunks {c : Cfg} (hv : CValid c) {hc k : Nat} {comp : List Nat}
    (hlo : 2^k ≤ hc) (hhi : hc < 2^(k + 1)) (hW : hc < 2^c.W) (hw : Words c.W comp) (n : Nat) :
    quantiles c n hc comp =
      (chunkPosV c.W (List.replicate n c.P) (headPos k) 0 comp.length).map
        (valOf (bitOf hc comp)) := by
  rw [quantiles_eq_quantilesV hv n hc comp (Nat.le_trans (Nat.two_pow_pos k) hlo) hW hw]
  exact quantilesV_eq_chunkPos hlo hhi hW hw _ (replicate_prec_ok hv n)

/-- two bit buffers hold the same number of leftover bits -/
def SameShape (a b : Nat) : Prop := ∀ k, a < 2^k ↔ b < 2^k

theorem SameShape.refl (a : Nat) : SameShape a a := fun _ => Iff.rfl

theorem SameShape.of_bits {a b k : Nat} (ha : 2^k ≤ a) (ha' : a < 2^(k + 1)) (hb : 2^k ≤ b)
    (hb' : b < 2^(k + 1)) : SameShape a b := by
  intro j
  rcases Nat.lt_or_ge k j with h | h
  · have := pow_le_pow2 (Nat.succ_le_of_lt h)
    exact ⟨fun _ => Nat.lt_of_lt_of_le hb' this, fun _ => Nat.lt_of_lt_of_le ha' this⟩
  · have := pow_le_pow2 h
    exact ⟨fun h' => absurd (Nat.le_trans this ha) (Nat.not_le.mpr h'),
      fun h' => absurd (Nat.le_trans this hb) (Nat.not_le.mpr h')⟩

theorem SameShape.bits {a b k : Nat} (hs : SameShape a b) (ha : 2^k ≤ a) (ha' : a < 2^(k + 1)) :
    2^k ≤ b ∧ b < 2^(k + 1) :=
  ⟨Nat.le_of_not_lt fun h => absurd ((hs _).mpr h) (Nat.not_lt.mpr ha), (hs _).mp ha'⟩

/-- **Whether and when the coder runs out of data depends only on the amount of data**: the
    number of chunks is the number of position lists. -/
theorem quantiles_length_shape {c : Cfg} (hv : CValid c) (n : Nat) {hc hc' : Nat}
    {comp comp' : List Nat} (h1 : 1 ≤ hc) (h2 : hc < 2^c.W) (h2' : hc' < 2^c.W)
    (hw : Words c.W comp) (hw' : Words c.W comp')
    (hs : SameShape hc hc') (hl : comp.length = comp'.length) :
    (quantiles c n hc comp).length = (quantiles c n hc' comp').length := by
  obtain ⟨hlo, hhi⟩ := (Nat.log2_eq_iff (Nat.ne_of_gt h1)).mp rfl
  obtain ⟨hlo', hhi'⟩ := hs.bits hlo hhi
  rw [quantiles_eq_chunks hv hlo hhi h2 hw, quantiles_eq_chunks hv hlo' hhi' h2' hw', hl]
  simp

theorem headPos_ok (k idx : Nat) : (headPos k).Nodup ∧ ∀ q ∈ headPos k, Pos.Old idx q := by
  refine ⟨seg_nodup (fun a b h => by injection h) _ _, ?_⟩
  intro q hq
  obtain ⟨t, _, rfl⟩ := mem_seg.mp hq
  trivial

theorem chunkPosV_disjoint {W : Nat} {Ps : List Nat} {L : List Pos} {idx m : Nat}
    (hPs : ∀ P ∈ Ps, P ≤ W) (hnd : L.Nodup) (hold : ∀ q ∈ L, Pos.Old idx q)
    {i j : Nat} (hij : i ≠ j) {a b : List Pos}
    (ha : (chunkPosV W Ps L idx m)[i]? = some a) (hb : (chunkPosV W Ps L idx m)[j]? = some b) :
    ∀ q ∈ a, q ∉ b := by
  have hpw := (chunkPosV_wf W Ps L idx m hPs hnd hold).1
  rw [List.pairwise_iff_getElem] at hpw
  obtain ⟨hi, rfl⟩ := List.getElem?_eq_some_iff.mp ha
  obtain ⟨hj, rfl⟩ := List.getElem?_eq_some_iff.mp hb
  intro q hqa hqb
  rcases Nat.lt_or_ge i j with h | h
  · exact hpw i j hi hj h q hqa hqb
  · exact hpw j i hj hi (by omega) q hqb hqa

theorem quantilesV_flip {c : Cfg} (Ps : List Nat) (hPs : ∀ P ∈ Ps, 1 ≤ P ∧ P ≤ c.W)
    {hc hc' k : Nat} {comp comp' : List Nat}
    (hlo : 2^k ≤ hc) (hhi : hc < 2^(k + 1)) (hW : hc < 2^c.W) (hw : Words c.W comp)
    (hs : SameShape hc hc') (hW' : hc' < 2^c.W) (hw' : Words c.W comp')
    (hlen : comp.length = comp'.length) (j : Nat)
    (hsame : ∀ q, q ∉ ((chunkPosV c.W Ps (headPos k) 0 comp.length)[j]?).getD [] →
      bitOf hc comp q = bitOf hc' comp' q) :
    (quantilesV c Ps hc comp).length = (quantilesV c Ps hc' comp').length ∧
    ∀ i : Nat, i ≠ j → (quantilesV c Ps hc comp)[i]? = (quantilesV c Ps hc' comp')[i]? := by
  obtain ⟨hlo', hhi'⟩ := hs.bits hlo hhi
  rw [quantilesV_eq_chunkPos hlo hhi hW hw Ps hPs, quantilesV_eq_chunkPos hlo' hhi' hW' hw' Ps hPs,
    ← hlen]
  refine ⟨by simp, fun i hij => ?_⟩
  simp only [List.getElem?_map]
  cases hch : (chunkPosV c.W Ps (headPos k) 0 comp.length)[i]? with
  | none => rfl
  | some a =>
    simp only [Option.map_some]
    congr 1
    refine valOf_congr fun q hq => hsame q ?_
    cases hcj : (chunkPosV c.W Ps (headPos k) 0 comp.length)[j]? with
    | none => simp
    | some b =>
      exact chunkPosV_disjoint (fun P h => (hPs P h).2) (headPos_ok k 0).1 (headPos_ok k 0).2
        hij hch hcj q hq

/-! ## per-symbol precision: schedules with `change_precision` in between -/

/-- the precision in force at each decode step of a schedule started at precision `P` -/
def decPrecs {Sym : Type} (P : Nat) : List (Step Sym) → List Nat
  | [] => []
  | .dec _ _ :: r => P :: decPrecs P r
  | .prec q :: r => decPrecs q r

def decModels {Sym : Type} : List (Step Sym) → List (Model Sym)
  | [] => []
  | .dec _ m :: r => m :: decModels r
  | .prec _ :: r => decModels r

/-- the symbols recorded in a log, oldest first -/
def logSyms {Sym : Type} : List (Done Sym) → List Sym
  | [] => []
  | .dec _ _ s :: r => s :: logSyms r
  | .prec _ :: r => logSyms r

theorem getElem?_of_take {α : Type} {l : List α} {n i : Nat} {v : α}
    (h : (l.take n)[i]? = some v) : l[i]? = some v := by
  rw [List.getElem?_take] at h
  split at h
  · exact h
  · cases h

theorem quantilesV_withP (c : Cfg) (q : Nat) :
    ∀ (Ps : List Nat) (hc : Nat) (comp : List Nat),
      quantilesV (withP c q) Ps hc comp = quantilesV c Ps hc comp := by
  intro Ps
  induction Ps with
  | nil => intros; rfl
  | cons P Ps ih =>
    intro hc comp
    simp only [quantilesV, withP_withP]
    cases takeChunk (withP c P) hc comp with
    | error e => rfl
    | ok r => obtain ⟨w, a, b⟩ := r; simp only [ih]

/-- **Locality for schedules, including runs that stop early**: the symbols decoded are a prefix
    of `zipWith (m.dec q).1 qs models`, `qs` the chunks for the per-symbol precisions; a decode
    step fails exactly when the chunks have run out; neither the remainders side nor the
    precision changes feed back. -/
theorem locality_scheduleE {Sym : Type} :
    ∀ (steps : List (Step Sym)) (c : Cfg) (x : Coder),
      PrecOk c.W c.S c.P → StepsOk c steps → Inv c x →
      logSyms (runDecE c steps x).1 =
        (List.zipWith (fun q m => (m.dec q).1)
          (quantilesV c (decPrecs c.P steps) x.heads.compressed x.compressed) (decModels steps)).take
          (logSyms (runDecE c steps x).1).length ∧
      (∀ e, (runDecE c steps x).2.2.2 = some (.inl e) → e = .outOfData ∧
        (logSyms (runDecE c steps x).1).length =
          (quantilesV c (decPrecs c.P steps) x.heads.compressed x.compressed).length) ∧
      (∀ e, (runDecE c steps x).2.2.2 = some (.inr e) → e = .outOfRemainders) ∧
      ((runDecE c steps x).2.2.2 = none →
        (quantilesV c (decPrecs c.P steps) x.heads.compressed x.compressed).length
          = (decModels steps).length ∧
        (logSyms (runDecE c steps x).1).length = (decModels steps).length) := by
  intro steps
  induction steps with
  | nil =>
    intro c x _ _ _
    simp [runDecE, logSyms, decPrecs, decModels, quantilesV]
  | cons st rest ih =>
    intro c x hP hok hx
    cases st with
    | dec B m =>
      obtain ⟨hv, hm, hrest⟩ := hok
      rcases decode_spec hv hm hx with
        ⟨herr, _, _, htk⟩ | ⟨s, y1, word, hdec, hstep⟩
      · have htk2 : takeChunk (withP c c.P) x.heads.compressed x.compressed
            = .error .outOfData := htk
        simp [runDecE, herr, logSyms, decPrecs, decModels, quantilesV, htk2]
      · obtain ⟨ih1, ih2, ih3, ih4⟩ := ih c y1 hP hrest hstep.inv
        have hq : quantileOf (withB c B) word = word % 2^c.P := quantileOf_eq hv hstep.word_lt
        have htk2 : takeChunk (withP c c.P) x.heads.compressed x.compressed
            = .ok (word, y1.heads.compressed, y1.compressed) := hstep.chunk
        simp only [runDecE, hdec, logSyms, decPrecs, decModels, quantilesV, htk2,
          List.zipWith_cons_cons, List.length_cons, List.take_succ_cons]
        refine ⟨?_, ?_, ih3, ?_⟩
        · rw [← ih1, hstep.symbol, hq]
        · intro e he
          exact ⟨(ih2 e he).1, congrArg (· + 1) (ih2 e he).2⟩
        · intro he
          obtain ⟨h1, h2⟩ := ih4 he
          exact ⟨congrArg (· + 1) h1, congrArg (· + 1) h2⟩
    | prec q =>
      obtain ⟨hq, hrest⟩ := hok
      rcases changePrecision_spec hP hq hx with ⟨herr, _⟩ | ⟨y1, hcp, hy1, hcomp, hhead, _⟩
      · simp [runDecE, herr, logSyms]
      · obtain ⟨ih1, ih2, ih3, ih4⟩ := ih (withP c q) y1 hq hrest hy1
        simp only [withP_P, quantilesV_withP, hcomp, hhead] at ih1 ih2 ih3 ih4
        simp only [runDecE, hcp, logSyms, decPrecs, decModels]
        exact ⟨ih1, ih2, ih3, ih4⟩

theorem decPrecs_ok {Sym : Type} :
    ∀ (steps : List (Step Sym)) (c : Cfg), StepsOk c steps →
      ∀ P ∈ decPrecs c.P steps, 1 ≤ P ∧ P ≤ c.W := by
  intro steps
  induction steps with
  | nil => intro c _ P h; simp [decPrecs] at h
  | cons st rest ih =>
    intro c hok P hP
    cases st with
    | dec B m =>
      obtain ⟨hv, _, hrest⟩ := hok
      simp only [decPrecs, List.mem_cons] at hP
      rcases hP with rfl | hP
      · exact ⟨hv.1, hv.precOk.2.1⟩
      · exact ih c hrest P hP
    | prec q =>
      obtain ⟨_, hrest⟩ := hok
      simp only [decPrecs] at hP
      exact ih (withP c q) hrest P hP

end CV.Chain
