import CV.Proofs.CatValidate
/-!
# The specification every integer entropy model is compared with

`ext = [0 = c₀ < c₁ < … < cₙ = 2^P]` is the *unwrapped* extended cdf (the last entry is `2^P`
even if `P = B`); `specModel ext` tiles `[0, 2^P)` by the bins `[cᵢ, cᵢ₊₁)`.  Every
representation in the crate is shown (`CatContiguous`, `CatNonContiguous`, `CatLookup`,
`CatUniform`) to compute `specModel ext` up to relabelling, which gives C03 and C05 at once.
-/
namespace CV.Cat
open CV

def ValidExt (P : Nat) (ext : List Nat) : Prop :=
  3 ≤ ext.length ∧ ext.getD 0 0 = 0 ∧ ext.getD (ext.length - 1) 0 = 2 ^ P ∧
    ext.Pairwise (· < ·)

def specEnc (ext : List Nat) (s : Nat) : Option (Nat × Nat) :=
  if s + 1 < ext.length then some (ext.getD s 0, ext.getD (s + 1) 0 - ext.getD s 0) else none

/-- index of the bin that contains `q`: one before the first boundary above `q` -/
def specIdx (ext : List Nat) (q : Nat) : Nat := ext.findIdx (fun x => decide (q < x)) - 1

def specDec (ext : List Nat) (q : Nat) : Nat × Nat × Nat :=
  (specIdx ext q, ext.getD (specIdx ext q) 0,
    ext.getD (specIdx ext q + 1) 0 - ext.getD (specIdx ext q) 0)

def specModel (ext : List Nat) : Model Nat := { enc := specEnc ext, dec := specDec ext }

def InBin (ext : List Nat) (i q : Nat) : Prop :=
  i + 1 < ext.length ∧ ext.getD i 0 ≤ q ∧ q < ext.getD (i + 1) 0

theorem pairwise_getD {l : List Nat} (h : l.Pairwise (· < ·)) {i j : Nat} (hij : i < j)
    (hj : j < l.length) : l.getD i 0 < l.getD j 0 := by
  have hi : i < l.length := Nat.lt_trans hij hj
  rw [getD_of_lt hi, getD_of_lt hj]
  exact List.pairwise_iff_getElem.mp h i j hi hj hij

theorem pairwise_getD_le {l : List Nat} (h : l.Pairwise (· < ·)) {i j : Nat} (hij : i ≤ j)
    (hj : j < l.length) : l.getD i 0 ≤ l.getD j 0 := by
  rcases Nat.eq_or_lt_of_le hij with rfl | hlt
  · exact Nat.le_refl _
  · exact Nat.le_of_lt (pairwise_getD h hlt hj)

theorem InBin.unique {ext : List Nat} (h : ext.Pairwise (· < ·)) {i j q : Nat}
    (hi : InBin ext i q) (hj : InBin ext j q) : i = j := by
  obtain ⟨hi1, hi2, hi3⟩ := hi
  obtain ⟨hj1, hj2, hj3⟩ := hj
  rcases Nat.lt_trichotomy i j with hlt | heq | hgt
  · exact absurd (Nat.lt_of_lt_of_le hi3 (Nat.le_trans
      (pairwise_getD_le h (Nat.succ_le_of_lt hlt) (Nat.lt_of_succ_lt hj1)) hj2)) (Nat.lt_irrefl q)
  · exact heq
  · exact absurd (Nat.lt_of_lt_of_le hj3 (Nat.le_trans
      (pairwise_getD_le h (Nat.succ_le_of_lt hgt) (Nat.lt_of_succ_lt hi1)) hi2)) (Nat.lt_irrefl q)

theorem specIdx_inBin {P : Nat} {ext : List Nat} (h : ValidExt P ext) {q : Nat} (hq : q < 2 ^ P) :
    InBin ext (specIdx ext q) q := by
  obtain ⟨hlen, h0, hlast, hpw⟩ := h
  have hpos : 0 < ext.length := Nat.lt_of_lt_of_le (by decide) hlen
  -- the last boundary `2^P` is above `q` …
  have hex : ext.findIdx (fun x => decide (q < x)) < ext.length := by
    rw [List.findIdx_lt_length]
    refine ⟨ext.getD (ext.length - 1) 0, ?_, ?_⟩
    · rw [getD_of_lt (Nat.sub_lt hpos Nat.one_pos)]; exact List.getElem_mem _
    · rw [hlast]; exact decide_eq_true hq
  have hk := List.findIdx_getElem (w := hex)
  simp only [decide_eq_true_eq] at hk
  -- … and the first boundary `0` is not
  have hkpos : 0 < ext.findIdx (fun x => decide (q < x)) := by
    rcases Nat.eq_zero_or_pos (ext.findIdx (fun x => decide (q < x))) with hz | hp
    · have h00 : ext[0]'hpos = 0 := by rw [← getD_of_lt (d := 0) hpos]; exact h0
      simp only [hz, h00] at hk
      exact absurd hk (Nat.not_lt_zero q)
    · exact hp
  have hsucc := Nat.sub_add_cancel hkpos
  have hbelow := List.not_of_lt_findIdx (p := fun x => decide (q < x)) (xs := ext)
    (i := ext.findIdx (fun x => decide (q < x)) - 1) (Nat.sub_lt hkpos Nat.one_pos)
  simp only [decide_eq_false_iff_not, Nat.not_lt] at hbelow
  unfold specIdx
  refine ⟨hsucc.symm ▸ hex, ?_, ?_⟩
  · rw [getD_of_lt (Nat.lt_of_le_of_lt (Nat.sub_le _ _) hex)]; exact hbelow
  · rw [hsucc, getD_of_lt hex]; exact hk

theorem ValidExt.le_total {P : Nat} {ext : List Nat} (h : ValidExt P ext) {i : Nat}
    (hi : i < ext.length) : ext.getD i 0 ≤ 2 ^ P := by
  obtain ⟨hlen, h0, hlast, hpw⟩ := h
  rw [← hlast]
  exact pairwise_getD_le hpw (Nat.le_sub_one_of_lt hi)
    (Nat.sub_lt (Nat.zero_lt_of_lt hi) Nat.one_pos)

theorem ValidExt.inner_lt {P : Nat} {ext : List Nat} (h : ValidExt P ext) {i : Nat}
    (hi : i + 1 < ext.length) : ext.getD i 0 < 2 ^ P := by
  obtain ⟨hlen, h0, hlast, hpw⟩ := h
  rw [← hlast]
  exact pairwise_getD hpw (Nat.lt_sub_of_add_lt hi) (Nat.sub_lt (Nat.zero_lt_of_lt hi) Nat.one_pos)

theorem ValidExt.bin {P : Nat} {ext : List Nat} (h : ValidExt P ext) {s : Nat}
    (hs : s + 1 < ext.length) :
    ext.getD s 0 < ext.getD (s + 1) 0 ∧ ext.getD (s + 1) 0 ≤ 2 ^ P ∧
      ext.getD (s + 1) 0 - ext.getD s 0 < 2 ^ P := by
  have hle := h.le_total (i := s + 1) hs
  obtain ⟨hlen, h0, hlast, hpw⟩ := h
  have hlt := pairwise_getD hpw (Nat.lt_succ_self s) hs
  refine ⟨hlt, hle, ?_⟩
  -- with at least two bins, either the bin does not start at `0` or it does not end at `2^P`
  rcases Nat.eq_zero_or_pos s with rfl | hp
  · rw [← hlast]
    exact Nat.lt_of_le_of_lt (Nat.sub_le _ _) (pairwise_getD hpw
      (Nat.lt_sub_of_add_lt (Nat.lt_of_lt_of_le (by decide) hlen))
      (Nat.sub_lt (Nat.zero_lt_of_lt hs) Nat.one_pos))
  · have hpos : 0 < ext.getD s 0 :=
      Nat.lt_of_le_of_lt (Nat.zero_le _) (pairwise_getD hpw hp (Nat.lt_of_succ_lt hs))
    exact Nat.lt_of_lt_of_le (Nat.sub_lt (Nat.lt_trans hpos hlt) hpos) hle

theorem specDec_eq_of_inBin {P : Nat} {ext : List Nat} (h : ValidExt P ext) {i q : Nat}
    (hin : InBin ext i q) :
    specDec ext q = (i, ext.getD i 0, ext.getD (i + 1) 0 - ext.getD i 0) := by
  have hq : q < 2 ^ P := Nat.lt_of_lt_of_le hin.2.2 (h.le_total hin.1)
  unfold specDec
  rw [InBin.unique h.2.2.2 (specIdx_inBin h hq) hin]

/-- **C03 for the specification** -/
theorem specModel_wellFormed {P : Nat} {ext : List Nat} (h : ValidExt P ext) :
    (specModel ext).WellFormed P := by
  constructor
  · intro s c p henc
    simp only [specModel, specEnc] at henc
    split at henc
    · rename_i hs
      simp only [Option.some.injEq, Prod.mk.injEq] at henc
      obtain ⟨rfl, rfl⟩ := henc
      obtain ⟨b1, b2, b3⟩ := h.bin hs
      have hw := Nat.add_sub_cancel' (Nat.le_of_lt b1)
      refine ⟨Nat.sub_pos_of_lt b1, Nat.le_trans (Nat.le_of_eq hw) b2, b3, ?_⟩
      intro q hq1 hq2
      rw [hw] at hq2
      simp only [specModel, specDec_eq_of_inBin h ⟨hs, hq1, hq2⟩]
    · simp at henc
  · intro q hq
    obtain ⟨i1, i2, i3⟩ := specIdx_inBin h hq
    simp only [specModel, specDec, specEnc, if_pos i1]
    refine ⟨trivial, i2, ?_⟩
    rw [Nat.add_sub_cancel' (Nat.le_of_lt (Nat.lt_of_le_of_lt i2 i3))]
    exact i3

theorem specEnc_none {ext : List Nat} {s : Nat} (hs : ext.length ≤ s + 1) : specEnc ext s = none := by
  simp [specEnc]; omega

/-- the model with bin `i` labelled `labels[i]` -/
def labelledModel {Sym : Type} [DecidableEq Sym] [Inhabited Sym] (labels : List Sym)
    (ext : List Nat) : Model Sym where
  enc s := if s ∈ labels then specEnc ext (labels.idxOf s) else none
  dec q := (labels.getD (specIdx ext q) default, (specDec ext q).2.1, (specDec ext q).2.2)

theorem labelledModel_wellFormed {Sym : Type} [DecidableEq Sym] [Inhabited Sym] {P : Nat}
    {labels : List Sym} {ext : List Nat} (h : ValidExt P ext) (hlen : labels.length + 1 = ext.length)
    (hnd : labels.Nodup) : (labelledModel labels ext).WellFormed P := by
  have hw := specModel_wellFormed h
  constructor
  · intro s c p henc
    simp only [labelledModel] at henc
    split at henc
    · rename_i hmem
      obtain ⟨a1, a2, a3, a4⟩ := hw.1 _ c p henc
      refine ⟨a1, a2, a3, ?_⟩
      intro q hq1 hq2
      have := a4 q hq1 hq2
      simp only [specModel, specDec, Prod.mk.injEq] at this
      simp only [labelledModel, specDec, Prod.mk.injEq]
      refine ⟨?_, this.2.1, this.2.2⟩
      rw [this.1]
      have hi : labels.idxOf s < labels.length := List.idxOf_lt_length_of_mem hmem
      rw [getD_of_lt hi]
      exact List.getElem_idxOf hi
    · simp at henc
  · intro q hq
    obtain ⟨b1, b2, b3⟩ := hw.2 q hq
    obtain ⟨i1, _, _⟩ := specIdx_inBin h hq
    have hi : specIdx ext q < labels.length := by omega
    simp only [labelledModel]
    have hmem : labels.getD (specIdx ext q) default ∈ labels := by
      rw [getD_of_lt hi]; exact List.getElem_mem _
    rw [if_pos hmem]
    have hidx : labels.idxOf (labels.getD (specIdx ext q) default) = specIdx ext q := by
      rw [getD_of_lt hi]
      exact hnd.idxOf_getElem _ hi
    rw [hidx]
    exact ⟨b1, b2, b3⟩

end CV.Cat
