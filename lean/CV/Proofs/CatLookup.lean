import CV.Proofs.CatNonContiguous
/-!
# Lookup decoder models

`LookupOK P ext tbl`: entry `q` of the `2^P` entries is the index of the bin that contains `q`.
All three loops that build lookup tables (`from_nonzero_fixed_point_probabilities`,
`from_symbol_table`, `From<&ContiguousCategoricalEntropyModel>`) establish it; from it the
unchecked indexing in `quantile_function` is in bounds.
-/
namespace CV.Cat
open CV

def LookupOK (P : Nat) (ext : List Nat) (tbl : Array Nat) : Prop :=
  tbl.size = 2 ^ P ∧ ∀ q, q < 2 ^ P → tbl[q]? = some (specIdx ext q)

/-- loop invariant: bins `0 .. i-1` have been written -/
def LookupInv (ext : List Nat) (i : Nat) (tbl : Array Nat) : Prop :=
  tbl.size = ext.getD i 0 ∧ ∀ q, q < tbl.size → tbl[q]? = some (specIdx ext q)

theorem LookupInv.zero {P : Nat} {ext : List Nat} (h : ValidExt P ext) : LookupInv ext 0 #[] := by
  refine ⟨by rw [h.2.1]; rfl, ?_⟩
  intro q hq; simp at hq

theorem ValidExt.index_le {P : Nat} {ext : List Nat} (h : ValidExt P ext) :
    ∀ i, i < ext.length → i ≤ ext.getD i 0 := by
  intro i
  induction i with
  | zero => intro _; exact Nat.zero_le _
  | succ i ih =>
    intro hi
    exact Nat.lt_of_le_of_lt (ih (Nat.lt_of_succ_lt hi))
      (pairwise_getD h.2.2.2 (Nat.lt_succ_self i) hi)

/-- one `resize` writes bin `i`, whose index fits into `Probability` since there are at most
    `2^P` bins -/
theorem LookupInv.step {B P : Nat} {ext : List Nat} (h : ValidExt P ext) (hP : P ≤ B) {i : Nat}
    {tbl : Array Nat} (hinv : LookupInv ext i tbl) (hi : i + 1 < ext.length) :
    LookupInv ext (i + 1) (vecResize tbl (ext.getD (i + 1) 0) (narrow B i)) := by
  obtain ⟨hsz, hval⟩ := hinv
  obtain ⟨b1, b2, _⟩ := h.bin hi
  have hiB : i < 2 ^ B := Nat.lt_of_le_of_lt (h.index_le i (Nat.lt_of_succ_lt hi))
    (Nat.lt_of_lt_of_le (h.inner_lt hi) (pow_le_pow2 hP))
  have hnew : tbl.size + (ext.getD (i + 1) 0 - tbl.size) = ext.getD (i + 1) 0 :=
    Nat.add_sub_cancel' (hsz ▸ Nat.le_of_lt b1)
  unfold vecResize
  rw [if_neg (hsz ▸ Nat.not_le.mpr b1)]
  refine ⟨by rw [Array.size_append, Array.size_replicate, hnew], ?_⟩
  intro q hq
  rw [Array.size_append, Array.size_replicate, hnew] at hq
  rw [Array.getElem?_append]
  by_cases hlt : q < tbl.size
  · rw [if_pos hlt]; exact hval q hlt
  · have hge : ext.getD i 0 ≤ q := hsz ▸ Nat.le_of_not_lt hlt
    rw [if_neg hlt, Array.getElem?_replicate,
      if_pos (Nat.sub_lt_sub_right (Nat.le_of_not_lt hlt) hq),
      InBin.unique h.2.2.2 (specIdx_inBin h (Nat.lt_of_lt_of_le hq b2)) ⟨hi, hge, hq⟩,
      narrow_of_lt hiB]

theorem LookupInv.final {P : Nat} {ext : List Nat} (h : ValidExt P ext) {tbl : Array Nat}
    (hinv : LookupInv ext (ext.length - 1) tbl) : LookupOK P ext tbl := by
  obtain ⟨hsz, hval⟩ := hinv
  rw [h.2.2.1] at hsz
  exact ⟨hsz, fun q hq => hval q (by omega)⟩

/-- `quantile_function` of both lookup models -/
theorem lookupQuantile_eq {B P : Nat} {tbl : Array Nat} {cs : List Nat}
    (h : ValidCdf B P cs) (hP : P ≤ B) (hok : LookupOK P (unwrap P cs) tbl) {q : Nat}
    (hq : q < 2 ^ P) : lookupQuantile B P tbl cs q = .ok (specDec (unwrap P cs) q) := by
  unfold lookupQuantile
  rw [if_neg (fun hc => hc.2 hq), hok.2 q hq]
  simp only
  obtain ⟨l, r, e1, e2, e3, e4, e5⟩ := h.prob hP (h.length_eq ▸ (specIdx_inBin h.2 hq).1)
  rw [e1, e2]
  simp only
  rw [if_neg (Nat.ne_of_gt e5), e4, e3]
  rfl

/-- at `P = B` every quantile of type `Probability` is in range -/
theorem quantile_cases {B P q : Nat} (hqB : q < 2 ^ B) : q < 2 ^ P ∨ 2 ^ P ≤ q ∧ P < B :=
  (Nat.lt_or_ge q (2 ^ P)).imp_right fun h => ⟨h, lt_of_pow_le_lt h hqB⟩

/-- at `P < B` the model panics (a clean `assert!`, not UB) for quantiles `≥ 2^P` -/
theorem lookupQuantile_out_of_range {B P : Nat} {tbl : Array Nat} {cs : List Nat} {q : Nat}
    (hPB : B ≠ P) (hq : ¬ q < 2 ^ P) :
    lookupQuantile B P tbl cs q = .error (.panic "lookup.quantile_function.assert") := by
  unfold lookupQuantile
  rw [if_pos ⟨hPB, hq⟩]

/-- the loop of `From<&ContiguousCategoricalEntropyModel>` -/
theorem fromContigLoop_inv {B P : Nat} {ext : List Nat} (h : ValidExt P ext) (hP : P ≤ B) :
    ∀ (m i : Nat) (tbl : Array Nat), i + m + 2 = ext.length → LookupInv ext i tbl →
      LookupInv ext (ext.length - 2) (Lookup.fromContigLoop B (ext.dropLast.drop (i + 1)) i tbl) := by
  intro m
  induction m with
  | zero =>
    intro i tbl hi hinv
    rw [List.drop_eq_nil_of_le (by rw [List.length_dropLast]; omega),
      show ext.length - 2 = i by omega]
    exact hinv
  | succ m ih =>
    intro i tbl hi hinv
    have hlt : i + 1 < ext.dropLast.length := by rw [List.length_dropLast]; omega
    rw [List.drop_eq_getElem_cons hlt, dropLast_getElem_eq' hlt]
    exact ih (i + 1) _ (by omega) (hinv.step h hP (by omega))

/-- **`to_lookup_decoder_model`** never panics on a constructed contiguous model -/
theorem Lookup.fromContiguous_ok {B P : Nat} {m : Contiguous} (h : ValidCdf B P m.cdf) (hP : P ≤ B) :
    ∃ tbl, Lookup.fromContiguous B P m = .ok { tbl := tbl, cdf := m.cdf } ∧
      LookupOK P (unwrap P m.cdf) tbl := by
  have h3 := h.three_le
  have hl := h.length_eq
  unfold Lookup.fromContiguous
  rw [csub_ok (Nat.le_trans (by decide) h3)]
  simp only
  rw [if_neg (by omega), csub_ok (Nat.le_trans (by decide) h3)]
  simp only
  refine ⟨_, rfl, ?_⟩
  have hinner : (m.cdf.take (m.cdf.length - 1)).drop 1 = (unwrap P m.cdf).dropLast.drop (0 + 1) := by
    rw [← List.dropLast_eq_take]
    simp [unwrap]
  have hinv := fromContigLoop_inv h.2 hP ((unwrap P m.cdf).length - 2) 0 #[] (by omega)
    (LookupInv.zero h.2)
  -- the final `resize(1 << PRECISION, len - 2)` writes the last bin
  have hstep := hinv.step h.2 hP (by omega)
  rw [show (unwrap P m.cdf).length - 2 + 1 = (unwrap P m.cdf).length - 1 by omega, h.2.2.2.1] at hstep
  rw [hinner, ← hl]
  exact LookupInv.final h.2 hstep

/-- `NonContiguousLookupDecoderModel::from_symbol_table`: the `debug_assert_eq!` holds -/
theorem fromTableLoop_inv {Sym : Type} {B P : Nat} {ext : List Nat} (h : ValidExt P ext)
    (hP : P ≤ B) (lab : Nat → Sym) (dbg : Bool) :
    ∀ (m i : Nat) (cdf : List (Nat × Sym)) (tbl : Array Nat), i + m + 1 = ext.length →
      cdf.length = i → LookupInv ext i tbl →
      ∃ tbl', NcLookup.fromTableLoop B dbg ((specTable lab ext).drop i) cdf tbl =
          .ok (cdf ++ (cdfRows lab ext).drop i, tbl') ∧ LookupInv ext (ext.length - 1) tbl' := by
  have hPB := pow_le_pow2 hP
  intro m
  induction m with
  | zero =>
    intro i cdf tbl hi hc hinv
    have hl : ext.length - 1 = i := Nat.sub_eq_of_eq_add hi.symm
    rw [List.drop_eq_nil_of_le (by rw [specTable_length, hl]; exact Nat.le_refl i),
      List.drop_eq_nil_of_le (by rw [cdfRows_length, hl]; exact Nat.le_refl i), hl, List.append_nil]
    exact ⟨tbl, rfl, hinv⟩
  | succ m ih =>
    intro i cdf tbl hi hc hinv
    have hi1 : i + 1 < ext.length := by omega
    rw [specTable_drop lab ext (Nat.lt_sub_of_add_lt hi1)]
    simp only [NcLookup.fromTableLoop]
    obtain ⟨b1, b2, _⟩ := h.bin hi1
    have hsz : narrow B tbl.size = ext.getD i 0 := by
      rw [hinv.1]; exact narrow_of_lt (Nat.lt_of_lt_of_le (Nat.lt_of_lt_of_le b1 b2) hPB)
    rw [if_neg (by rw [hsz]; simp)]
    have hnew : tbl.size + (ext.getD (i + 1) 0 - ext.getD i 0) = ext.getD (i + 1) 0 := by
      rw [hinv.1]; exact Nat.add_sub_cancel' (Nat.le_of_lt b1)
    rw [hnew, hc, hsz]
    obtain ⟨tbl', e1, e2⟩ := ih (i + 1) (cdf ++ [(ext.getD i 0, lab i)]) _ (by omega)
      (by simp [hc]) (hinv.step h hP hi1)
    refine ⟨tbl', ?_, e2⟩
    rw [e1, cdfRows_drop lab ext (Nat.lt_sub_of_add_lt hi1)]
    simp

theorem fromTableLoop_specTable {Sym : Type} {B P : Nat} {ext : List Nat} (h : ValidExt P ext)
    (hP : P ≤ B) (lab : Nat → Sym) (dbg : Bool) :
    ∃ tbl, NcLookup.fromTableLoop B dbg (specTable lab ext) [] #[] =
        .ok (ext.dropLast.zip (labelsOf lab (ext.length - 1)), tbl) ∧ LookupOK P ext tbl := by
  obtain ⟨tbl, f1, f2⟩ := fromTableLoop_inv h hP lab dbg (ext.length - 1) 0 [] #[]
    (by have := h.1; omega) rfl (LookupInv.zero h)
  rw [List.drop_zero, List.nil_append] at f1
  exact ⟨tbl, f1, LookupInv.final h f2⟩

/-- the closure of the non-contiguous `from_symbols_and_nonzero_fixed_point_probabilities` is
    the body of that loop without the assertion -/
theorem foldOp_ncPushOp {Sym : Type} (B : Nat) (t : List (Sym × Nat × Nat))
    (cdf : List (Nat × Sym)) (tbl : Array Nat) :
    foldOp (NcLookup.pushOp B) (cdf, tbl) t = (NcLookup.fromTableLoop B false t cdf tbl).toOption := by
  induction t generalizing cdf tbl with
  | nil => rfl
  | cons x t ih =>
    obtain ⟨s, l, p⟩ := x
    simp only [foldOp, NcLookup.pushOp, NcLookup.fromTableLoop]
    rw [if_neg (by simp)]
    exact ih _ _

/-- the closure of the contiguous constructor is the non-contiguous one with the symbols
    forgotten -/
theorem foldOp_pushOp (B : Nat) (t : List (Unit × Nat × Nat)) (cdf : List (Nat × Unit))
    (tbl : Array Nat) :
    foldOp (Lookup.pushOp B) (cdf.map (·.1), tbl) t =
      (foldOp (NcLookup.pushOp B) (cdf, tbl) t).map fun r => (r.1.map (·.1), r.2) := by
  induction t generalizing cdf tbl with
  | nil => rfl
  | cons x t ih =>
    obtain ⟨s, l, p⟩ := x
    simp only [foldOp, Lookup.pushOp, NcLookup.pushOp, List.length_map]
    rw [← ih]
    simp only [List.map_append, List.map_cons, List.map_nil]

theorem foldOp_ncPushOp_specTable {Sym : Type} {B P : Nat} {ext : List Nat} (h : ValidExt P ext)
    (hP : P ≤ B) (lab : Nat → Sym) :
    ∃ tbl, foldOp (NcLookup.pushOp B) ([], #[]) (specTable lab ext) =
        some (ext.dropLast.zip (labelsOf lab (ext.length - 1)), tbl) ∧ LookupOK P ext tbl := by
  obtain ⟨tbl, e, hok⟩ := fromTableLoop_specTable h hP lab false
  exact ⟨tbl, by rw [foldOp_ncPushOp, e]; rfl, hok⟩

theorem foldOp_pushOp_specTable {B P : Nat} {ext : List Nat} (h : ValidExt P ext)
    (hP : P ≤ B) (lab : Nat → Unit) :
    ∃ tbl, foldOp (Lookup.pushOp B) ([], #[]) (specTable lab ext) = some (ext.dropLast, tbl) ∧
      LookupOK P ext tbl := by
  obtain ⟨tbl, e, hok⟩ := foldOp_ncPushOp_specTable h hP lab
  refine ⟨tbl, ?_, hok⟩
  rw [show (([] : List Nat), (#[] : Array Nat)) = (([] : List (Nat × Unit)).map (·.1), #[]) from rfl,
    foldOp_pushOp, e, Option.map_some, List.map_fst_zip (by rw [List.length_dropLast, labelsOf_length]; exact Nat.le_refl _)]

/-- **C19 for `ContiguousLookupDecoderModel::from_nonzero_fixed_point_probabilities`** -/
theorem Lookup.fromFixed_some {B P : Nat} {probs : List Nat} {infer : Bool} {m : Lookup}
    (hP1 : 1 ≤ P) (hP : P ≤ B) (hprobs : ∀ p ∈ probs, p < 2 ^ B)
    (h : Lookup.fromNonzeroFixedPoint B P probs infer = some m) :
    ValidProbs P (fullTable P probs infer) ∧
      m.cdf = wrapCdf B P (extOf (fullTable P probs infer)) ∧ ValidCdf B P m.cdf ∧
      LookupOK P (unwrap P m.cdf) m.tbl := by
  unfold Lookup.fromNonzeroFixedPoint at h
  cases hacc : accumulate B P (Lookup.pushOp B) (.rep ()) probs (([] : List Nat), (#[] : Array Nat))
      infer with
  | none => simp [hacc] at h
  | some r =>
    obtain ⟨rest, cdf, tbl⟩ := r
    simp only [hacc, Option.some.injEq] at h
    obtain ⟨hv, ss, hts, hfold⟩ := (accumulate_eq_some_iff hP1 hP hprobs).mp hacc
    generalize fullTable P probs infer = qs at hv hts hfold ⊢
    have hext := extOf_valid hv
    rw [triples_eq_specTable (takeSyms_length hts)] at hfold
    obtain ⟨tbl', e1, e2⟩ := foldOp_pushOp_specTable (B := B) hext hP (fun i => ss.getD i default)
    rw [e1] at hfold
    simp only [Option.some.injEq, Prod.mk.injEq] at hfold
    have hcdf : m.cdf = wrapCdf B P (extOf qs) := by rw [← h]; simp only [wrapCdf, ← hfold.1]
    refine ⟨hv, hcdf, hcdf ▸ wrapCdf_valid hext, ?_⟩
    rw [hcdf, unwrap_wrapCdf hext, ← h]
    simp only [← hfold.2]
    exact e2

theorem Lookup.dec_eq {B P : Nat} {m : Lookup} (h : ValidCdf B P m.cdf) (hP : P ≤ B)
    (hok : LookupOK P (unwrap P m.cdf) m.tbl) {q : Nat} (hq : q < 2 ^ P) :
    m.dec B P q = .ok (specDec (unwrap P m.cdf) q) := lookupQuantile_eq h hP hok hq

theorem Lookup.table_eq {B P : Nat} {m : Lookup} (h : ValidCdf B P m.cdf) (hP : P ≤ B) :
    m.table B = .ok (specTable id (unwrap P m.cdf)) :=
  Contiguous.table_eq (m := { cdf := m.cdf }) h hP

/-- **C19 for `NonContiguousLookupDecoderModel::from_symbols_and_nonzero_fixed_point_
    probabilities`**: never panics -/
theorem NcLookup.fromFixed_some {Sym : Type} [Inhabited Sym] {B P : Nat} {syms : List Sym}
    {probs : List Nat} {infer : Bool} (hP1 : 1 ≤ P) (hP : P ≤ B) (hprobs : ∀ p ∈ probs, p < 2 ^ B) :
    (NcLookup.fromSymbolsAndNonzeroFixedPoint B P syms probs infer = .ok none) ∨
    ∃ m last, NcLookup.fromSymbolsAndNonzeroFixedPoint B P syms probs infer = .ok (some m) ∧
      ValidProbs P (fullTable P probs infer) ∧
      syms.length = (fullTable P probs infer).length ∧
      m.cdf = ncCdf B P syms (extOf (fullTable P probs infer)) last ∧
      LookupOK P (extOf (fullTable P probs infer)) m.tbl := by
  unfold NcLookup.fromSymbolsAndNonzeroFixedPoint
  cases hacc : accumulate B P (NcLookup.pushOp B) (.list syms) probs
      (([] : List (Nat × Sym)), (#[] : Array Nat)) infer with
  | none => left; rfl
  | some r =>
    obtain ⟨rest, cdf, tbl⟩ := r
    simp only
    obtain ⟨hv, ss, rem, e1, e2, e3, hfold⟩ := accumulate_list_some hP1 hP hprobs hacc
    generalize fullTable P probs infer = qs at hv e3 hfold ⊢
    have hext := extOf_valid hv
    rw [triples_eq_specTable e3] at hfold
    obtain ⟨tbl', f1, f2⟩ := foldOp_ncPushOp_specTable (B := B) hext hP (fun i => ss.getD i default)
    rw [f1] at hfold
    simp only [Option.some.injEq, Prod.mk.injEq] at hfold
    obtain ⟨hc, ht⟩ := hfold
    have hrows : cdf = (extOf qs).dropLast.zip ss := by
      rw [← hc, show (extOf qs).length - 1 = ss.length by rw [extOf_length]; omega,
        labelsOf_getD_self]
    obtain ⟨c, last, hl⟩ := getLast?_zip_some (as := (extOf qs).dropLast) (bs := ss)
      (by simp [extOf_dropLast, e3]) (by have := hv.1; omega)
    rw [← hrows] at hl
    rw [hl]
    simp only
    subst e2
    cases rem with
    | cons x rem => left; simp [SymIter.next]
    | nil =>
      right
      simp only [SymIter.next, List.append_nil] at e1 ⊢
      subst e1
      refine ⟨_, last, rfl, hv, e3, ?_, ?_⟩
      · simp only [ncCdf, hrows]
      · simp only [← ht]; exact f2

/-- **`to_generic_lookup_decoder_model` / `to_lookup_decoder_model`** on the specification's
    table: the `debug_assert` holds -/
theorem NcLookup.fromTableWith_specTable {Sym : Type} {B P : Nat} (lab : Nat → Sym) {ext : List Nat}
    (h : ValidExt P ext) (hP : P ≤ B) (dbg : Bool) :
    ∃ tbl last, NcLookup.fromTableWith B P dbg (specTable lab ext) =
      .ok { tbl := tbl, cdf := ncCdf B P (labelsOf lab (ext.length - 1)) ext last } ∧
      LookupOK P ext tbl := by
  have h3 := h.1
  unfold NcLookup.fromTableWith
  obtain ⟨tbl', f1, hok⟩ := fromTableLoop_specTable (B := B) h hP lab dbg
  rw [f1]
  simp only
  obtain ⟨c, last, hl⟩ := getLast?_zip_some (as := ext.dropLast)
    (bs := labelsOf lab (ext.length - 1)) (by rw [List.length_dropLast, labelsOf_length])
    (by rw [labelsOf_length]; omega)
  refine ⟨tbl', last, ?_, hok⟩
  simp only [hl, ncCdf]
  rw [if_neg (by rw [hok.1]; simp)]

theorem NcLookup.fromTable_specTable {Sym : Type} {B P : Nat} (lab : Nat → Sym) {ext : List Nat}
    (h : ValidExt P ext) (hP : P ≤ B) :
    ∃ tbl last, NcLookup.fromTable B P (specTable lab ext) =
      .ok { tbl := tbl, cdf := ncCdf B P (labelsOf lab (ext.length - 1)) ext last } ∧
      LookupOK P ext tbl :=
  NcLookup.fromTableWith_specTable lab h hP true

theorem NcLookup.dec_canon {Sym : Type} [DecidableEq Sym] [Inhabited Sym] {B P : Nat}
    {labels : List Sym} {ext : List Nat} {last : Sym} {tbl : Array Nat}
    (h : ValidExt P ext) (hlen : labels.length + 1 = ext.length) (hP : P ≤ B)
    (hok : LookupOK P ext tbl) {q : Nat} (hq : q < 2 ^ P) :
    NcLookup.dec B P { tbl := tbl, cdf := ncCdf B P labels ext last } q =
      .ok ((labelledModel labels ext).dec q) := by
  unfold NcLookup.dec
  obtain ⟨hv, hu⟩ := ncCdf_valid (B := B) (last := last) h hlen
  simp only
  rw [lookupQuantile_eq hv hP (by rw [hu]; exact hok) hq, hu]
  simp only [specDec]
  have hi : specIdx ext q < labels.length :=
    Nat.lt_of_add_lt_add_right (hlen ▸ (specIdx_inBin h hq).1)
  have hlab := ncCdf_label (B := B) (P := P) (last := last) hlen hi
  have hlt : specIdx ext q < (ncCdf B P labels ext last).length := by
    simp [ncCdf]; omega
  rw [getElem?_of_lt (d := default) hlt]
  simp only [labelledModel, specDec, hlab]

theorem NcLookup.table_canon {Sym : Type} [Inhabited Sym] {B P : Nat}
    {labels : List Sym} {ext : List Nat} {last : Sym} {tbl : Array Nat}
    (h : ValidExt P ext) (hlen : labels.length + 1 = ext.length) (hP : P ≤ B) :
    NcLookup.table B { tbl := tbl, cdf := ncCdf B P labels ext last } =
      .ok (specTable (fun i => labels.getD i default) ext) :=
  NcDec.table_canon h hlen hP

end CV.Cat
