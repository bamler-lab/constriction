import CV.Proofs.SoftFloatRound
import CV.Proofs.QuantModels
import CV.Proofs.QuantPerfect
/-!
# The float layer of the `…_fast` constructors and of the leaky quantizer on the software IEEE model

Hypotheses of the integer layer (`CV.Proofs.QuantModels`) proved for `fastSetup` on
`CV.Model.SoftFloat`, for every format, table, normalisation, `B`, `P`: TB-F1 (`soft_tbf1`: a
correctly rounded sum of a representable `c` and a non-negative `p` cannot round below `c`, and
scaling by one `scale`, of which nothing is assumed, then converting keeps the order), the lazy
encoder's sums from `-0.0` (`soft_hL_eq_hE`), `GOk` from the CDF contract (`leaky_gok_of_cdf`).
-/
namespace CV.Quant

/-- non-negative, not NaN: what `cumulative_float` can be -/
def SF.NN : SF → Prop
  | .fin false _ => True
  | .inf false => True
  | _ => False

def SF.nnLe : SF → SF → Prop
  | .fin false a, .fin false b => a ≤ b
  | .fin false _, .inf false => True
  | .inf false, .inf false => True
  | _, _ => False

def SF.RepSF (f : Fmt) : SF → Prop
  | .fin _ k => Rep f k
  | _ => True

theorem SF.NN.cases {c : SF} (h : c.NN) : c = .inf false ∨ ∃ k, c = .fin false k := by
  cases c with
  | nan => exact False.elim h
  | inf b => cases b with
    | false => exact Or.inl rfl
    | true => exact False.elim h
  | fin b k => cases b with
    | false => exact Or.inr ⟨k, rfl⟩
    | true => exact False.elim h

variable (f : Fmt)

theorem toUInt_le_max (B : Nat) (x : SF) : f.toUInt B x ≤ 2 ^ B - 1 := by
  unfold Fmt.toUInt
  cases x with
  | nan => exact Nat.zero_le _
  | inf neg => cases neg with
    | false => exact Nat.le_refl _
    | true => exact Nat.zero_le _
  | fin neg k => cases neg with
    | false => exact Nat.min_le_right _ _
    | true => exact Nat.zero_le _

theorem roundMag_zero (d : Nat) : roundMag f 0 d = some 0 := by
  have hv : roundVal f 0 d = 0 := by
    unfold roundVal rneDiv
    simp
  rw [roundMag_eq, hv, if_neg (Nat.not_le.2 (show 0 < f.limit from Nat.two_pow_pos _))]

/-- entries that pass the `probability >= 0` test -/
theorem admissible_cases {p : SF} (h : f.le (.fin false 0) p = true) :
    p = .inf false ∨ (∃ k, p = .fin false k) ∨ p = .fin true 0 := by
  cases p with
  | nan => cases h
  | inf b => cases b with
    | false => exact Or.inl rfl
    | true => cases h
  | fin n k =>
    cases n with
    | false => exact Or.inr (Or.inl ⟨k, rfl⟩)
    | true =>
      have : k = 0 := (of_decide_eq_true h).2
      subst this; exact Or.inr (Or.inr rfl)

theorem add_step (hp : 1 ≤ f.p) {c p : SF} (hc : c.NN) (hr : c.RepSF f)
    (ha : f.le (.fin false 0) p = true) :
    (f.add c p).NN ∧ (f.add c p).RepSF f ∧ SF.nnLe c (f.add c p) := by
  obtain rfl | ⟨k1, rfl⟩ := hc.cases
  · rcases admissible_cases f ha with rfl | ⟨k, rfl⟩ | rfl
    all_goals exact ⟨trivial, trivial, trivial⟩
  · have hr' : Rep f k1 := hr
    rcases admissible_cases f ha with h | ⟨k2, h⟩ | h <;> subst h
    · exact ⟨trivial, trivial, trivial⟩
    · -- finite + finite: the exact sum is at least `k1`, which rounds to itself
      have hm := roundMag_mono f hp (a := k1) (b := 1) (c := k1 + k2) (d := 1) (by decide)
        (by decide) (by omega)
      rw [roundMag_self f hr'] at hm
      have hadd : f.add (.fin false k1) (.fin false k2) = SF.ofMag false (roundMag f (k1 + k2) 1) :=
        rfl
      rw [hadd]
      cases hres : roundMag f (k1 + k2) 1 with
      | none => exact ⟨trivial, trivial, trivial⟩
      | some k =>
        rw [hres] at hm
        exact ⟨trivial, roundMag_rep f hp (by decide) hres, hm⟩
    · -- finite + (-0.0) is the finite summand
      have : f.add (.fin false k1) (.fin true 0) = .fin false k1 := by
        unfold Fmt.add
        by_cases hk : k1 = 0
        · subst hk; rfl
        · simp only [Bool.false_eq_true, if_false, hk, Nat.pos_of_ne_zero hk, if_true, Nat.sub_zero]
          rw [roundMag_self f hr']; rfl
      rw [this]
      exact ⟨trivial, hr', Nat.le_refl k1⟩

theorem shiftRight_mono {a b : Nat} (h : a ≤ b) (m : Nat) : a >>> m ≤ b >>> m := by
  rw [Nat.shiftRight_eq_div_pow, Nat.shiftRight_eq_div_pow]
  exact Nat.div_le_div_right h

/-! ### scaling and converting

A product with the sign bit set (or NaN) converts to `0`, so only a non-negative scale matters;
there the magnitude of the product is monotone, and so is the saturating conversion. -/

theorem toUInt_ofMag_neg (B : Nat) (m : Option Nat) : f.toUInt B (.ofMag true m) = 0 := by
  cases m <;> rfl

theorem toUInt_ofMag_mono (B : Nat) {m m' : Option Nat} (h : MagLe m m') :
    f.toUInt B (.ofMag false m) ≤ f.toUInt B (.ofMag false m') := by
  cases m' with
  | none => exact toUInt_le_max f B _
  | some y =>
    cases m with
    | none => exact False.elim h
    | some x =>
      have hxy : x ≤ y := h
      show min (x >>> f.M) (2 ^ B - 1) ≤ min (y >>> f.M) (2 ^ B - 1)
      exact Nat.le_min.2
        ⟨Nat.le_trans (Nat.min_le_left _ _) (shiftRight_mono hxy f.M), Nat.min_le_right _ _⟩

theorem mul_comm' (a b : SF) : f.mul a b = f.mul b a := by
  have hb : ∀ x y : Bool, (x != y) = (y != x) := by decide
  cases a with
  | nan => cases b <;> rfl
  | inf x =>
    cases b with
    | nan => rfl
    | inf y => simp only [Fmt.mul]; rw [hb]
    | fin y k => simp only [Fmt.mul]; rw [hb]
  | fin x k =>
    cases b with
    | nan => rfl
    | inf y => simp only [Fmt.mul]; rw [hb]
    | fin y k' => simp only [Fmt.mul]; rw [hb, Nat.mul_comm]

theorem toUInt_fin_zero (B : Nat) (neg : Bool) : f.toUInt B (.fin neg 0) = 0 := by
  cases neg with
  | false =>
    show min (0 >>> f.M) (2 ^ B - 1) = 0
    rw [Nat.zero_shiftRight, Nat.zero_min]
  | true => rfl

theorem mul_zero_toUInt (n : Bool) (s : SF) (B : Nat) : f.toUInt B (f.mul (.fin n 0) s) = 0 := by
  cases s with
  | nan => rfl
  | inf b => rfl
  | fin b ks =>
    simp only [Fmt.mul, Nat.zero_mul]
    rw [roundMag_zero f _]
    exact toUInt_fin_zero f B _

theorem mul_not_nn_toUInt {c s : SF} (hc : c.NN) (hs : ¬ s.NN) (B : Nat) :
    f.toUInt B (f.mul c s) = 0 := by
  cases s with
  | nan => obtain rfl | ⟨k, rfl⟩ := hc.cases <;> rfl
  | inf b =>
    cases b with
    | false => exact absurd trivial hs
    | true =>
      -- `c * -inf` is `-inf`, or NaN for `c = 0`
      obtain rfl | ⟨k, rfl⟩ := hc.cases
      · rfl
      · show f.toUInt B (if k = 0 then .nan else .inf (false != true)) = 0
        split <;> rfl
  | fin b ks =>
    cases b with
    | false => exact absurd trivial hs
    | true =>
      -- `c * -x` carries the sign bit, or is NaN for `c = +inf`, `x = 0`
      obtain rfl | ⟨k, rfl⟩ := hc.cases
      · show f.toUInt B (if ks = 0 then .nan else .inf (false != true)) = 0
        split <;> rfl
      · exact toUInt_ofMag_neg f B _

theorem mul_toUInt_mono (hp : 1 ≤ f.p) {c c' : SF} (hc : c.NN) (hc' : c'.NN) (hle : SF.nnLe c c')
    (s : SF) (B : Nat) : f.toUInt B (f.mul c s) ≤ f.toUInt B (f.mul c' s) := by
  by_cases hs : s.NN
  case neg => rw [mul_not_nn_toUInt f hc hs, mul_not_nn_toUInt f hc' hs]; exact Nat.le_refl 0
  have hmax := toUInt_le_max f B
  obtain rfl | ⟨k, rfl⟩ := hc.cases
  · obtain rfl | ⟨k', rfl⟩ := hc'.cases
    · exact Nat.le_refl _
    · exact False.elim hle
  obtain rfl | ⟨k', rfl⟩ := hc'.cases
  · -- finite ≤ +inf: `0 * s` converts to `0`; otherwise `+inf * s = +inf` converts to the maximum
    by_cases hk : k = 0
    · rw [hk, mul_zero_toUInt]; exact Nat.zero_le _
    obtain rfl | ⟨ks, rfl⟩ := hs.cases
    · exact hmax _
    · by_cases hks : ks = 0
      · rw [hks, mul_comm', mul_zero_toUInt]; exact Nat.zero_le _
      · rw [show f.mul (.inf false) (.fin false ks) = .inf false from if_neg hks]; exact hmax _
  · have hkk : k ≤ k' := hle
    obtain rfl | ⟨ks, rfl⟩ := hs.cases
    · by_cases hk : k = 0
      · rw [hk, mul_zero_toUInt]; exact Nat.zero_le _
      · have hk' : k' ≠ 0 := by omega
        rw [show f.mul (.fin false k) (.inf false) = .inf false from if_neg hk,
          show f.mul (.fin false k') (.inf false) = .inf false from if_neg hk']
        exact Nat.le_refl _
    · exact toUInt_ofMag_mono f B (roundMag_mono f hp (Nat.two_pow_pos _) (Nat.two_pow_pos _)
        (Nat.mul_le_mul_right _ (Nat.mul_le_mul_right _ hkk)))

/-- `[c, c+x₀, (c+x₀)+x₁, …]` -/
def psList {F : Type} (add : F → F → F) : F → List F → List F
  | c, [] => [c]
  | c, x :: xs => c :: psList add (add c x) xs

theorem psList_length {F : Type} (add : F → F → F) (c : F) (xs : List F) :
    (psList add c xs).length = xs.length + 1 := by
  induction xs generalizing c with
  | nil => rfl
  | cons x xs ih => exact congrArg (· + 1) (ih _)

theorem psList_eq_cons {F : Type} (add : F → F → F) (c : F) (xs : List F) :
    psList add c xs = c :: (psList add c xs).tail := by
  cases xs <;> rfl

theorem psList_head {F : Type} (add : F → F → F) (c d : F) (xs : List F) :
    (psList add c xs).getD 0 d = c := by
  cases xs <;> rfl

theorem prefixSums_fold {F : Type} (o : FOps F) (xs : List F) (arr : Array F) (c : F) :
    (xs.foldl (fun (acc : Array F × F) x => let c := o.add acc.2 x; (acc.1.push c, c)) (arr, c)).1.toList
      = arr.toList ++ (psList o.add c xs).tail := by
  induction xs generalizing arr c with
  | nil => exact (List.append_nil _).symm
  | cons x xs ih =>
    rw [List.foldl_cons, ih, Array.toList_push, List.append_assoc]
    show _ = arr.toList ++ psList o.add (o.add c x) xs
    rw [psList_eq_cons o.add (o.add c x) xs]
    rfl

theorem prefixSums_toList {F : Type} (o : FOps F) (init : F) (xs : List F) :
    (o.prefixSums init xs).toList = psList o.add init xs := by
  unfold FOps.prefixSums
  rw [prefixSums_fold, psList_eq_cons o.add init xs]
  rfl

theorem prefixSums_getD {F : Type} (o : FOps F) (init : F) (xs : List F) (i : Nat) (d : F) :
    (o.prefixSums init xs).getD i d = (psList o.add init xs).getD i d := by
  rw [← prefixSums_toList, Array.getD_eq_getD_getElem?, List.getD_eq_getElem?_getD,
    Array.getElem?_toList]

theorem psList_scaled_mono (hp : 1 ≤ f.p) (s : SF) (B : Nat) {probs : List SF} {c : SF}
    (hc : c.NN) (hr : c.RepSF f) (hall : ∀ p ∈ probs, f.le (.fin false 0) p = true)
    {i : Nat} (hi : i < probs.length) :
    f.toUInt B (f.mul ((psList f.add c probs).getD i (.fin false 0)) s) ≤
    f.toUInt B (f.mul ((psList f.add c probs).getD (i + 1) (.fin false 0)) s) := by
  induction probs generalizing c i with
  | nil => exact absurd hi (Nat.not_lt_zero _)
  | cons p ps ih =>
    have hstep := add_step f hp hc hr (hall p List.mem_cons_self)
    cases i with
    | zero =>
      show f.toUInt B (f.mul c s) ≤ f.toUInt B (f.mul ((psList f.add (f.add c p) ps).getD 0 _) s)
      rw [psList_head]
      exact mul_toUInt_mono f hp hc hstep.1 hstep.2.2 s B
    | succ j =>
      exact ih hstep.1 hstep.2.1 (fun q hq => hall q (List.mem_cons_of_mem _ hq))
        (Nat.lt_of_succ_lt_succ hi)

theorem fastSetup_admissible {B P : Nat} {probs : List SF} {norm : Option SF} {ctx : FastCtx SF}
    (h : fastSetup f.ops B P probs norm = some ctx) : ∀ p ∈ probs, f.le (.fin false 0) p = true :=
  List.all_eq_true.1 (fastSetup_some f.ops h).2.1

/-- **TB-F1 is a theorem for the software IEEE model**: whenever the prologue of
    `fast_quantized_cdf` accepts a table, the integer sequence it hands to the fixed-point layer
    starts at `0` and never decreases -/
theorem soft_tbf1 (hp : 1 ≤ f.p) {B P : Nat} {probs : List SF} {norm : Option SF}
    {ctx : FastCtx SF} (h : fastSetup f.ops B P probs norm = some ctx) :
    TBF1Fast (ctx.hE f.ops B) ctx.n := by
  obtain ⟨_, _, hn, _, hcum, _⟩ := fastSetup_some f.ops h
  have hall' := fastSetup_admissible f h
  constructor
  · intro i hi
    rw [hn] at hi
    show f.toUInt B (f.mul (ctx.cumE.getD i (.fin false 0)) _) ≤
         f.toUInt B (f.mul (ctx.cumE.getD (i + 1) (.fin false 0)) _)
    rw [hcum, prefixSums_getD, prefixSums_getD]
    exact psList_scaled_mono f hp _ B (c := .fin false 0) trivial (rep_zero f) hall' hi
  · show f.toUInt B (f.mul (ctx.cumE.getD 0 (.fin false 0)) _) = 0
    rw [hcum, prefixSums_getD, psList_head]
    exact mul_zero_toUInt f false _ B

/-! ### eager and lazy encoder sum the same table from `+0.0` and from `-0.0`: same integers -/

/-- the two running sums are equal, or still the two zeros -/
def ZPair (c c' : SF) : Prop := c' = c ∨ (c = .fin false 0 ∧ c' = .fin true 0)

theorem zpair_step {c c' p : SF} (hz : ZPair c c') (ha : f.le (.fin false 0) p = true) :
    ZPair (f.add c p) (f.add c' p) := by
  rcases hz with h | ⟨h1, h2⟩
  · subst h; exact Or.inl rfl
  · subst h1; subst h2
    rcases admissible_cases f ha with h | ⟨k, h⟩ | h <;> subst h
    · exact Or.inl rfl
    · left
      show f.add (.fin true 0) (.fin false k) = SF.ofMag false (roundMag f (0 + k) 1)
      unfold Fmt.add
      by_cases hk : 0 = k
      · subst hk; rw [roundMag_zero]; rfl
      · simp only [Bool.true_eq_false, if_false, hk, Nat.not_lt_zero, Nat.sub_zero, Nat.zero_add]
    · refine Or.inr ⟨rfl, ?_⟩
      show SF.ofMag true (roundMag f (0 + 0) 1) = _
      rw [roundMag_zero]; rfl

theorem zpair_scaled (s : SF) (B : Nat) {c c' : SF} (hz : ZPair c c') :
    f.toUInt B (f.mul c s) = f.toUInt B (f.mul c' s) := by
  rcases hz with h | ⟨h1, h2⟩
  · rw [h]
  · rw [h1, h2, mul_zero_toUInt, mul_zero_toUInt]

theorem psList_zpair (s : SF) (B : Nat) {probs : List SF} {c c' : SF} (hz : ZPair c c')
    (hall : ∀ p ∈ probs, f.le (.fin false 0) p = true) (i : Nat) :
    f.toUInt B (f.mul ((psList f.add c probs).getD i (.fin false 0)) s) =
    f.toUInt B (f.mul ((psList f.add c' probs).getD i (.fin false 0)) s) := by
  induction probs generalizing c c' i with
  | nil =>
    cases i with
    | zero => exact zpair_scaled f s B hz
    | succ j => rfl
  | cons p ps ih =>
    cases i with
    | zero => exact zpair_scaled f s B hz
    | succ j =>
      exact ih (zpair_step f hz (hall p List.mem_cons_self))
        (fun q hq => hall q (List.mem_cons_of_mem _ hq)) j

/-- **the lazy encoder's sums (started at `-0.0`) give the same integers as the eager sums
    (started at `+0.0`)**, at every index — what the driver's `mono=` certificate compares -/
theorem soft_hL_eq_hE {B P : Nat} {probs : List SF} {norm : Option SF}
    {ctx : FastCtx SF} (h : fastSetup f.ops B P probs norm = some ctx) (i : Nat) :
    ctx.hL f.ops B i = ctx.hE f.ops B i := by
  obtain ⟨_, _, _, _, hcum, hcumL⟩ := fastSetup_some f.ops h
  have hall' := fastSetup_admissible f h
  show f.toUInt B (f.mul (ctx.cumL.getD i (.fin false 0)) _) =
       f.toUInt B (f.mul (ctx.cumE.getD i (.fin false 0)) _)
  rw [hcum, hcumL, prefixSums_getD, prefixSums_getD]
  exact (psList_zpair f _ B (Or.inr ⟨rfl, rfl⟩) hall' i).symm

/-! ### the leaky quantizer: `GOk` from the contract of the caller's `Distribution`

`g s = (free_weight * distribution(s - 0.5)) as Probability`, with `free_weight : F` from the lossless
`Into<F>` (exact); the contract: values in `[0, 1]` that do not decrease. -/

/-- a value in `[0, 1]`: finite, non-negative, at most `1.0 = 2^M` units -/
def SF.Unit01 (f : Fmt) : SF → Prop
  | .fin false k => k ≤ 2 ^ f.M
  | _ => False

theorem SF.Unit01.cases {f : Fmt} {c : SF} (h : SF.Unit01 f c) :
    ∃ k, c = .fin false k ∧ k ≤ 2 ^ f.M := by
  cases c with
  | fin n k => cases n with
    | false => exact ⟨k, rfl, h⟩
    | true => exact False.elim h
  | _ => exact False.elim h

theorem SF.Unit01.nn {f : Fmt} {c : SF} (h : SF.Unit01 f c) : c.NN := by
  obtain ⟨k, rfl, _⟩ := h.cases
  trivial

theorem ofNat_exact (hp : 1 ≤ f.p) (hM : f.M ≤ f.expMask - 2) {n : Nat} (hn : n < 2 ^ f.p) :
    f.ofNat n = .fin false (n * 2 ^ f.M) ∧ Rep f (n * 2 ^ f.M) := by
  have hrep : Rep f (n * 2 ^ f.M) := by
    refine ⟨?_, Or.inr (spacing_dvd hp (Nat.le_of_lt hn) _)⟩
    calc n * 2 ^ f.M < 2 ^ f.p * 2 ^ f.M := Nat.mul_lt_mul_of_pos_right hn (Nat.two_pow_pos _)
      _ = 2 ^ (f.p + f.M) := (Nat.pow_add _ _ _).symm
      _ ≤ 2 ^ (f.p + (f.expMask - 2)) := Nat.pow_le_pow_right (by decide) (by omega)
  refine ⟨?_, hrep⟩
  unfold Fmt.ofNat
  rw [roundMag_self f hrep]; rfl

theorem leaky_gok_of_cdf (hp : 1 ≤ f.p) (hM : f.M ≤ f.expMask - 2) {m : LQ} (hfree : m.free < 2 ^ f.p)
    (cdf : Int → SF) (h01 : ∀ s, m.min < s → s ≤ m.max + 1 → SF.Unit01 f (cdf s))
    (hmono : ∀ s, m.min < s → s < m.max → SF.nnLe (cdf s) (cdf (s + 1))) :
    GOk m (fun s => f.toUInt m.B (f.mul (f.ofNat m.free) (cdf s))) := by
  obtain ⟨hof, hrep⟩ := ofNat_exact f hp hM hfree
  constructor
  · intro s h1 h2
    show f.toUInt m.B (f.mul (f.ofNat m.free) (cdf s)) ≤ f.toUInt m.B (f.mul (f.ofNat m.free) (cdf (s + 1)))
    rw [mul_comm' f (f.ofNat m.free), mul_comm' f (f.ofNat m.free)]
    exact mul_toUInt_mono f hp (h01 s h1 (by omega)).nn (h01 (s + 1) (by omega) (by omega)).nn
      (hmono s h1 h2) _ _
  · intro s h1 h2
    show f.toUInt m.B (f.mul (f.ofNat m.free) (cdf s)) ≤ m.free
    obtain ⟨k, hcs, hk⟩ := (h01 s h1 (by omega)).cases
    rw [hof, hcs]
    -- the product is at most `free * 1.0`, which is `free` exactly
    have hm := roundMag_mono f hp (a := m.free * 2 ^ f.M * k) (b := 2 ^ f.M)
      (c := m.free * 2 ^ f.M) (d := 1) (Nat.two_pow_pos _) (by decide)
      (by rw [Nat.mul_one]; exact Nat.mul_le_mul_left _ hk)
    rw [roundMag_self f hrep] at hm
    apply Nat.le_trans (toUInt_ofMag_mono f m.B hm)
    apply Nat.le_trans (Nat.min_le_left _ _)
    rw [Nat.shiftRight_eq_div_pow, Nat.mul_div_cancel _ (Nat.two_pow_pos _)]
    exact Nat.le_refl _

end CV.Quant
