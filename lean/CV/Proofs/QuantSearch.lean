import CV.Proofs.QuantLeaky
/-!
# `LeakilyQuantizedDistribution::quantile_function`: the search is correct for every hint

Model: `LQ.dec`, after the repair D16.  From `m.Ok` and `GOk m g` only: for every hint (it is
clamped into the support first) and every `q < 2^P` the search returns the owner of `q` with the
encoder's answer, no `Fault`, within `searchFuel t = 4 * bits + 8` probes (`search_from` uses
`2 * kmax + 7`).
-/
namespace CV.Quant
/-- `2^k` as a `Symbol` value (notation only, so that `omega` sees one normal form) -/
local notation:max "pw " k:max => ((2 ^ k : Nat) : Int)

theorem pw_zero : pw 0 = 1 := by simp
theorem pw_succ (k : Nat) : pw (k + 1) = 2 * pw k := by
  rw [Nat.pow_succ]; push_cast; omega
theorem pw_pos (k : Nat) : 0 < pw k := by
  have : 0 < 2 ^ k := Nat.pow_pos (by omega)
  omega
theorem pw_mono {a b : Nat} (h : a ≤ b) : pw a ≤ pw b := by
  exact_mod_cast pow_le_pow2 h
theorem pw_lt_of_lt {a b : Nat} (h : a < b) : 2 * pw a ≤ pw b := by
  have := pw_mono (a := a + 1) (b := b) h
  rw [pw_succ] at this; exact this
theorem lt_of_pw_lt {a b : Nat} (h : pw a < pw b) : a < b := by
  rcases Nat.lt_or_ge a b with h1 | h1
  · exact h1
  · have := pw_mono h1; omega

/-- the step after `step >>= 1` resp. `if step > 1 { step >>= 1 }` -/
theorem pw_halve (k : Nat) : (if pw k > 1 then pw k / 2 else pw k) = pw (k - 1) := by
  rcases k with _ | j
  · rfl
  · have := pw_succ j; have := pw_pos j
    rw [if_pos (by omega), Nat.add_sub_cancel]; omega

theorem pw_half (k : Nat) : pw (k + 1) / 2 = pw k := by have := pw_succ k; omega

theorem pw_succ_gt (k : Nat) : ¬ pw (k + 1) ≤ 1 := by have := pw_succ k; have := pw_pos k; omega

theorem exists_succ_of_le {a n : Nat} (h : a + 1 ≤ n) : ∃ f, n = f + 1 :=
  ⟨n - 1, (Nat.sub_add_cancel (Nat.le_trans (Nat.le_add_left 1 a) h)).symm⟩

/-- exponent of the largest power of two that is a positive value of the symbol type -/
def kmax (t : SymTy) : Nat := if t.signed then t.bits - 2 else t.bits - 1

theorem pow_kmax (t : SymTy) (hb : 2 ≤ t.bits) :
    pw (kmax t) ≤ t.hi ∧ t.hi + 1 = 2 * pw (kmax t) ∧ -(t.hi + 1) ≤ t.lo := by
  unfold kmax SymTy.hi SymTy.lo
  by_cases hs : t.signed
  · simp only [if_pos hs]
    have hs := pw_succ (t.bits - 2); have := pw_pos (t.bits - 2)
    rw [show t.bits - 2 + 1 = t.bits - 1 by omega] at hs
    omega
  · simp only [if_neg hs]
    have hs := pw_succ (t.bits - 1); have := pw_pos (t.bits - 1)
    rw [show t.bits - 1 + 1 = t.bits by omega] at hs
    omega

theorem kmax_lt_bits (t : SymTy) (hb : 2 ≤ t.bits) : kmax t + 1 ≤ t.bits := by
  unfold kmax; by_cases hs : t.signed
  · rw [if_pos hs]; omega
  · rw [if_neg hs]; omega

/-- `if step << 1 > 0 { step = step << 1 }` (D16) -/
theorem dbl_eq {m : LQ} (hb : 2 ≤ m.t.bits) {k : Nat} (hk : k ≤ kmax m.t) :
    m.dbl (pw k) = pw (min (k + 1) (kmax m.t)) := by
  obtain ⟨hK1, hK2, _⟩ := pow_kmax m.t hb
  have hb1 : 1 ≤ m.t.bits := Nat.le_of_succ_le hb
  have hpos := pw_pos (k + 1)
  unfold LQ.dbl
  rw [show pw k * 2 = pw (k + 1) by rw [pw_succ, Int.mul_comm]]
  by_cases hlt : k < kmax m.t
  · have hin : m.t.inRange (pw (k + 1)) :=
      ⟨Int.le_trans (lo_nonpos _) (Int.le_of_lt hpos), Int.le_trans (pw_mono hlt) hK1⟩
    rw [Nat.min_eq_left hlt, wrap_id hb1 hin, if_pos hpos]
  · -- `2 * 2^kmax = hi + 1` wraps to `lo ≤ 0`
    obtain rfl : k = kmax m.t := Nat.le_antisymm hk (Nat.not_lt.mp hlt)
    have hsp := hi_lo_span m.t hb1
    have hlo := lo_nonpos m.t
    have hW := pw_pos m.t.bits
    rw [Nat.min_eq_right (Nat.le_succ _), pw_succ, ← hK2,
      wrap_high hb1 (Int.lt_succ _) (by omega), if_neg (by omega)]

/-- both inner loops; `D` = distance to the end of the support -/
theorem halving {F : Nat → Int → SM (Int × Int)} {r : Int → Int} {D : Int} {K : Nat} (hD : 1 ≤ D)
    (hF : ∀ f k, k ≤ K →
      F (f + 1) (pw k) = if pw k ≤ D then .ok (r (pw k), pw k) else F f (pw k / 2)) :
    ∀ k1 fuel : Nat, k1 ≤ K → k1 + 1 ≤ fuel →
      ∃ k2, k2 ≤ k1 ∧ pw k2 ≤ D ∧ (k2 = k1 ∨ D < 2 * pw k2) ∧
        F fuel (pw k1) = .ok (r (pw k2), pw k2) := by
  intro k1
  induction k1 with
  | zero =>
    intro fuel hk hf
    obtain ⟨f, rfl⟩ := exists_succ_of_le hf
    exact ⟨0, Nat.le_refl _, by rw [pw_zero]; exact hD, Or.inl rfl,
      by rw [hF f 0 hk, if_pos (by rw [pw_zero]; exact hD)]⟩
  | succ k ih =>
    intro fuel hk hf
    obtain ⟨f, rfl⟩ := exists_succ_of_le hf
    rw [hF f (k + 1) hk]
    by_cases hfit : pw (k + 1) ≤ D
    · exact ⟨k + 1, Nat.le_refl _, hfit, Or.inl rfl, by rw [if_pos hfit]⟩
    · obtain ⟨k2, hk2, hfit2, hmax2, heq⟩ :=
        ih f (Nat.le_of_succ_le hk) (Nat.le_of_succ_le_succ hf)
      rw [if_neg hfit, pw_half]
      refine ⟨k2, Nat.le_succ_of_le hk2, hfit2, Or.inr ?_, heq⟩
      rcases hmax2 with rfl | h
      · rw [pw_succ] at hfit; exact Int.not_le.mp hfit
      · exact h

variable {m : LQ}

theorem stepDown_spec (ok : m.Ok) {s : Int} (h1 : m.min < s) (h2 : s ≤ m.max) {k1 fuel : Nat}
    (hk : k1 ≤ kmax m.t) (hf : k1 + 1 ≤ fuel) :
    ∃ k2, k2 ≤ k1 ∧ pw k2 ≤ s - m.min ∧ (k2 = k1 ∨ s - m.min < 2 * pw k2) ∧
      m.stepDown s fuel (pw k1) = .ok (s - pw k2, pw k2) := by
  refine halving (F := m.stepDown s) (r := fun T => s - T) (by omega) (fun f k hk => ?_) k1 fuel hk hf
  have hmin := ok.hmin.1
  conv => lhs; unfold LQ.stepDown
  rcases wrap_sub_cases (Nat.le_of_succ_le ok.hbits) (ok.inRange (Int.le_of_lt h1) h2) (pw_pos k)
    (pw_lt_of_lt (Nat.lt_of_lt_of_le (Nat.lt_succ_of_le hk) (kmax_lt_bits m.t ok.hbits)))
    with ⟨hlo, e⟩ | ⟨hlo, hgt⟩
  · rw [e]
    by_cases hfit : pw k ≤ s - m.min
    · rw [if_pos hfit, if_pos (by have := pw_pos k; omega)]
    · rw [if_neg hfit, if_neg (by omega)]
  · rw [if_neg (by omega), if_neg (by omega)]

theorem stepUp_spec (ok : m.Ok) {s : Int} (h1 : m.min ≤ s) (h2 : s < m.max) {k1 fuel : Nat}
    (hk : k1 ≤ kmax m.t) (hf : k1 + 1 ≤ fuel) :
    ∃ k2, k2 ≤ k1 ∧ pw k2 ≤ m.max - s ∧ (k2 = k1 ∨ m.max - s < 2 * pw k2) ∧
      m.stepUp s fuel (pw k1) = .ok (s + pw k2, pw k2) := by
  refine halving (F := m.stepUp s) (r := fun T => s + T) (by omega) (fun f k hk => ?_) k1 fuel hk hf
  have hmax := ok.hmax.2
  conv => lhs; unfold LQ.stepUp
  rcases wrap_add_cases (Nat.le_of_succ_le ok.hbits) (ok.inRange h1 (Int.le_of_lt h2)) (pw_pos k)
    (pw_lt_of_lt (Nat.lt_of_lt_of_le (Nat.lt_succ_of_le hk) (kmax_lt_bits m.t ok.hbits)))
    with ⟨hhi, e⟩ | ⟨hhi, hlt⟩
  · rw [e]
    by_cases hfit : pw k ≤ m.max - s
    · rw [if_pos hfit, if_pos (by have := pw_pos k; omega)]
    · rw [if_neg hfit, if_neg (by omega)]
  · rw [if_neg (by omega), if_neg (by omega)]

section unfold
variable {gl gr : Ext} {q f : Nat} {s T : Int} {left : Nat} {found : Bool}

theorem down_ret_min (hs : s = m.min) (hT : T ≤ 1) :
    m.down gl gr q (f + 1) s T left found = .ok (s, 0, left) := by
  conv => lhs; unfold LQ.down
  have : s = m.min ∧ T ≤ 1 := ⟨hs, hT⟩
  rw [if_pos this]

theorem down_ret {l r : Nat} (hc : ¬ (s = m.min ∧ T ≤ 1))
    (hl : (if s = m.min then (.ok 0 : SM Nat) else m.leaky gl "quant.dec.down.left" s) = .ok l)
    (hq : l ≤ q) (hT : T ≤ 1) (hr : m.rightOf gr "quant.dec.down.right" s = .ok r) :
    m.down gl gr q (f + 1) s T left found = .ok (s, l, r) := by
  conv => lhs; unfold LQ.down
  rw [if_neg hc]
  simp only [hl]
  rw [if_pos hq, if_pos hT, hr]

theorem down_add {l : Nat} {s' : Int}
    (hl : (if s = m.min then (.ok 0 : SM Nat) else m.leaky gl "quant.dec.down.left" s) = .ok l)
    (hq : l ≤ q) (hT : ¬ T ≤ 1) (ha : m.t.cadd "quant.dec.down.add" s (T / 2) = .ok s') :
    m.down gl gr q (f + 1) s T left found = m.down gl gr q f s' (T / 2) l true := by
  conv => lhs; unfold LQ.down
  rw [if_neg (fun hc => hT hc.2)]
  simp only [hl]
  rw [if_pos hq, if_neg hT, ha]
  simp only [liftM]

theorem down_sub {l : Nat} {s' : Int} (hc : ¬ (s = m.min ∧ T ≤ 1))
    (hl : (if s = m.min then (.ok 0 : SM Nat) else m.leaky gl "quant.dec.down.left" s) = .ok l)
    (hq : ¬ l ≤ q)
    (ha : m.t.csub "quant.dec.down.sub" s (if T > 1 then T / 2 else T) = .ok s') :
    m.down gl gr q (f + 1) s T left true
      = m.down gl gr q f s' (if T > 1 then T / 2 else T) l true := by
  conv => lhs; unfold LQ.down
  rw [if_neg hc]
  simp only [hl]
  rw [if_neg hq]
  simp only [if_true]
  rw [ha]
  simp only [liftM]

theorem down_exp {l : Nat} {s' T2 : Int} (hc : ¬ (s = m.min ∧ T ≤ 1))
    (hl : (if s = m.min then (.ok 0 : SM Nat) else m.leaky gl "quant.dec.down.left" s) = .ok l)
    (hq : ¬ l ≤ q) (ha : m.stepDown s (m.t.bits + 1) (m.dbl T) = .ok (s', T2)) :
    m.down gl gr q (f + 1) s T left false = m.down gl gr q f s' T2 l false := by
  conv => lhs; unfold LQ.down
  rw [if_neg hc]
  simp only [hl]
  rw [if_neg hq]
  simp only [Bool.false_eq_true, if_false]
  rw [ha]

theorem up_ret_max {l : Nat} (hs : s = m.max) (hT : T ≤ 1)
    (hl : m.leaky gl "quant.dec.up.leftmax" s = .ok l) (hne : wrappingPow2 m.B m.P ≠ l) :
    m.up gl gr q (f + 1) s T left found = .ok (s, l, wrappingPow2 m.B m.P) := by
  conv => lhs; unfold LQ.up
  have : s = m.max ∧ T ≤ 1 := ⟨hs, hT⟩
  rw [if_pos this, hl]
  simp only
  rw [if_neg hne]

theorem up_ret {l r : Nat} (hc : ¬ (s = m.max ∧ T ≤ 1))
    (hr : m.rightOf gr "quant.dec.up.right" s = .ok r) (hq : r > q ∨ r = 0) (hT : T ≤ 1)
    (hl : (if s = m.min then (.ok 0 : SM Nat) else m.leaky gl "quant.dec.up.left" s) = .ok l)
    (hlq : l ≤ q ∨ s = m.min) :
    m.up gl gr q (f + 1) s T left found = .ok (s, l, r) := by
  conv => lhs; unfold LQ.up
  rw [if_neg hc, hr]
  simp only
  rw [if_pos hq, if_pos hT]
  simp only [hl]
  rw [if_pos hlq]

theorem up_sub {r : Nat} {s' : Int}
    (hr : m.rightOf gr "quant.dec.up.right" s = .ok r) (hq : r > q ∨ r = 0) (hT : ¬ T ≤ 1)
    (ha : m.t.csub "quant.dec.up.sub" s (T / 2) = .ok s') :
    m.up gl gr q (f + 1) s T left found = m.up gl gr q f s' (T / 2) left true := by
  conv => lhs; unfold LQ.up
  rw [if_neg (fun hc => hT hc.2), hr]
  simp only
  rw [if_pos hq, if_neg hT, ha]
  simp only [liftM]

theorem up_add {r : Nat} {s' : Int} (hc : ¬ (s = m.max ∧ T ≤ 1))
    (hr : m.rightOf gr "quant.dec.up.right" s = .ok r) (hq : ¬ (r > q ∨ r = 0))
    (ha : m.t.cadd "quant.dec.up.add" s (if T > 1 then T / 2 else T) = .ok s') :
    m.up gl gr q (f + 1) s T left true
      = m.up gl gr q f s' (if T > 1 then T / 2 else T) left true := by
  conv => lhs; unfold LQ.up
  rw [if_neg hc, hr]
  simp only
  rw [if_neg hq]
  simp only [if_true]
  rw [ha]
  simp only [liftM]

theorem up_exp {r : Nat} {s' T2 : Int} (hc : ¬ (s = m.max ∧ T ≤ 1))
    (hr : m.rightOf gr "quant.dec.up.right" s = .ok r) (hq : ¬ (r > q ∨ r = 0))
    (ha : m.stepUp s (m.t.bits + 1) (m.dbl T) = .ok (s', T2)) :
    m.up gl gr q (f + 1) s T left false = m.up gl gr q f s' T2 left false := by
  conv => lhs; unfold LQ.up
  rw [if_neg hc, hr]
  simp only
  rw [if_neg hq]
  simp only [Bool.false_eq_true, if_false]
  rw [ha]

end unfold

/-- Both loops of `quantile_function` are one search, run towards `min` resp. `max`.  `Dir` is one
    run, oriented like the downward loop: positions `lo ≤ y ≤ hi`, exponential phase towards `lo`,
    owner `a`, step `2^k ≤ 2^K`; `R fuel y k found`: entered at `y` with step `2^k`, the loop
    returns the owner.  The fields are the loop's transitions (a probe at `y` tells whether
    `y ≤ a`).  The upward loop is the instance in the coordinate `y = -symbol`. -/
structure Dir (lo hi a : Int) (K : Nat) (R : Nat → Int → Nat → Bool → Prop) : Prop where
  lo_le : lo ≤ a
  le_hi : a ≤ hi
  hit : ∀ {f found}, R (f + 1) a 0 found
  /-- at or before the owner: halve the step, turn back -/
  turn : ∀ {f y j found}, lo ≤ y → y ≤ a → y + pw j ≤ hi →
    R f (y + pw j) j true → R (f + 1) y (j + 1) found
  /-- binary phase, beyond the owner: halve the step (not below one) -/
  on : ∀ {f y k k'}, k' = k - 1 → a < y → y ≤ hi → lo ≤ y - pw k' →
    R f (y - pw k') k' true → R (f + 1) y k true
  /-- exponential phase, beyond the owner: double the step (not above `2^K`), halve until it fits -/
  leap : ∀ {f y k}, a < y → y ≤ hi → k ≤ K →
    (∀ k2, k2 ≤ min (k + 1) K → pw k2 ≤ y - lo → (k2 = min (k + 1) K ∨ y - lo < 2 * pw k2) →
      R f (y - pw k2) k2 false) →
    R (f + 1) y k false

namespace Dir
variable {lo hi a : Int} {K : Nat} {R : Nat → Int → Nat → Bool → Prop}

/-- binary phase: the owner lies in `[y - 2^k, y + 2^k)`, and what the loop may still visit of
    this interval is inside `[lo, hi]` -/
def BinInv (lo hi a y : Int) (k : Nat) : Prop :=
  lo ≤ y ∧ y ≤ hi ∧ y - pw k ≤ a ∧ a < y + pw k ∧ y + pw k ≤ hi + 1 ∧ (1 ≤ k → lo ≤ y - pw k)

/-- exponential phase: the probe one step back, at `y + 2^k` (at the start the clamped hint,
    possibly `hi + 1`), was beyond the owner -/
def Inv (lo hi a y : Int) (k : Nat) : Prop := lo ≤ y ∧ y + pw k ≤ hi + 1 ∧ a < y + pw k

theorem BinInv.turn {y : Int} {k : Nat} (hI : BinInv lo hi a y (k + 1)) (hya : y ≤ a) :
    BinInv lo hi a (y + pw k) k := by
  have := pw_succ k; have := pw_pos k
  unfold BinInv at *; omega

theorem BinInv.on {y : Int} {k : Nat} (hI : BinInv lo hi a y (k + 1)) (hay : a < y) :
    BinInv lo hi a (y - pw k) k := by
  have := pw_succ k; have := pw_pos k
  unfold BinInv at *; omega

theorem Inv.turn {y : Int} {k : Nat} (hI : Inv lo hi a y (k + 1)) (hya : y ≤ a) :
    BinInv lo hi a (y + pw k) k := by
  have := pw_succ k; have := pw_pos k
  unfold Inv BinInv at *; omega

theorem Inv.leap {y : Int} {k k2 : Nat} (hI : Inv lo hi a y k) (hay : a < y) (hfit : pw k2 ≤ y - lo) :
    Inv lo hi a (y - pw k2) k2 := by
  have := pw_pos k
  unfold Inv at *; omega

theorem Inv.le_hi {y : Int} {k : Nat} (hI : Inv lo hi a y k) : y ≤ hi := by
  have := pw_pos k
  unfold Inv at hI; omega

theorem sub_pw_lt {y lo X : Int} (k : Nat) (h : y - lo < X) : y - pw k - lo < X := by
  have := pw_pos k; omega

variable (D : Dir lo hi a K R)
include D

theorem bin : ∀ (k f : Nat) (y : Int), k + 2 ≤ f → BinInv lo hi a y k → R f y k true := by
  have hla := D.lo_le
  intro k
  induction k with
  | zero =>
    intro f y hf ⟨h1, h2, hlo, hhi, _, _⟩
    rw [pw_zero] at hlo hhi
    obtain ⟨f, rfl⟩ : ∃ f', f = f' + 2 := ⟨f - 2, by omega⟩
    by_cases hay : a = y
    · subst hay; exact D.hit
    · have e : y - pw 0 = a := by rw [pw_zero]; omega
      refine D.on (k' := 0) rfl (by omega) h2 (by omega) ?_
      rw [e]; exact D.hit
  | succ k ih =>
    intro f y hf hI
    have hpp := pw_pos k
    obtain ⟨f, rfl⟩ := exists_succ_of_le hf
    have hf' : k + 2 ≤ f := Nat.le_of_succ_le_succ hf
    by_cases hya : y ≤ a
    · have hI' := hI.turn hya
      exact D.turn hI.1 hya hI'.2.1 (ih f _ hf' hI')
    · have hay : a < y := Int.not_le.mp hya
      have hI' := hI.on hay
      exact D.on (k' := k) rfl hay hI.2.1 hI'.1 (ih f _ hf' hI')

theorem of_le {k f : Nat} {y : Int} {found : Bool} (hf : k + 2 ≤ f) (hI : Inv lo hi a y k)
    (hya : y ≤ a) : R f y k found := by
  obtain ⟨f, rfl⟩ := exists_succ_of_le hf
  rcases k with _ | j
  · have hhi := hI.2.2
    rw [pw_zero] at hhi
    obtain rfl : y = a := Int.le_antisymm hya (Int.lt_add_one_iff.mp hhi)
    exact D.hit
  · have hI' := hI.turn hya
    exact D.turn hI.1 hya hI'.2.1 (D.bin j f _ (Nat.le_of_succ_le_succ hf) hI')

/-- exponential phase, once the step exceeds the distance to `lo`: the exponent strictly
    decreases from probe to probe -/
theorem expB : ∀ (f k : Nat) (y : Int), k ≤ K → k + 3 ≤ f → Inv lo hi a y k → y - lo < pw k →
    R f y k false := by
  intro f
  induction f with
  | zero => intro k y _ hf; omega
  | succ f ih =>
    intro k y hkK hf hI hd
    by_cases hya : y ≤ a
    · exact D.of_le (Nat.le_of_succ_le hf) hI hya
    · have hay : a < y := Int.not_le.mp hya
      refine D.leap hay hI.le_hi hkK fun k2 hk2 hfit hmaxi => ?_
      have hk2k : k2 < k := lt_of_pw_lt (Int.lt_of_le_of_lt hfit hd)
      exact ih k2 (y - pw k2) (Nat.le_trans hk2 (Nat.min_le_right _ _))
        (Nat.le_of_lt_succ (Nat.lt_of_lt_of_le (Nat.add_lt_add_right hk2k 3) hf))
        (hI.leap hay hfit) (by omega)

/-- exponential phase in general: while the step still fits, `(K - k) + c` decreases, where `c`
    bounds the distance to `lo` in units of `2^K` -/
theorem expA : ∀ (f k c : Nat) (y : Int), k ≤ K → (K - k) + c + K + 4 ≤ f → Inv lo hi a y k →
    y - lo < (((c + 1) * 2 ^ K : Nat) : Int) → R f y k false := by
  intro f
  induction f with
  | zero => intro k c y _ hf; omega
  | succ f ih =>
    intro k c y hkK hf
    -- the remaining fuel allows a fall into the last stage, one more doubling, one more stride
    have fB : ∀ j, j ≤ K → j + 3 ≤ f := fun j hj => by omega
    have fA : k < K → (K - (k + 1)) + c + K + 4 ≤ f := fun h => by omega
    have fS : ∀ c', c = c' + 1 → (K - K) + c' + K + 4 ≤ f := fun c' h => by omega
    intro hI hd
    by_cases hB : y - lo < pw k
    · exact D.expB _ k y hkK (Nat.le_succ_of_le (fB k hkK)) hI hB
    by_cases hya : y ≤ a
    · exact D.of_le (Nat.le_of_succ_le (Nat.le_succ_of_le (fB k hkK))) hI hya
    have hay : a < y := Int.not_le.mp hya
    refine D.leap hay hI.le_hi hkK fun k2 hk2 hfit hmaxi => ?_
    have hI2 := hI.leap hay hfit
    have hk2K : k2 ≤ K := Nat.le_trans hk2 (Nat.min_le_right _ _)
    by_cases hk2 : k2 = min (k + 1) K
    · -- the (possibly doubled) step fits: the measure decreases
      by_cases hkK' : k < K
      · obtain rfl : k2 = k + 1 := hk2.trans (Nat.min_eq_left hkK')
        exact ih (k + 1) c _ hkK' (fA hkK') hI2 (sub_pw_lt _ hd)
      · obtain rfl : k = K := Nat.le_antisymm hkK (Nat.not_lt.mp hkK')
        obtain rfl : k2 = k := hk2.trans (Nat.min_eq_right (Nat.le_succ k))
        rcases c with _ | c'
        · rw [Nat.zero_add, Nat.one_mul] at hd; exact absurd hd hB
        · rw [Nat.succ_mul, Int.natCast_add] at hd
          exact ih k2 c' _ hkK (fS c' rfl) hI2 (by omega)
    · exact D.expB _ k2 _ hk2K (fB k2 hk2K) hI2 (by omega)

end Dir

section search
variable {g : Int → Nat}

/-- the loop condition `right > q || right == 0` holds exactly from the owner on -/
theorem cond_iff (ok : m.Ok) (gk : GOk m g) {q : Nat} {a s : Int} (ha : Bin m g q a)
    (h1 : m.min ≤ s) (h2 : s ≤ m.max) : (rightW m g s > q ∨ rightW m g s = 0) ↔ a ≤ s := by
  have hq : q < 2 ^ m.P := by
    have := rightQ_le ok gk ha.1 ha.2.1; have := ha.2.2.2; omega
  unfold rightW
  by_cases hmax : s = m.max
  · rw [if_pos hmax]
    have ham := ha.2.1
    constructor
    · intro _; exact hmax ▸ ham
    · intro _
      unfold wrappingPow2
      by_cases hP : m.P ≥ m.B
      · rw [if_pos hP]; right; rfl
      · rw [if_neg hP]; left; exact hq
  · rw [if_neg hmax]
    have hpos := leftQ_lt_rightQ ok gk h1 h2
    have := right_gt_iff ok gk ha h1 h2
    exact ⟨fun h => h.elim this.mp fun h0 => absurd h0 (Nat.ne_of_gt (Nat.zero_lt_of_lt hpos)),
      fun h => Or.inl (this.mpr h)⟩

theorem down_exact (ok : m.Ok) (gk : GOk m g) {q : Nat} {a : Int} (ha : Bin m g q a)
    {left f : Nat} {found : Bool} (hleft : a = m.min → left = rightW m g m.min) :
    m.down (extL g) (extR g) q (f + 1) a 1 left found = .ok (a, leftQ m g a, rightW m g a) := by
  by_cases hmin : a = m.min
  · rw [down_ret_min hmin (Int.le_refl 1), hleft hmin, hmin, leftQ_min]
  · exact down_ret (fun hc => hmin hc.1) (leftEval ok gk _ ha.1 ha.2.1) ha.2.2.1 (Int.le_refl 1)
      (rightOf_eval ok gk _ ha.1 ha.2.1)

theorem leftQ_max_ne (ok : m.Ok) (gk : GOk m g) : wrappingPow2 m.B m.P ≠ leftQ m g m.max := by
  have hlt := ok.hlt
  have hl := leftQ_lt_total ok gk (s := m.max) (Int.le_of_lt hlt) (Int.le_refl _)
  have hpos := leftQ_pos (g := g) hlt
  unfold wrappingPow2
  by_cases hP : m.P ≥ m.B
  · rw [if_pos hP]; omega
  · rw [if_neg hP]; omega

theorem up_exact (ok : m.Ok) (gk : GOk m g) {q : Nat} {a : Int} (ha : Bin m g q a)
    {left f : Nat} {found : Bool} :
    m.up (extL g) (extR g) q (f + 1) a 1 left found = .ok (a, leftQ m g a, rightW m g a) := by
  have hlt := ok.hlt
  by_cases hmax : a = m.max
  · rw [up_ret_max hmax (Int.le_refl 1) (l := leftQ m g a)
      (by rw [hmax]; exact leaky_left ok gk _ hlt (Int.le_refl _))
      (by rw [hmax]; exact leftQ_max_ne ok gk)]
    unfold rightW; rw [if_pos hmax]
  · exact up_ret (fun hc => hmax hc.1) (rightOf_eval ok gk _ ha.1 ha.2.1)
      ((cond_iff ok gk ha ha.1 ha.2.1).mpr (Int.le_refl _)) (Int.le_refl 1)
      (leftEval ok gk _ ha.1 ha.2.1) (Or.inl ha.2.2.1)

/-- `left` is the left cumulative of the previous probe; the loop uses it only when it stops at
    `min` without a probe, as the right end of `min` -/
def DownTo (m : LQ) (g : Int → Nat) (q : Nat) (a : Int) (f : Nat) (s : Int) (k : Nat)
    (found : Bool) : Prop :=
  ∀ left, (s = m.min → k = 0 → left = rightW m g m.min) →
    m.down (extL g) (extR g) q f s (pw k) left found = .ok (a, leftQ m g a, rightW m g a)

/-- the side condition of `DownTo` after a move from `y` to `y - 2^k` -/
theorem leftQ_of_pred_min (ok : m.Ok) {y : Int} {k : Nat} (h : y - pw k = m.min) (hk : k = 0) :
    leftQ m g y = rightW m g m.min := by
  subst hk
  rw [pw_zero] at h
  have hlt := ok.hlt
  obtain rfl : y = m.min + 1 := by omega
  unfold rightW; rw [if_neg (by omega)]
  exact (rightQ_eq_left_succ (Int.le_refl _) hlt).symm

def UpTo (m : LQ) (g : Int → Nat) (q : Nat) (a : Int) (f : Nat) (y : Int) (k : Nat)
    (found : Bool) : Prop :=
  ∀ left, m.up (extL g) (extR g) q f (-y) (pw k) left found = .ok (a, leftQ m g a, rightW m g a)

theorem down_dir (ok : m.Ok) (gk : GOk m g) {q : Nat} {a : Int} (ha : Bin m g q a) :
    Dir m.min m.max a (kmax m.t) (DownTo m g q a) where
  lo_le := ha.1
  le_hi := ha.2.1
  hit := fun left hl => by rw [pw_zero]; exact down_exact ok gk ha (fun h => hl h rfl)
  turn := by
    intro f y j found h1 hya h2 h left _
    have hpj := pw_pos j
    have hmax : y ≤ m.max := by omega
    rw [down_add (leftEval ok gk _ h1 hmax) ((left_le_iff ok gk ha h1 hmax).mpr hya)
      (pw_succ_gt j) (s' := y + pw j)
      (by rw [pw_half]; exact SymTy.cadd_ok (ok.inRange (by omega) h2)), pw_half]
    exact h _ (fun e => absurd e (by omega))
  on := by
    intro f y k k' hk' hay hyh hlo h left _
    have hmin : m.min < y := Int.lt_of_le_of_lt ha.1 hay
    have hnq : ¬ leftQ m g y ≤ q := fun hq =>
      Int.not_le.mpr hay ((left_le_iff ok gk ha (Int.le_of_lt hmin) hyh).mp hq)
    have hpk := pw_pos k'
    rw [down_sub (fun hc => Int.ne_of_gt hmin hc.1) (leftEval ok gk _ (Int.le_of_lt hmin) hyh) hnq
      (s' := y - pw k')
      (by rw [pw_halve, ← hk']; exact SymTy.csub_ok (ok.inRange hlo (by omega))), pw_halve, ← hk']
    exact h _ (leftQ_of_pred_min ok)
  leap := by
    intro f y k hay hyh hk h left _
    have hmin : m.min < y := Int.lt_of_le_of_lt ha.1 hay
    have hnq : ¬ leftQ m g y ≤ q := fun hq =>
      Int.not_le.mpr hay ((left_le_iff ok gk ha (Int.le_of_lt hmin) hyh).mp hq)
    have hbits := kmax_lt_bits m.t ok.hbits
    obtain ⟨k2, hk2, hfit, hmaxi, hstep⟩ := stepDown_spec ok (s := y) hmin hyh
      (k1 := min (k + 1) (kmax m.t)) (fuel := m.t.bits + 1) (Nat.min_le_right _ _)
      (Nat.succ_le_succ (Nat.le_trans (Nat.min_le_right _ _) (Nat.le_of_succ_le hbits)))
    rw [down_exp (fun hc => Int.ne_of_gt hmin hc.1) (leftEval ok gk _ (Int.le_of_lt hmin) hyh) hnq
      (by rw [dbl_eq ok.hbits hk]; exact hstep)]
    exact h k2 hk2 hfit hmaxi _ (leftQ_of_pred_min ok)

theorem up_beyond (ok : m.Ok) (gk : GOk m g) {q : Nat} {a : Int} (ha : Bin m g q a) {y : Int}
    (hay : -a < y) (hyh : y ≤ -m.min) :
    m.min ≤ -y ∧ -y < a ∧ -y < m.max ∧ ¬ (rightW m g (-y) > q ∨ rightW m g (-y) = 0) := by
  have hmin : m.min ≤ -y := Int.le_neg_of_le_neg hyh
  have hlt : -y < a := Int.neg_lt_of_neg_lt hay
  have hmax : -y < m.max := Int.lt_of_lt_of_le hlt ha.2.1
  exact ⟨hmin, hlt, hmax, fun hc =>
    Int.not_le.mpr hlt ((cond_iff ok gk ha hmin (Int.le_of_lt hmax)).mp hc)⟩

theorem neg_add_eq (y p : Int) : -y + p = -(y - p) := by
  rw [Int.neg_sub, Int.sub_eq_add_neg, Int.add_comm]

theorem up_dir (ok : m.Ok) (gk : GOk m g) {q : Nat} {a : Int} (ha : Bin m g q a) :
    Dir (-m.max) (-m.min) (-a) (kmax m.t) (UpTo m g q a) where
  lo_le := Int.neg_le_neg ha.2.1
  le_hi := Int.neg_le_neg ha.1
  hit := fun left => by rw [Int.neg_neg, pw_zero]; exact up_exact ok gk ha
  turn := by
    intro f y j found h1 hya h2 h left
    have hpj := pw_pos j
    have hmin : m.min ≤ -y := by omega
    have hmax : -y ≤ m.max := Int.neg_le_of_neg_le h1
    rw [up_sub (rightOf_eval ok gk _ hmin hmax)
      ((cond_iff ok gk ha hmin hmax).mpr (Int.le_neg_of_le_neg hya)) (pw_succ_gt j)
      (s' := -y - pw j)
      (by rw [pw_half]; exact SymTy.csub_ok (ok.inRange (by omega) (by omega))), pw_half,
      show -y - pw j = -(y + pw j) by rw [Int.neg_add, Int.sub_eq_add_neg]]
    exact h _
  on := by
    intro f y k k' hk' hay hyh hlo h left
    obtain ⟨hmin, hlt, hmax, hnc⟩ := up_beyond ok gk ha hay hyh
    have hpk := pw_pos k'
    rw [up_add (fun hc => Int.ne_of_lt hmax hc.1) (rightOf_eval ok gk _ hmin (Int.le_of_lt hmax)) hnc
      (s' := -y + pw k')
      (by rw [pw_halve, ← hk']; exact SymTy.cadd_ok (ok.inRange (by omega) (by omega))),
      pw_halve, ← hk', neg_add_eq]
    exact h _
  leap := by
    intro f y k hay hyh hk h left
    obtain ⟨hmin, hlt, hmax, hnc⟩ := up_beyond ok gk ha hay hyh
    have hbits := kmax_lt_bits m.t ok.hbits
    obtain ⟨k2, hk2, hfit, hmaxi, hstep⟩ := stepUp_spec ok (s := -y) hmin hmax
      (k1 := min (k + 1) (kmax m.t)) (fuel := m.t.bits + 1) (Nat.min_le_right _ _)
      (Nat.succ_le_succ (Nat.le_trans (Nat.min_le_right _ _) (Nat.le_of_succ_le hbits)))
    rw [up_exp (fun hc => Int.ne_of_lt hmax hc.1) (rightOf_eval ok gk _ hmin (Int.le_of_lt hmax)) hnc
      (by rw [dbl_eq ok.hbits hk]; exact hstep), neg_add_eq]
    exact h k2 hk2 (by omega) (by omega) _

theorem span_le_four (ok : m.Ok) : (m.max - m.min) < (((3 + 1) * 2 ^ kmax m.t : Nat) : Int) := by
  obtain ⟨_, hK2, hlo⟩ := pow_kmax m.t ok.hbits
  have hmin := ok.hmin.1
  have hmax := ok.hmax.2
  omega

theorem search_from (ok : m.Ok) (gk : GOk m g) {q : Nat} {a : Int} (ha : Bin m g q a)
    {s0 : Int} (h1 : m.min ≤ s0) (h2 : s0 ≤ m.max) {fuel : Nat} (hf : searchFuel m.t ≤ fuel) :
    (leftQ m g s0 > q → m.down (extL g) (extR g) q fuel (s0 - 1) 1 (leftQ m g s0) false
      = .ok (a, leftQ m g a, rightW m g a)) ∧
    (¬ leftQ m g s0 > q → m.up (extL g) (extR g) q fuel s0 1 (leftQ m g s0) false
      = .ok (a, leftQ m g a, rightW m g a)) := by
  -- `expA` from exponent `0` with `c = 3` (`span_le_four`: the support is shorter than
  -- `(3 + 1) * 2^kmax`) asks for `2 * kmax + 7` probes, and `kmax < bits`
  have hfuel : (kmax m.t - 0) + 3 + kmax m.t + 4 ≤ fuel := by
    have := kmax_lt_bits m.t ok.hbits
    unfold searchFuel at hf
    omega
  have hsp := span_le_four ok
  have ha1 := ha.1
  have ha2 := ha.2.1
  constructor
  · intro hgt
    have hlt : a < s0 := Int.not_le.mp fun h =>
      Nat.not_le.mpr hgt ((left_le_iff ok gk ha h1 h2).mpr h)
    have := (down_dir ok gk ha).expA fuel 0 3 (s0 - 1) (Nat.zero_le _) hfuel
      (by unfold Dir.Inv; rw [pw_zero]; omega) (by omega)
      (leftQ m g s0) (fun h _ => leftQ_of_pred_min ok (k := 0) (by rw [pw_zero]; exact h) rfl)
    rw [pw_zero] at this
    exact this
  · intro hgt
    have hle : s0 ≤ a := (left_le_iff ok gk ha h1 h2).mp (Nat.le_of_not_gt hgt)
    have := (up_dir ok gk ha).expA fuel 0 3 (-s0) (Nat.zero_le _) hfuel
      (by unfold Dir.Inv; rw [pw_zero]; omega) (by omega) (leftQ m g s0)
    rw [pw_zero, Int.neg_neg] at this
    exact this

theorem clamp_spec {x lo hi : Int} (h : lo < hi) (s : Int)
    (hs : s = if x ≤ lo then lo else if x > hi then hi else x) :
    lo ≤ s ∧ s ≤ hi ∧ (x ≤ lo → s = lo) ∧ (¬ x ≤ lo → lo < s) := by omega

/-- **The hint only seeds the search**: the owner of `q`, the encoder's answer `encQ a`, no `Fault`,
    within `searchFuel t` probes -/
theorem dec_correct (ok : m.Ok) (gk : GOk m g) {q : Nat} (hq : q < 2 ^ m.P) (hint : Int)
    {fuel : Nat} (hf : searchFuel m.t ≤ fuel) :
    ∃ a, Bin m g q a ∧
      m.dec (extL g) (extR g) fuel hint q = .ok (a, leftQ m g a, widthQ m g a) := by
  obtain ⟨a, ha⟩ := bin_exists (g := g) ok hq
  refine ⟨a, ha, ?_⟩
  have hlt := ok.hlt
  have hw := widthQ_bounds ok gk ha.1 ha.2.1
  have hws := wsub_rightW ok gk ha.1 ha.2.1
  unfold LQ.dec
  simp only [maxProb_eq ok.hPB]
  rw [if_neg (not_not_intro (Nat.le_sub_one_of_lt hq))]
  generalize hs : (if hint ≤ m.min then m.min else if hint > m.max then m.max else hint) = s0
  obtain ⟨h1, h2, hlo, hgt⟩ := clamp_spec ok.hlt s0 hs.symm
  have hL : (if hint ≤ m.min then (.ok 0 : SM Nat) else m.leaky (extL g) "quant.dec.left" s0)
      = .ok (leftQ m g s0) := by
    by_cases hle : hint ≤ m.min
    · rw [if_pos hle, hlo hle, leftQ_min]
    · rw [if_neg hle]; exact leaky_left ok gk _ (hgt hle) h2
  simp only [hL]
  obtain ⟨hdown, hup⟩ := search_from ok gk ha h1 h2 hf
  by_cases hgt : leftQ m g s0 > q
  · have hlt : a < s0 := Int.not_le.mp fun h =>
      Nat.not_le.mpr hgt ((left_le_iff ok gk ha h1 h2).mpr h)
    have ha1 := ha.1
    rw [if_pos hgt, SymTy.csub_ok (ok.inRange (x := s0 - 1) (by omega) (by omega))]
    simp only [liftM]
    rw [hdown hgt]
    simp only
    rw [hws, if_neg (Nat.ne_of_gt hw.1)]
  · rw [if_neg hgt, hup hgt]
    simp only
    rw [hws, if_neg (Nat.ne_of_gt hw.1)]

theorem dec_enc_consistent (ok : m.Ok) (gk : GOk m g) {q : Nat} (hq : q < 2 ^ m.P) (hint : Int)
    {fuel : Nat} (hf : searchFuel m.t ≤ fuel) :
    ∃ a c p, m.dec (extL g) (extR g) fuel hint q = .ok (a, c, p) ∧
      m.enc (extL g) (extR g) a = .ok (some (c, p)) ∧ c ≤ q ∧ q < c + p := by
  obtain ⟨a, ha, hdec⟩ := dec_correct ok gk hq hint hf
  refine ⟨a, _, _, hdec, ?_, ha.2.2.1, ?_⟩
  · exact enc_in ok gk ha.1 ha.2.1
  · have := leftQ_lt_rightQ ok gk ha.1 ha.2.1
    have := ha.2.2.2
    unfold widthQ; omega

theorem enc_dec_consistent (ok : m.Ok) (gk : GOk m g) {s : Int} (h1 : m.min ≤ s) (h2 : s ≤ m.max)
    {q : Nat} (hl : leftQ m g s ≤ q) (hr : q < leftQ m g s + widthQ m g s) (hint : Int)
    {fuel : Nat} (hf : searchFuel m.t ≤ fuel) :
    m.dec (extL g) (extR g) fuel hint q = .ok (s, leftQ m g s, widthQ m g s) := by
  have hlr := leftQ_lt_rightQ ok gk h1 h2
  have hrt := rightQ_le ok gk h1 h2
  unfold widthQ at hr
  obtain ⟨a, ha, hdec⟩ := dec_correct ok gk (q := q) (by omega) hint hf
  rw [bin_unique_q ok gk ⟨h1, h2, hl, by omega⟩ ha]; exact hdec

end search

end CV.Quant
