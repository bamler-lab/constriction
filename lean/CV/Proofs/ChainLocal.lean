import CV.Proofs.ChainStep
/-!
# Chain coder: decoding is local (C14)

`quantiles c n hc comp` is the list of the first `n` chunks that the bit buffer
`(hc, comp)` hands out.  It is defined from `takeChunk` – the compressed half of
`decode_symbol` – alone: no entropy model and no remainders state enter.  The end of the file
holds the other facts about lists of symbols: decoded symbols lie in the support of their
models (C10), and what `encode_symbols` pushed `decode_symbols` pops again (C09).
-/
namespace CV.Chain

/-- the first `n` chunks of the bit buffer `(hc, comp)`; shorter if the data runs out -/
def quantiles (c : Cfg) : Nat → Nat → List Nat → List Nat
  | 0, _, _ => []
  | n + 1, hc, comp =>
    match takeChunk c hc comp with
    | .ok (word, hc', comp') => quantileOf c word :: quantiles c n hc' comp'
    | .error _ => []

theorem quantiles_length_le (c : Cfg) : ∀ n hc comp, (quantiles c n hc comp).length ≤ n := by
  intro n
  induction n with
  | zero => intro hc comp; simp [quantiles]
  | succ n ih =>
    intro hc comp
    simp only [quantiles]
    cases takeChunk c hc comp with
    | error e => simp
    | ok r =>
      obtain ⟨word, hc', comp'⟩ := r
      simp only [List.length_cons]
      have := ih hc' comp'
      omega

/-- **C14**: the symbols are `zipWith` of the chunks and the models; an error is reported iff the
    chunks run out, and it is `outOfData`; the invariant is kept. -/
theorem locality {Sym : Type} {c : Cfg} (hv : CValid c) :
    ∀ (ms : List (Model Sym)) (x : Coder), (∀ m ∈ ms, m.WellFormed c.P) → Inv c x →
      (decodeSymbols c ms x).1 =
        List.zipWith (fun q m => (m.dec q).1)
          (quantiles c ms.length x.heads.compressed x.compressed) ms ∧
      ((decodeSymbols c ms x).2.2 = none ↔
        (quantiles c ms.length x.heads.compressed x.compressed).length = ms.length) ∧
      ((decodeSymbols c ms x).2.2 = none ∨ (decodeSymbols c ms x).2.2 = some .outOfData) ∧
      Inv c (decodeSymbols c ms x).2.1 := by
  intro ms
  induction ms with
  | nil => intro x _ hx; simp [decodeSymbols, quantiles, hx]
  | cons m ms ih =>
    intro x hms hx
    have hm := hms m (List.mem_cons_self)
    have hms' : ∀ m' ∈ ms, m'.WellFormed c.P := fun m' h => hms m' (List.mem_cons_of_mem _ h)
    rcases decode_spec hv hm hx with ⟨herr, _, _, htk⟩ | ⟨s, y, word, hdec, hstep⟩
    · simp [decodeSymbols, herr, quantiles, htk, hx]
    · obtain ⟨ih1, ih2, ih3, ih4⟩ := ih y hms' hstep.inv
      simp only [decodeSymbols, hdec, List.length_cons, quantiles, hstep.chunk,
        List.zipWith_cons_cons]
      refine ⟨?_, ?_, ih3, ih4⟩
      · rw [ih1, hstep.symbol]
      · rw [ih2]; simp

theorem locality_get {Sym : Type} {c : Cfg} (hv : CValid c) (ms : List (Model Sym)) (x : Coder)
    (hms : ∀ m ∈ ms, m.WellFormed c.P) (hx : Inv c x) (i : Nat) :
    (decodeSymbols c ms x).1[i]? =
      match (quantiles c ms.length x.heads.compressed x.compressed)[i]?, ms[i]? with
      | some q, some m => some (m.dec q).1
      | _, _ => none := by
  rw [(locality hv ms x hms hx).1, List.getElem?_zipWith]
  cases (quantiles c ms.length x.heads.compressed x.compressed)[i]? <;> cases ms[i]? <;> rfl

theorem locality_length {Sym : Type} {c : Cfg} (hv : CValid c) (ms : List (Model Sym)) (x : Coder)
    (hms : ∀ m ∈ ms, m.WellFormed c.P) (hx : Inv c x) :
    (decodeSymbols c ms x).1.length =
      (quantiles c ms.length x.heads.compressed x.compressed).length := by
  rw [(locality hv ms x hms hx).1, List.length_zipWith]
  have := quantiles_length_le c ms.length x.heads.compressed x.compressed
  omega

theorem locality_compare {Sym : Type} {c : Cfg} (hv : CValid c)
    (ms ms' : List (Model Sym)) (x x' : Coder)
    (hms : ∀ m ∈ ms, m.WellFormed c.P) (hms' : ∀ m ∈ ms', m.WellFormed c.P)
    (hx : Inv c x) (hx' : Inv c x') (hlen : ms.length = ms'.length)
    (hq : (quantiles c ms.length x.heads.compressed x.compressed).length =
          (quantiles c ms.length x'.heads.compressed x'.compressed).length) :
    (decodeSymbols c ms x).1.length = (decodeSymbols c ms' x').1.length ∧
    (decodeSymbols c ms x).2.2 = (decodeSymbols c ms' x').2.2 ∧
    ∀ i : Nat, ms[i]? = ms'[i]? →
      (quantiles c ms.length x.heads.compressed x.compressed)[i]? =
        (quantiles c ms.length x'.heads.compressed x'.compressed)[i]? →
      (decodeSymbols c ms x).1[i]? = (decodeSymbols c ms' x').1[i]? := by
  refine ⟨?_, ?_, ?_⟩
  · rw [locality_length hv ms x hms hx, locality_length hv ms' x' hms' hx', ← hlen, hq]
  · obtain ⟨_, h2, h3, _⟩ := locality hv ms x hms hx
    obtain ⟨_, h2', h3', _⟩ := locality hv ms' x' hms' hx'
    rw [← hlen] at h2'
    by_cases hfull : (quantiles c ms.length x.heads.compressed x.compressed).length = ms.length
    · rw [h2.mpr hfull, h2'.mpr (by rw [← hq, hfull, hlen])]
    · have hn : (decodeSymbols c ms x).2.2 ≠ none := fun h => hfull (h2.mp h)
      have hn' : (decodeSymbols c ms' x').2.2 ≠ none := fun h => hfull (by rw [hq, h2'.mp h, hlen])
      rcases h3 with h | h
      · exact absurd h hn
      · rcases h3' with h' | h'
        · exact absurd h' hn'
        · rw [h, h']
  · intro i hmi hqi
    rw [locality_get hv ms x hms hx, locality_get hv ms' x' hms' hx', ← hlen, hmi, hqi]

theorem decodeSymbols_support {Sym : Type} {c : Cfg} (hv : CValid c) :
    ∀ (ms : List (Model Sym)) (x : Coder), (∀ m ∈ ms, m.WellFormed c.P) → Inv c x →
      ∀ (i : Nat) (s : Sym), (decodeSymbols c ms x).1[i]? = some s →
        ∃ m cum p, ms[i]? = some m ∧ m.enc s = some (cum, p) ∧ 0 < p := by
  intro ms
  induction ms with
  | nil => intro x _ _ i s h; simp [decodeSymbols] at h
  | cons m ms ih =>
    intro x hms hx i s h
    have hm := hms m (List.mem_cons_self)
    have hms' : ∀ m' ∈ ms, m'.WellFormed c.P := fun m' h => hms m' (List.mem_cons_of_mem _ h)
    rcases decode_spec hv hm hx with ⟨herr, _⟩ | ⟨s0, y, word, hdec, hstep⟩
    · simp [decodeSymbols, herr] at h
    · obtain ⟨⟨cum, p⟩, hcp⟩ := hstep.support
      simp only [decodeSymbols, hdec] at h
      cases i with
      | zero =>
        simp only [List.getElem?_cons_zero, Option.some.injEq] at h
        subst h
        exact ⟨m, cum, p, rfl, hcp, (hm.1 _ _ _ hcp).1⟩
      | succ i =>
        simp only [List.getElem?_cons_succ] at h
        obtain ⟨m', cum', p', h1, h2, h3⟩ := ih y hms' hstep.inv i s h
        exact ⟨m', cum', p', by simpa using h1, h2, h3⟩

theorem decodeSymbols_append {Sym : Type} {c : Cfg} :
    ∀ (ms1 ms2 : List (Model Sym)) (a : Coder) (ss : List Sym) (b : Coder),
      decodeSymbols c ms1 a = (ss, b, none) →
      decodeSymbols c (ms1 ++ ms2) a =
        (ss ++ (decodeSymbols c ms2 b).1, (decodeSymbols c ms2 b).2.1, (decodeSymbols c ms2 b).2.2) := by
  intro ms1
  induction ms1 with
  | nil =>
    intro ms2 a ss b h
    simp only [decodeSymbols, Prod.mk.injEq] at h
    obtain ⟨rfl, rfl, _⟩ := h
    simp
  | cons m1 ms1 ih1 =>
    intro ms2 a ss b h
    simp only [List.cons_append, decodeSymbols] at h ⊢
    cases hd : decode c m1 a with
    | error e => simp [hd] at h
    | ok r =>
      obtain ⟨s1, a1⟩ := r
      simp only [hd] at h ⊢
      rcases hrec : decodeSymbols c ms1 a1 with ⟨ss1, b1, e1⟩
      simp only [hrec, Prod.mk.injEq] at h
      obtain ⟨rfl, rfl, rfl⟩ := h
      rw [ih1 ms2 a1 ss1 b1 hrec]
      simp

theorem encodeSymbols_decodeSymbols {Sym : Type} {c : Cfg} (hv : CValid c) :
    ∀ (l : List (Sym × Model Sym)) (x y : Coder),
      (∀ e ∈ l, e.2.WellFormed c.P ∧ ∃ cp, e.2.enc e.1 = some cp) → Inv c x →
      encodeSymbols c l x = (y, none) →
      Inv c y ∧ decodeSymbols c (l.reverse.map (·.2)) y = (l.reverse.map (·.1), x, none) := by
  intro l
  induction l with
  | nil =>
    intro x y _ hx h
    simp only [encodeSymbols, Prod.mk.injEq, and_true] at h
    subst h
    exact ⟨hx, by simp [decodeSymbols]⟩
  | cons e l ih =>
    intro x y hl hx h
    obtain ⟨s, m⟩ := e
    obtain ⟨hm, ⟨cum, p⟩, hcp⟩ := hl (s, m) (List.mem_cons_self)
    have hl' : ∀ e ∈ l, e.2.WellFormed c.P ∧ ∃ cp, e.2.enc e.1 = some cp :=
      fun e he => hl e (List.mem_cons_of_mem _ he)
    simp only at hm hcp
    rcases encode_spec hv hm hx hcp with ⟨herr, _⟩ | ⟨x1, henc, hx1, hdec⟩
    · simp [encodeSymbols, herr] at h
    · simp only [encodeSymbols, henc] at h
      obtain ⟨hy, hds⟩ := ih x1 y hl' hx1 h
      refine ⟨hy, ?_⟩
      simp only [List.reverse_cons, List.map_append, List.map_cons, List.map_nil]
      -- decode the later symbols first, then the one encoded first
      rw [decodeSymbols_append _ [m] y _ x1 hds]
      simp [decodeSymbols, hdec]

end CV.Chain
