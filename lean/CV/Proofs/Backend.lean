import CV.Proofs.BackendZipper
/-!
# `Cursor` / `Reverse<Cursor>` through the zipper

Facts about the Impl model (`Cur.step`, `Cur.run`).  A state satisfying the invariant is
`Cur.ofZ rev z` (`Cur.exists_ofZ`) and a step on it is a zipper step (`Cur.step_ofZ`); runs of
writes and reads follow by induction on the run.
-/
namespace CV.Backend

/-! ## zipper images: position, length, single steps -/

def posOf (rev : Bool) (z : Z) : Nat := if rev then z.ahd.length else z.stk.length

theorem Cur.inner_pos_ofZ (rev : Bool) (z : Z) : (Cur.ofZ rev z).inner.pos = posOf rev z := by
  cases rev <;> rfl

theorem Cur.inner_len_ofZ (rev : Bool) (z : Z) :
    (Cur.ofZ rev z).inner.buf.length = z.stk.length + z.ahd.length := by
  cases rev <;> simp [Cur.ofZ, Cur.inner, RevCursor.ofZ, Cursor.ofZ, Z.swap, Nat.add_comm]

theorem length_append_drop {ws l : List Nat} (h : ws.length ≤ l.length) :
    (ws ++ l.drop ws.length).length = l.length := by
  rw [List.length_append, List.length_drop]
  omega

theorem Cur.ofZ_same_shape (rev : Bool) {z z' : Z} (h1 : z'.stk.length = z.stk.length)
    (h2 : z'.ahd.length = z.ahd.length) :
    (Cur.ofZ rev z').inner.pos = (Cur.ofZ rev z).inner.pos ∧
      (Cur.ofZ rev z').inner.buf.length = (Cur.ofZ rev z).inner.buf.length := by
  rw [Cur.inner_pos_ofZ, Cur.inner_pos_ofZ, Cur.inner_len_ofZ, Cur.inner_len_ofZ, h1, h2]
  cases rev
  · exact ⟨h1, rfl⟩
  · exact ⟨h2, rfl⟩

theorem Cur.run_cons_ok {wr : Bool} {s s' : Cur} {op : Op} {o : Out}
    (h : Cur.step wr s op = .ok (o, s')) (ops : List Op) :
    Cur.run wr s (op :: ops) = (o :: (Cur.run wr s' ops).1, (Cur.run wr s' ops).2) := by
  rw [Cur.run, h]

theorem Cur.run_append (wr : Bool) (a : List Op) : ∀ (s : Cur) (b : List Op),
    Cur.run wr s (a ++ b) =
      match (Cur.run wr s a).2 with
      | .ok s' => ((Cur.run wr s a).1 ++ (Cur.run wr s' b).1, (Cur.run wr s' b).2)
      | .error f => ((Cur.run wr s a).1, .error f) := by
  induction a with
  | nil =>
    intro s b
    rfl
  | cons op a ih =>
    intro s b
    rw [List.cons_append, Cur.run, Cur.run]
    cases Cur.step wr s op with
    | error f => rfl
    | ok p =>
      simp only [ih p.2 b]
      cases (Cur.run wr p.2 a).2 <;> rfl

theorem Cur.spaceLeft_ofZ (rev : Bool) (z : Z) :
    Cur.step true (Cur.ofZ rev z) .spaceLeft = .ok (.num z.ahd.length, Cur.ofZ rev z) :=
  Cur.step_ofZ true rev z .spaceLeft rfl

theorem Cur.remS_ofZ (wr rev : Bool) (z : Z) :
    Cur.step wr (Cur.ofZ rev z) .remS = .ok (.num z.stk.length, Cur.ofZ rev z) :=
  Cur.step_ofZ wr rev z .remS rfl

theorem Cur.remQ_ofZ (wr rev : Bool) (z : Z) :
    Cur.step wr (Cur.ofZ rev z) .remQ = .ok (.num z.ahd.length, Cur.ofZ rev z) :=
  Cur.step_ofZ wr rev z .remQ rfl

theorem Cur.pos_ofZ (wr rev : Bool) (z : Z) :
    Cur.step wr (Cur.ofZ rev z) .pos = .ok (.num (posOf rev z), Cur.ofZ rev z) := by
  cases rev <;> rfl

theorem Cur.write_ofZ (rev : Bool) (w : Nat) (stk : List Nat) (a : Nat) (ah : List Nat) :
    Cur.step true (Cur.ofZ rev ⟨stk, a :: ah⟩) (.write w) = .ok (.ok, Cur.ofZ rev ⟨w :: stk, ah⟩) :=
  Cur.step_ofZ true rev _ _ rfl

theorem Cur.write_full_ofZ (rev : Bool) (w : Nat) (stk : List Nat) :
    Cur.step true (Cur.ofZ rev ⟨stk, []⟩) (.write w) = .ok (.full, Cur.ofZ rev ⟨stk, []⟩) :=
  Cur.step_ofZ true rev _ _ rfl

theorem Cur.readS_ofZ (wr rev : Bool) (a : Nat) (st ah : List Nat) :
    Cur.step wr (Cur.ofZ rev ⟨a :: st, ah⟩) .readS =
      .ok (.word (some a), Cur.ofZ rev ⟨st, a :: ah⟩) :=
  Cur.step_ofZ wr rev _ _ rfl

theorem Cur.readQ_ofZ (wr rev : Bool) (a : Nat) (st ah : List Nat) :
    Cur.step wr (Cur.ofZ rev ⟨st, a :: ah⟩) .readQ =
      .ok (.word (some a), Cur.ofZ rev ⟨a :: st, ah⟩) :=
  Cur.step_ofZ wr rev _ _ rfl

theorem Cur.readS_nil_ofZ (wr rev : Bool) (ah : List Nat) :
    Cur.step wr (Cur.ofZ rev ⟨[], ah⟩) .readS = .ok (.word none, Cur.ofZ rev ⟨[], ah⟩) :=
  Cur.step_ofZ wr rev _ _ rfl

theorem Cur.readQ_nil_ofZ (wr rev : Bool) (st : List Nat) :
    Cur.step wr (Cur.ofZ rev ⟨st, []⟩) .readQ = .ok (.word none, Cur.ofZ rev ⟨st, []⟩) :=
  Cur.step_ofZ wr rev _ _ rfl

/-! ## what a read leaves unchanged; fusedness -/

theorem Cursor.readStack_none {c c' : Cursor} (h : c.readStack = .ok (none, c')) : c' = c := by
  unfold Cursor.readStack at h
  split at h
  · cases h; rfl
  · split at h <;> cases h

theorem Cursor.readStack_buf {c c' : Cursor} {o : Option Nat}
    (h : c.readStack = .ok (o, c')) : c'.buf = c.buf := by
  unfold Cursor.readStack at h
  split at h
  · cases h; rfl
  · split at h <;> cases h
    rfl

theorem Cursor.readQueue_none {c : Cursor} (h : (c.readQueue).1 = none) : (c.readQueue).2 = c := by
  unfold Cursor.readQueue at h ⊢
  split
  · rename_i hb
    rw [hb] at h
    cases h
  · rfl

theorem RevCursor.readQueue_none {r r' : RevCursor} (h : r.readQueue = .ok (none, r')) : r' = r := by
  unfold RevCursor.readQueue at h
  split at h <;> cases h
  exact congrArg RevCursor.mk (Cursor.readStack_none ‹_›)

theorem word_none_inj {o : Option Nat} {s s' : Cur}
    (h : (.ok (.word o, s) : M (Out × Cur)) = .ok (.word none, s')) : o = none ∧ s = s' := by
  cases h; exact ⟨rfl, rfl⟩

theorem Cur.read_none_state (wr : Bool) (op : Op) (hop : op = .readS ∨ op = .readQ) (s s' : Cur)
    (h : Cur.step wr s op = .ok (.word none, s')) : s' = s := by
  cases s with
  | fwd c =>
    rcases hop with rfl | rfl
    · unfold Cur.step at h
      simp only [] at h
      split at h <;> cases h
      exact congrArg Cur.fwd (Cursor.readStack_none ‹_›)
    · obtain ⟨h1, rfl⟩ := word_none_inj h
      rw [Cursor.readQueue_none h1]
  | rev r =>
    rcases hop with rfl | rfl
    · obtain ⟨h1, rfl⟩ := word_none_inj h
      show Cur.rev ⟨(r.inner.readQueue).2⟩ = _
      rw [Cursor.readQueue_none h1]
    · unfold Cur.step at h
      simp only [] at h
      split at h <;> cases h
      exact congrArg Cur.rev (RevCursor.readQueue_none ‹_›)

/-- no invariant needed: holds even after `buf_mut` misuse -/
theorem Cur.fused (wr : Bool) (op : Op) (hop : op = .readS ∨ op = .readQ) (s s' : Cur)
    (h : Cur.step wr s op = .ok (.word none, s')) (m : Nat) :
    Cur.run wr s' (List.replicate m op) = (List.replicate m (Out.word none), .ok s') := by
  cases Cur.read_none_state wr op hop s s' h
  induction m with
  | zero => rfl
  | succ m ih =>
    rw [List.replicate_succ, Cur.run_cons_ok h, ih]
    rfl

/-! ## runs of writes and reads on a zipper image -/

theorem Cur.run_writes_ofZ (rev : Bool) (ws : List Nat) : ∀ z : Z, ws.length ≤ z.ahd.length →
    Cur.run true (Cur.ofZ rev z) (ws.map Op.write) =
      (List.replicate ws.length Out.ok,
        .ok (Cur.ofZ rev ⟨ws.reverse ++ z.stk, z.ahd.drop ws.length⟩)) := by
  induction ws with
  | nil =>
    intro z _
    rfl
  | cons w ws ih =>
    intro ⟨stk, ahd⟩ h
    cases ahd with
    | nil => exact absurd h (Nat.not_succ_le_zero _)
    | cons a ah =>
      rw [List.map_cons, Cur.run_cons_ok (Cur.write_ofZ rev w stk a ah),
        ih ⟨w :: stk, ah⟩ (Nat.le_of_succ_le_succ h)]
      simp [List.replicate_succ]

theorem Cur.run_readS_ofZ (wr rev : Bool) (xs : List Nat) : ∀ (st ah : List Nat),
    Cur.run wr (Cur.ofZ rev ⟨xs ++ st, ah⟩) (List.replicate xs.length Op.readS) =
      (xs.map (fun w => Out.word (some w)), .ok (Cur.ofZ rev ⟨st, xs.reverse ++ ah⟩)) := by
  induction xs with
  | nil =>
    intro st ah
    rfl
  | cons x xs ih =>
    intro st ah
    rw [List.length_cons, List.replicate_succ, List.cons_append,
      Cur.run_cons_ok (Cur.readS_ofZ wr rev x _ ah), ih]
    simp

theorem Cur.run_readQ_ofZ (wr rev : Bool) (xs : List Nat) : ∀ (st ah : List Nat),
    Cur.run wr (Cur.ofZ rev ⟨st, xs ++ ah⟩) (List.replicate xs.length Op.readQ) =
      (xs.map (fun w => Out.word (some w)), .ok (Cur.ofZ rev ⟨xs.reverse ++ st, ah⟩)) := by
  induction xs with
  | nil =>
    intro st ah
    rfl
  | cons x xs ih =>
    intro st ah
    rw [List.length_cons, List.replicate_succ, List.cons_append,
      Cur.run_cons_ok (Cur.readQ_ofZ wr rev x st _), ih]
    simp

theorem Cur.run_readS_all (wr rev : Bool) (z : Z) (m : Nat) :
    Cur.run wr (Cur.ofZ rev z) (List.replicate (z.stk.length + m) Op.readS) =
      (z.stk.map (fun w => Out.word (some w)) ++ List.replicate m (Out.word none),
        .ok (Cur.ofZ rev ⟨[], z.stk.reverse ++ z.ahd⟩)) := by
  have h := Cur.run_readS_ofZ wr rev z.stk [] z.ahd
  rw [List.append_nil] at h
  rw [← List.replicate_append_replicate, Cur.run_append, h]
  simp only [Cur.fused wr .readS (.inl rfl) _ _ (Cur.readS_nil_ofZ wr rev _) m]

theorem Cur.run_readQ_all (wr rev : Bool) (z : Z) (m : Nat) :
    Cur.run wr (Cur.ofZ rev z) (List.replicate (z.ahd.length + m) Op.readQ) =
      (z.ahd.map (fun w => Out.word (some w)) ++ List.replicate m (Out.word none),
        .ok (Cur.ofZ rev ⟨z.ahd.reverse ++ z.stk, []⟩)) := by
  have h := Cur.run_readQ_ofZ wr rev z.ahd z.stk []
  rw [List.append_nil] at h
  rw [← List.replicate_append_replicate, Cur.run_append, h]
  simp only [Cur.fused wr .readQ (.inr rfl) _ _ (Cur.readQ_nil_ofZ wr rev _) m]

/-! ## `pos` and `seek` -/

def Cur.setPos : Cur → Nat → Cur
  | .fwd c, q => .fwd { c with pos := q }
  | .rev r, q => .rev ⟨{ r.inner with pos := q }⟩

theorem Cursor.seek_le (c : Cursor) (q : Nat) (h : q ≤ c.buf.length) :
    c.seek q = some { c with pos := q } := by
  simp [Cursor.seek, Nat.not_lt.mpr h]

theorem Cur.step_seek_le (wr : Bool) (s : Cur) (q : Nat) (h : q ≤ s.inner.buf.length) :
    Cur.step wr s (.seek q) = .ok (.ok, s.setPos q) := by
  cases s with
  | fwd c =>
    unfold Cur.step
    simp only [Cursor.seek_le c q h]
    rfl
  | rev r =>
    unfold Cur.step
    simp only [RevCursor.seek, Cursor.seek_le r.inner q h]
    rfl

theorem Cur.step_seek_gt (wr : Bool) (s : Cur) (q : Nat) (h : q > s.inner.buf.length) :
    Cur.step wr s (.seek q) = .ok (.err, s) := by
  cases s with
  | fwd c =>
    have : c.seek q = none := by simp [Cursor.seek, show q > c.buf.length from h]
    unfold Cur.step; simp only [this]
  | rev r =>
    have : r.inner.seek q = none := by simp [Cursor.seek, show q > r.inner.buf.length from h]
    unfold Cur.step; simp only [RevCursor.seek, this]

theorem Cur.seek_ofZ (wr rev : Bool) (z z' : Z)
    (h : (Cur.ofZ rev z').inner.buf = (Cur.ofZ rev z).inner.buf) :
    Cur.step wr (Cur.ofZ rev z) (.seek (posOf rev z')) = .ok (.ok, Cur.ofZ rev z') := by
  have hle : posOf rev z' ≤ (Cur.ofZ rev z).inner.buf.length := by
    rw [← h, ← Cur.inner_pos_ofZ]; exact Cur.ofZ_inv rev z'
  rw [Cur.step_seek_le wr _ _ hle]
  cases rev
  · exact congrArg (fun b => Except.ok (Out.ok, Cur.fwd ⟨b, z'.stk.length⟩)) h.symm
  · exact congrArg (fun b => Except.ok (Out.ok, Cur.rev ⟨⟨b, z'.ahd.length⟩⟩)) h.symm

/-! ## `into_reversed` is observationally a no-op -/

def Mirror (c : Cursor) (r : RevCursor) : Prop :=
  r.inner.buf = c.buf.reverse ∧ r.inner.pos + c.pos = c.buf.length

theorem mirror_ofZ (z : Z) : Mirror (Cursor.ofZ z) (RevCursor.ofZ z) := by
  simp [Mirror, Cursor.ofZ, RevCursor.ofZ, Z.swap]; omega

theorem mirror_exists (c : Cursor) (r : RevCursor) (h : Mirror c r) :
    ∃ z, c = Cursor.ofZ z ∧ r = RevCursor.ofZ z := by
  have hI : c.Inv := by unfold Cursor.Inv; have := h.2; omega
  refine ⟨c.toZ, (Cursor.ofZ_toZ c hI).symm, ?_⟩
  obtain ⟨⟨rb, rp⟩⟩ := r
  obtain ⟨h1, h2⟩ := h
  simp only at h1 h2
  have hb : rb = (c.buf.drop c.pos).reverse ++ (c.buf.take c.pos).reverse := by
    rw [h1, ← List.reverse_append, List.take_append_drop]
  have hp : rp = (c.buf.drop c.pos).length := by simp [List.length_drop]; omega
  simp [RevCursor.ofZ, Cursor.ofZ, Z.swap, Cursor.toZ, Cur.stackView, Cur.queueView, hb, hp]

def Cur.Mirror : Cur → Cur → Prop
  | .fwd c, .rev r => CV.Backend.Mirror c r
  | .rev r, .fwd c => CV.Backend.Mirror c r
  | _, _ => False

theorem flipAll_not (wr : Bool) (ops : List Op) : ∀ d, flipAll wr ops (!d) = !(flipAll wr ops d) := by
  induction ops with
  | nil =>
    intro d
    rfl
  | cons op ops ih =>
    intro d
    have : flipOn wr op (!d) = !(flipOn wr op d) := by
      unfold flipOn; split
      · cases wr <;> simp
      · rfl
    rw [flipAll, flipAll, this, ih]

theorem Cur.reverse_bisim (wr : Bool) (c : Cursor) (r : RevCursor) (h : CV.Backend.Mirror c r)
    (ops : List Op) (hs : ∀ op ∈ ops, op.Sym = true) :
    (Cur.run wr (.fwd c) ops).1 = (Cur.run wr (.rev r) ops).1 ∧
    ∃ sa sb, (Cur.run wr (.fwd c) ops).2 = .ok sa ∧ (Cur.run wr (.rev r) ops).2 = .ok sb ∧
      Cur.Mirror sa sb := by
  obtain ⟨z, rfl, rfl⟩ := mirror_exists c r h
  have h1 := Cur.run_ofZ wr ops false z hs
  have h2 := Cur.run_ofZ wr ops true z hs
  rw [show true = !false from rfl, flipAll_not] at h2
  rw [show Cur.fwd (Cursor.ofZ z) = Cur.ofZ false z from rfl,
    show Cur.rev (RevCursor.ofZ z) = Cur.ofZ (!false) z from rfl, h1, h2]
  exact ⟨rfl, _, _, rfl, rfl, by cases flipAll wr ops false <;> exact mirror_ofZ _⟩

theorem mirror_pos (c : Cursor) (r : RevCursor) (h : Mirror c r) :
    r.getPos = c.buf.length - c.getPos := by
  have := h.2; simp [RevCursor.getPos, Cursor.getPos]; omega

/-! ## invariant and buffer length along histories (C17, C20) -/

theorem Z.extend_len (ws : List Nat) : ∀ z : Z,
    (Z.extend z ws).2.stk.length + (Z.extend z ws).2.ahd.length = z.stk.length + z.ahd.length := by
  induction ws with
  | nil =>
    intro z
    rfl
  | cons w ws ih =>
    intro ⟨stk, ahd⟩
    cases ahd with
    | nil => rfl
    | cons a ah =>
      rw [Z.extend, ih]
      exact Nat.add_right_comm stk.length 1 ah.length

theorem Z.step_len (wr : Bool) (z : Z) (op : Op) :
    (Z.step wr z op).2.stk.length + (Z.step wr z op).2.ahd.length = z.stk.length + z.ahd.length := by
  obtain ⟨stk, ahd⟩ := z
  cases op with
  | readS =>
    cases stk with
    | nil => rfl
    | cons a st => exact Nat.add_right_comm st.length ahd.length 1
  | readQ =>
    cases ahd with
    | nil => rfl
    | cons a ah => exact Nat.add_right_comm stk.length 1 ah.length
  | write w =>
    cases wr
    · rfl
    · cases ahd with
      | nil => rfl
      | cons a ah => exact Nat.add_right_comm stk.length 1 ah.length
  | extend ws =>
    cases wr
    · rfl
    · exact Z.extend_len ws _
  | spaceLeft | full | intoReversed => cases wr <;> rfl
  | _ => rfl

theorem Cur.step_ok (wr : Bool) (s : Cur) (hI : s.Inv) (op : Op) (hop : ∀ ws, op ≠ .bmSet ws) :
    ∃ o s', Cur.step wr s op = .ok (o, s') ∧ s'.Inv ∧
      s'.inner.buf.length = s.inner.buf.length := by
  by_cases hs : op.Sym = true
  · obtain ⟨rev, z, rfl⟩ := Cur.exists_ofZ s hI
    refine ⟨_, _, Cur.step_ofZ wr rev z op hs, Cur.ofZ_inv _ _, ?_⟩
    rw [Cur.inner_len_ofZ, Cur.inner_len_ofZ, Z.step_len]
  · cases op with
    | pos => cases s <;> exact ⟨_, _, rfl, hI, rfl⟩
    | raw => cases s <;> exact ⟨_, _, rfl, hI, rfl⟩
    | seek q =>
      by_cases hq : q ≤ s.inner.buf.length
      · refine ⟨_, _, Cur.step_seek_le wr s q hq, ?_⟩
        cases s <;> exact ⟨hq, rfl⟩
      · exact ⟨_, _, Cur.step_seek_gt wr s q (Nat.lt_of_not_le hq), hI, rfl⟩
    | bmSet ws => exact absurd rfl (hop ws)
    | _ => exact absurd rfl hs

theorem Cur.run_ok (wr : Bool) (ops : List Op) : ∀ (s : Cur), s.Inv →
    (∀ op ∈ ops, ∀ ws, op ≠ .bmSet ws) →
    ∃ outs s', Cur.run wr s ops = (outs, .ok s') ∧ s'.Inv ∧ outs.length = ops.length ∧
      s'.inner.buf.length = s.inner.buf.length := by
  induction ops with
  | nil =>
    intro s hI _
    exact ⟨[], s, rfl, hI, rfl, rfl⟩
  | cons op ops ih =>
    intro s hI h
    obtain ⟨o, s1, h1, hI1, hl1⟩ := Cur.step_ok wr s hI op (h op List.mem_cons_self)
    obtain ⟨outs, s2, h2, hI2, hn, hl2⟩ := ih s1 hI1 (fun o ho => h o (List.mem_cons_of_mem _ ho))
    refine ⟨o :: outs, s2, ?_, hI2, congrArg (· + 1) hn, hl2.trans hl1⟩
    rw [Cur.run_cons_ok h1, h2]

/-! ## a write overwrites the cell at the position -/

theorem Cursor.write_overwrites (c c' : Cursor) (w : Nat) (h : c.write w = .ok c') :
    c'.buf = c.buf.set c.pos w ∧ c'.pos = c.pos + 1 := by
  unfold Cursor.write at h
  split at h
  · cases h; exact ⟨rfl, rfl⟩
  · cases h

end CV.Backend
