import CV.Proofs.RangeDigits
/-!
# Properties of the big-number reference coder (no reference to the implementation)

The state of the reference coder is an interval `[Lo, Lo + R)` at the scale `(2^W)^m · 2^S`.  It
stays inside `[0, 1)` with `2^(S-W) ≤ R < 2^S` (`SpecInv`).  Intervals are nested, and truncating
a stream to a coarser scale preserves membership (`step_back`), so a stream that lies in the final
interval of a run lay in every interval on the way.  The sealed words lie in the final interval,
within `2^(S-W) − 1` of `Lo`.
-/
namespace CV.Range
variable {c : Cfg} {Sym : Type}
open RangeSpec

def nW (c : Cfg) : Nat := c.S / c.W

theorem RValid.S_eq (hc : RValid c) : c.S = nW c * c.W :=
  (Nat.div_mul_cancel hc.2).symm

theorem RValid.two_le_nW (hc : RValid c) : 2 ≤ nW c := by
  unfold nW
  rw [Nat.le_div_iff_mul_le hc.W_pos]
  exact hc.two_W_le

theorem RValid.pow_nW (hc : RValid c) : (2^c.W)^(nW c) = 2^c.S := by
  rw [← Nat.pow_mul, Nat.mul_comm, ← hc.S_eq]

theorem RValid.pow_nW_pred (hc : RValid c) : (2^c.W)^(nW c - 1) = 2^(c.S - c.W) := by
  rw [← Nat.pow_mul, Nat.mul_sub, Nat.mul_one, Nat.mul_comm, ← hc.S_eq]

theorem RValid.pow_nW_pred2 (hc : RValid c) : (2^c.W)^(nW c - 2) = 2^(c.S - 2 * c.W) := by
  rw [← Nat.pow_mul, Nat.mul_sub, Nat.mul_comm c.W (nW c), ← hc.S_eq, Nat.mul_comm]

def SpecInv (c : Cfg) (st : St) : Prop :=
  2^(c.S - c.W) ≤ st.R ∧ st.R < 2^c.S ∧ st.Lo + st.R ≤ (2^c.W)^st.m * 2^c.S

theorem specInv_init (hc : RValid c) : SpecInv c (init c.S) := by
  have := Nat.two_pow_pos c.S
  have := hc.pow_SW_lt
  refine ⟨?_, ?_, ?_⟩ <;> simp only [init, Nat.pow_zero, Nat.one_mul] <;> omega

theorem specInv_step (hc : RValid c) {st : St} (hI : SpecInv c st) {cum p : Nat}
    (hp : 0 < p) (hcp : cum + p ≤ 2^c.P) : SpecInv c (step c.W c.S st c.P cum p) := by
  obtain ⟨hr, hr2, hle⟩ := hI
  obtain ⟨-, -, hsub, hge⟩ := scale_facts hc hr hp hcp
  have hin : st.Lo + st.R / 2^c.P * cum + st.R / 2^c.P * p ≤ (2^c.W)^st.m * 2^c.S :=
    Nat.le_trans (by rw [Nat.add_assoc]; exact Nat.add_le_add_left hsub _) hle
  unfold step
  dsimp only
  split
  · next hlt =>
    refine ⟨hge, hc.mul_lt hlt, ?_⟩
    rw [← Nat.add_mul, Nat.pow_succ, Nat.mul_right_comm]
    exact Nat.mul_le_mul_right _ hin
  · next hlt =>
    exact ⟨Nat.le_of_not_lt hlt, Nat.lt_of_le_of_lt (Nat.le_trans (Nat.le_add_left _ _) hsub) hr2,
      hin⟩

theorem MStep.Valid.specInv {x : MStep Sym} (hx : x.Valid c) {st : St}
    (hI : SpecInv c st) : SpecInv c (step c.W c.S st x.P x.cp.1 x.cp.2) :=
  specInv_step (c := cfgAt c x.B x.P) hx.1 hI hx.cp_ok.1 hx.cp_ok.2.1

theorem specInv_run : ∀ (msg : List (MStep Sym)) (st : St),
    SpecInv c st → (∀ x ∈ msg, x.Valid c) → SpecInv c (run c.W c.S st (msg.map MStep.spec))
  | [], _, h, _ => h
  | _ :: xs, _, h, hv =>
    have hv' := List.forall_mem_cons.mp hv
    specInv_run xs _ (hv'.1.specInv h) hv'.2

/-- `State::max_value()` marks "nothing encoded"; a step leaves it -/
theorem step_R_lt (hc : RValid c) {st : St} (hr : 2^(c.S - c.W) ≤ st.R)
    (hr2 : st.R < 2^c.S) {cum p : Nat} (hp2 : p < 2^c.P) :
    (step c.W c.S st c.P cum p).R < 2^c.S - 1 := by
  have hs := scale_pos hc hr
  unfold step
  dsimp only
  split
  · next hlt =>
    -- `(scale·p + 1)·2^W ≤ 2^S` and `2 ≤ 2^W`
    have h1 : (st.R / 2^c.P * p + 1) * 2^c.W ≤ 2^(c.S - c.W) * 2^c.W :=
      Nat.mul_le_mul_right _ hlt
    rw [← hc.pow_S, Nat.add_mul, Nat.one_mul] at h1
    exact Nat.lt_sub_of_add_lt (Nat.lt_of_lt_of_le (Nat.add_lt_add_left Nat.one_lt_two _)
      (Nat.le_trans (Nat.add_le_add_left hc.two_le_pow_W _) h1))
  · -- `scale·(p + 1) ≤ scale·2^P ≤ R`
    have h1 : st.R / 2^c.P * (p + 1) ≤ st.R :=
      Nat.le_trans (Nat.mul_le_mul_left _ hp2) (Nat.div_mul_le_self st.R (2^c.P))
    rw [Nat.mul_add, Nat.mul_one] at h1
    exact Nat.lt_sub_of_add_lt
      (Nat.lt_of_le_of_lt (Nat.le_trans (Nat.add_le_add_left hs _) h1) hr2)

theorem step_m_le (W S : Nat) (st : St) (P cum p : Nat) :
    st.m ≤ (step W S st P cum p).m ∧ (step W S st P cum p).m ≤ st.m + 1 := by
  unfold step
  dsimp only
  split <;> dsimp only <;> omega

theorem run_m_le (W S : Nat) (st : St) (l : List (Nat × Nat × Nat)) :
    st.m ≤ (run W S st l).m ∧ (run W S st l).m ≤ st.m + l.length := by
  induction l generalizing st with
  | nil => simp [run]
  | cons x xs ih =>
    obtain ⟨P, cum, p⟩ := x
    have h1 := step_m_le W S st P cum p
    have h2 := ih (step W S st P cum p)
    simp only [run, List.length_cons]
    omega

theorem run_append (W S : Nat) (st : St) (a b : List (Nat × Nat × Nat)) :
    run W S st (a ++ b) = run W S (run W S st a) b := by
  induction a generalizing st with
  | nil => rfl
  | cons _ xs ih => exact ih _

/-! ### streams inside the interval -/

def Contains (c : Cfg) (st : St) (ws : List Nat) : Prop :=
  st.Lo ≤ pre c.W ws (st.m + nW c) ∧ pre c.W ws (st.m + nW c) < st.Lo + st.R

theorem step_back {st : St} {cum p : Nat} {ws : List Nat} (hw : WordsOK c ws)
    (h : Contains c (step c.W c.S st c.P cum p) ws) :
    st.Lo + st.R / 2^c.P * cum ≤ pre c.W ws (st.m + nW c) ∧
    pre c.W ws (st.m + nW c) < st.Lo + st.R / 2^c.P * cum + st.R / 2^c.P * p := by
  unfold Contains step at h
  dsimp only at h
  split at h <;> dsimp only at h
  · have hm : st.m + 1 + nW c = (st.m + nW c) + 1 := by omega
    rw [hm, pre] at h
    have hd := hw.getD (st.m + nW c)
    generalize pre c.W ws (st.m + nW c) = x at *
    generalize ws.getD (st.m + nW c) 0 = d at *
    generalize st.Lo + st.R / 2^c.P * cum = lo at *
    generalize st.R / 2^c.P * p = r at *
    obtain ⟨h1, h2⟩ := h
    rw [← Nat.add_mul] at h2
    constructor
    · -- lo * b ≤ x * b + d < (x + 1) * b
      have h3 : lo * 2^c.W < (x + 1) * 2^c.W := by
        rw [Nat.succ_mul]; exact Nat.lt_of_le_of_lt h1 (Nat.add_lt_add_left hd _)
      exact Nat.le_of_lt_succ (Nat.lt_of_mul_lt_mul_right h3)
    · exact Nat.lt_of_mul_lt_mul_right (Nat.lt_of_le_of_lt (Nat.le_add_right _ _) h2)
  · omega

theorem contains_of_step (hc : RValid c) {st : St} (hI : SpecInv c st) {cum p : Nat}
    (hp : 0 < p) (hcp : cum + p ≤ 2^c.P) {ws : List Nat} (hw : WordsOK c ws)
    (h : Contains c (step c.W c.S st c.P cum p) ws) : Contains c st ws := by
  obtain ⟨h1, h2⟩ := step_back hw h
  obtain ⟨-, -, hsub, -⟩ := scale_facts hc hI.1 hp hcp
  exact ⟨Nat.le_trans (Nat.le_add_right _ _) h1,
    Nat.lt_of_lt_of_le h2 (by rw [Nat.add_assoc]; exact Nat.add_le_add_left hsub _)⟩

theorem contains_of_run {ws : List Nat} (hw : WordsOK c ws) :
    ∀ (msg : List (MStep Sym)) (st : St), SpecInv c st → (∀ x ∈ msg, x.Valid c) →
    Contains c (run c.W c.S st (msg.map MStep.spec)) ws → Contains c st ws
  | [], _, _, _, h => h
  | x :: xs, _, hI, hv, h =>
    have hv' := List.forall_mem_cons.mp hv
    contains_of_step (c := cfgAt c x.B x.P) hv'.1.1 hI hv'.1.cp_ok.1 hv'.1.cp_ok.2.1 hw
      (contains_of_run hw xs _ (hv'.1.specInv hI) hv'.2 h)

/-! ### sealing -/

/-- the word index `⌊(Lo + 2^(S-W) − 1) / 2^(S-W)⌋` chosen by sealing -/
def sealY (c : Cfg) (st : St) : Nat := (st.Lo + 2^(c.S - c.W) - 1) / 2^(c.S - c.W)

theorem sealWords_spec_eq (c : Cfg) (st : St) :
    RangeSpec.sealWords c.W c.S st = digits c.W (st.m + 1) (sealY c st) ++
      (if (st.Lo + st.R) / 2^(c.S - c.W) % 2^c.W = sealY c st % 2^c.W then [0] else []) := rfl

theorem sealWords_spec_length (c : Cfg) (st : St) :
    st.m + 1 ≤ (RangeSpec.sealWords c.W c.S st).length ∧
      (RangeSpec.sealWords c.W c.S st).length ≤ st.m + 2 := by
  rw [sealWords_spec_eq, List.length_append, length_digits]
  split
  · exact ⟨Nat.le_add_right _ _, Nat.le_refl _⟩
  · exact ⟨Nat.le_refl _, Nat.le_succ _⟩

theorem sealWords_spec_wordsOK (c : Cfg) (st : St) : WordsOK c (RangeSpec.sealWords c.W c.S st) := by
  rw [sealWords_spec_eq]
  apply (digits_wordsOK c _ _).append
  split
  · exact WordsOK.cons (Nat.two_pow_pos _) WordsOK.nil
  · exact WordsOK.nil

theorem words_spec_wordsOK (c : Cfg) (l : List (Nat × Nat × Nat)) :
    WordsOK c (RangeSpec.words c.W c.S l) := by
  cases l with
  | nil => exact WordsOK.nil
  | cons x xs => exact sealWords_spec_wordsOK c _

theorem sealY_lt (hc : RValid c) {st : St} (hI : SpecInv c st) :
    sealY c st < (2^c.W)^(st.m + 1) := by
  obtain ⟨hr, _, hle⟩ := hI
  have hU := Nat.two_pow_pos (c.S - c.W)
  rw [sealY, Nat.div_lt_iff_lt_mul hU, Nat.pow_succ, Nat.mul_assoc, Nat.mul_comm (2^c.W),
    ← hc.pow_S]
  omega

theorem seal_pre (hc : RValid c) {st : St} (hI : SpecInv c st) :
    pre c.W (RangeSpec.sealWords c.W c.S st) (st.m + nW c) = sealY c st * 2^(c.S - c.W) := by
  have hN := hc.two_le_nW
  have hz : ∀ l : List Nat, l = [0] ∨ l = [] → pre c.W l (nW c - 1) = 0 := by
    intro l hl
    apply pre_of_getD_zero
    intro j
    rcases hl with rfl | rfl
    · cases j <;> rfl
    · rfl
  rw [sealWords_spec_eq, show st.m + nW c = (st.m + 1) + (nW c - 1) by omega,
    pre_digits_append c.W (sealY_lt hc hI), hc.pow_nW_pred, hz _ (by split <;> simp)]
  rfl

theorem seal_contains (hc : RValid c) {st : St} (hI : SpecInv c st) :
    Contains c st (RangeSpec.sealWords c.W c.S st) ∧
    pre c.W (RangeSpec.sealWords c.W c.S st) (st.m + nW c) - st.Lo < 2^(c.S - c.W) := by
  have hU := Nat.two_pow_pos (c.S - c.W)
  have hpos : 1 ≤ st.Lo + 2^(c.S - c.W) := Nat.le_trans hU (Nat.le_add_left _ _)
  -- `Y·U ≤ Lo + U − 1 < Y·U + U` for the point index `Y`
  have ha := Nat.div_mul_le_self (st.Lo + 2^(c.S - c.W) - 1) (2^(c.S - c.W))
  have hb := Nat.succ_le_of_lt (Nat.lt_mul_div_succ (st.Lo + 2^(c.S - c.W) - 1) hU)
  rw [Nat.succ_eq_add_one, Nat.sub_add_cancel hpos, Nat.mul_comm, Nat.succ_mul] at hb
  have hlo : st.Lo ≤ sealY c st * 2^(c.S - c.W) := Nat.le_of_add_le_add_right hb
  have hhi : sealY c st * 2^(c.S - c.W) < st.Lo + 2^(c.S - c.W) :=
    Nat.lt_of_le_of_lt ha (Nat.sub_lt hpos Nat.one_pos)
  unfold Contains
  rw [seal_pre hc hI]
  exact ⟨⟨hlo, Nat.lt_of_lt_of_le hhi (Nat.add_le_add_left hI.1 _)⟩,
    Nat.sub_lt_left_of_lt_add hlo hhi⟩

end CV.Range
