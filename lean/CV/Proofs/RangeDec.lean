import CV.Proofs.RangeBasic
/-!
# Range decoder: one `decode_symbol` on arbitrary words (C10)

`point ⊖ lower < range` is established by `decode_symbol` for *every* buffer content; the only
error is `InvalidData`, exactly when the quantile is `≥ 2^P`.
-/
namespace CV.Range
variable {c : Cfg} {Sym : Type}

/-- all `decode_symbol` needs: values fit their types, `range ≥ 2^(S-W)` (enforced by
    `RangeCoderState`), the buffer holds `Word`s -/
def DReg (c : Cfg) (d : Decoder) : Prop :=
  d.lower < 2^c.S ∧ 2^(c.S - c.W) ≤ d.range ∧ d.range < 2^c.S ∧ d.point < 2^c.S ∧
  WordsOK c d.data

/-- `DReg` plus the invariant documented on `RangeDecoder::point` -/
def DInv (c : Cfg) (d : Decoder) : Prop :=
  DReg c d ∧ wsub c.S d.point d.lower < d.range

/-! ### wrapping subtraction -/

theorem wsub_eq (n a b : Nat) : wsub n a b = (a + 2^n - b % 2^n) % 2^n := rfl

theorem wsub_lt (n a b : Nat) : wsub n a b < 2^n := Nat.mod_lt _ (Nat.two_pow_pos n)

/-! ### `decode_symbol` without the checks -/

def quantileOf (c : Cfg) (d : Decoder) : Nat :=
  wsub c.S d.point d.lower / (d.range / 2^c.P)

/-- the decoder after a symbol with `(cum, p)`; a word past the end of the data reads as `0`, and
    `| word` is written `+ word` -/
def decNext (c : Cfg) (d : Decoder) (cum p : Nat) : Decoder :=
  let scale := d.range / 2^c.P
  let lower1 := (d.lower + scale * cum) % 2^c.S
  let range1 := scale * p
  if range1 < 2^(c.S - c.W) then
    { d with pos := if d.pos < d.data.length then d.pos + 1 else d.pos,
             lower := lower1 * 2^c.W % 2^c.S, range := range1 * 2^c.W,
             point := d.point * 2^c.W % 2^c.S + d.data.getD d.pos 0 }
  else { d with lower := lower1, range := range1 }

def decPure {Sym : Type} (c : Cfg) (m : Model Sym) (d : Decoder) : Sym × Decoder :=
  ((m.dec (quantileOf c d)).1,
    decNext c d (m.dec (quantileOf c d)).2.1 (m.dec (quantileOf c d)).2.2)

/-- `x·b mod (U·b)` is a multiple of `b`, so OR-ing a word is adding it -/
theorem shifted_or (hc : RValid c) (x w : Nat) (hw : w < 2^c.W) :
    (x * 2^c.W) % 2^c.S ||| w = (x * 2^c.W) % 2^c.S + w := by
  rw [hc.shift_mod, ← shl_or_eq hw, Nat.shiftLeft_eq]

theorem shifted_add_lt (hc : RValid c) (x w : Nat) (hw : w < 2^c.W) :
    (x * 2^c.W) % 2^c.S + w < 2^c.S := by
  rw [hc.shift_mod, hc.pow_S]
  exact mul_add_lt_mul (Nat.mod_lt _ (Nat.two_pow_pos _)) hw

theorem decodeStep_eq (hc : RValid c) {d : Decoder} (hI : DReg c d)
    (s : Sym) {cum p : Nat} (hp : 0 < p) (hcp : cum + p ≤ 2^c.P) :
    decodeStep c d (d.range / 2^c.P) s cum p = .ok (s, decNext c d cum p) := by
  obtain ⟨-, hr, hr2, -, hdata⟩ := hI
  obtain ⟨-, hp1, hsub, -⟩ := scale_facts hc hr hp hcp
  unfold decodeStep decNext
  rw [cmul_ok (Nat.lt_of_le_of_lt (Nat.le_trans (Nat.le_add_right _ _) hsub) hr2),
    cmul_ok (Nat.lt_of_le_of_lt (Nat.le_trans (Nat.le_add_left _ _) hsub) hr2)]
  simp only [Nat.ne_of_gt hp1, if_false, hc.shl_thr, wadd_eq]
  split
  · next hlt =>
    have hne : d.range / 2^c.P * p * 2^c.W ≠ 0 :=
      Nat.ne_of_gt (Nat.mul_pos hp1 (Nat.two_pow_pos _))
    simp only [hc.shl_W, Nat.mod_eq_of_lt (hc.mul_lt hlt), hne, if_false]
    by_cases hpos : d.pos < d.data.length
    · have hw : d.data[d.pos] < 2^c.W := hdata _ (List.getElem_mem hpos)
      simp only [List.getElem?_eq_getElem hpos, List.getD, Option.getD_some, hpos, if_true,
        shifted_or hc _ _ hw]
    · simp only [List.getElem?_eq_none (Nat.le_of_not_lt hpos), List.getD, Option.getD_none, hpos,
        if_false, Nat.add_zero]
  · rfl

theorem decode_eq_pure (hc : RValid c) {m : Model Sym}
    (hm : m.WellFormed c.P) {d : Decoder} (hI : DReg c d) :
    decode c m d =
      if quantileOf c d ≥ 2^c.P then .error .invalidData else .ok (decPure c m d) := by
  have hscale : d.range / 2^c.P ≠ 0 := Nat.ne_of_gt (scale_pos hc hI.2.1)
  have hPS : 2^c.P < 2^c.S := Nat.pow_lt_pow_right (by omega) hc.P_lt_S
  unfold decode
  simp only [hc.shr_P, cdiv_ok hscale, shl_ok hc.P_lt_S, Nat.shiftLeft_eq, Nat.one_mul,
    Nat.mod_eq_of_lt hPS]
  show (if quantileOf c d ≥ 2^c.P then _ else _) = _
  split
  · rfl
  · next hq =>
    have hq' : quantileOf c d < 2^c.P := Nat.lt_of_not_le hq
    obtain ⟨henc, _, _⟩ := hm.2 _ hq'
    obtain ⟨hp, hcp, _, _⟩ := hm.1 _ _ _ henc
    -- the quantile survives `as Word as Probability`
    unfold quantileOf at hq'
    rw [narrow_of_lt (Nat.lt_of_lt_of_le hq' (pow_le_pow2 hc.P_le_W)),
      narrow_of_lt (Nat.lt_of_lt_of_le hq' (pow_le_pow2 hc.1.2.1))]
    exact decodeStep_eq hc hI _ hp hcp

/-- no assumption that the data came from an encoder, nor that `point ⊖ lower < range` held
    before: it is enough that the chosen sub-interval contains `point ⊖ lower` -/
theorem decNext_inv (hc : RValid c) {d : Decoder} (hI : DReg c d) {cum p : Nat}
    (hp : 0 < p) (hcp : cum + p ≤ 2^c.P)
    (hlo : d.range / 2^c.P * cum ≤ wsub c.S d.point d.lower)
    (hhi : wsub c.S d.point d.lower < d.range / 2^c.P * (cum + p)) :
    DInv c (decNext c d cum p) := by
  obtain ⟨hl, hr, hr2, hpt, hdata⟩ := hI
  obtain ⟨_, _, hsub, hge⟩ := scale_facts hc hr hp hcp
  have hT := Nat.two_pow_pos c.S
  have hl1 : (d.lower + d.range / 2^c.P * cum) % 2^c.S < 2^c.S := Nat.mod_lt _ hT
  have hD1 := wsub_advance hpt hl hlo
  rw [Nat.mul_add] at hhi
  unfold decNext
  dsimp only
  split
  · next hlt =>
    have hw := hdata.getD d.pos
    have hpt2 := shifted_add_lt hc d.point _ hw
    have hr2' := hc.mul_lt hlt
    -- the new distance `D·2^W + w` with `D < scale·p`
    have hnew : (wsub c.S d.point d.lower - d.range / 2^c.P * cum) * 2^c.W + d.data.getD d.pos 0
        < d.range / 2^c.P * p * 2^c.W := mul_add_lt_mul (by omega) hw
    rw [← hD1] at hnew
    have key := wsub_shift hpt hl1 (Nat.lt_trans hnew hr2') hpt2
    refine ⟨⟨Nat.mod_lt _ hT, hge, hr2', hpt2, hdata⟩, ?_⟩
    dsimp only
    rw [key]; exact hnew
  · next hlt =>
    refine ⟨⟨hl1, Nat.le_of_not_lt hlt, ?_, hpt, hdata⟩, ?_⟩ <;> dsimp only
    · omega
    · rw [hD1]; omega

theorem decode_total {Sym : Type} {c : Cfg} (hc : RValid c) {m : Model Sym}
    (hm : m.WellFormed c.P) {d : Decoder} (hI : DReg c d) :
    (decode c m d = .error .invalidData ∧ quantileOf c d ≥ 2^c.P) ∨
    (∃ s d', decode c m d = .ok (s, d') ∧ DInv c d' ∧ (m.enc s).isSome ∧
      quantileOf c d < 2^c.P) := by
  rw [decode_eq_pure hc hm hI]
  by_cases hq : quantileOf c d ≥ 2^c.P
  · exact .inl ⟨if_pos hq, hq⟩
  · have hq' : quantileOf c d < 2^c.P := Nat.lt_of_not_le hq
    obtain ⟨henc, hle, hlt⟩ := hm.2 _ hq'
    obtain ⟨hp, hcp, _, _⟩ := hm.1 _ _ _ henc
    have hs := scale_pos hc hI.2.1
    -- the quantile's sub-interval contains `point ⊖ lower`
    refine .inr ⟨_, _, if_neg hq, decNext_inv hc hI hp hcp ?_ ?_, by rw [henc]; rfl, hq'⟩
    · exact Nat.le_trans (Nat.mul_le_mul_left _ hle) (Nat.mul_div_le _ _)
    · exact Nat.lt_of_lt_of_le (Nat.lt_mul_div_succ _ hs) (Nat.mul_le_mul_left _ hlt)

end CV.Range
