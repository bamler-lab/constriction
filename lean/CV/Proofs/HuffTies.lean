import CV.Proofs.HuffOpt
/-!
# Tie-breaking: codeword lengths are monotone in the key `(weight, index)`

For exact sums: if `(w_i, i) ≤ (w_j, j)` lexicographically then symbol `j`'s codeword is not
longer than symbol `i`'s.  Two invariants go through the merge loop together, `TieG` and `TieC`.
-/
namespace CV.Huff

/-- depth is antitone in the key over the heap -/
def TieG (heap : List (Nat × Nat)) (T : Tree) : Prop :=
  ∀ p ∈ heap, ∀ q ∈ heap, keyLe p q → T.depth q.2 ≤ T.depth p.2

/-- if the loop head merges the minima `a`, `b` of the heap into weight `w`, every entry not
heavier than `w` sits at most one level above `a` -/
def TieC (heap : List (Nat × Nat)) (T : Tree) : Prop :=
  ∀ a b w h2, step exactOps heap = .merge a b w h2 →
    ∀ z ∈ heap, z.1 ≤ w → T.depth a.2 ≤ T.depth z.2 + 1

theorem ties_inv {top : Nat} (fuel : Nat) : ∀ (heap : List (Nat × Nat)) (next : Nat),
    LoopInv fuel heap next top → ∀ T, treeLoop exactOps fuel heap next = some T → TieG heap T ∧ TieC heap T := by
  intro heap next hinv T hT
  refine treeLoop_induction (P := fun heap _ T => TieG heap T ∧ TieC heap T) ?_ ?_
    fuel heap next hinv T hT
  · intro a next
    constructor
    · intro p hp q hq _
      cases List.mem_singleton.mp hp; cases List.mem_singleton.mp hq; exact Nat.le_refl _
    · intro a0 b0 w0 h20 e
      cases (step_perm e).length_eq
  · intro heap next a b s h2 T' hok hs hleaves' ih
    obtain ⟨hG, hC⟩ := ih
    cases step_exact hs
    have m := hok.merge hs
    have hp := step_perm hs
    have hzmem : next ∈ T'.leaves := hleaves'.mem_iff.mpr List.mem_cons_self
    have hnotT : ∀ x, x < next → x ∉ h2.map (·.2) → x ∉ T'.leaves := fun x hx hx2 h =>
      (List.mem_cons.mp (hleaves'.mem_iff.mp h)).elim (Nat.ne_of_lt hx) hx2
    have dA : (Tree.split next a.2 b.2 T').depth a.2 = T'.depth next + 1 :=
      Tree.depth_split_a (hnotT a.2 m.a_lt m.a_notin) hzmem
    have dB : (Tree.split next a.2 b.2 T').depth b.2 = T'.depth next + 1 :=
      Tree.depth_split_b m.ne (hnotT b.2 m.b_lt m.b_notin) hzmem
    have dX : ∀ x ∈ h2, (Tree.split next a.2 b.2 T').depth x.2 = T'.depth x.2 := by
      intro x hx
      have hxi : x.2 ∈ h2.map (·.2) := List.mem_map_of_mem hx
      have hxn : x.2 < next :=
        hok.lt_next x (hp.mem_iff.mpr (List.mem_cons_of_mem _ (List.mem_cons_of_mem _ hx)))
      exact Tree.depth_split_other (Nat.ne_of_lt hxn) (fun e : x.2 = a.2 => m.a_notin (e ▸ hxi))
        (fun e : x.2 = b.2 => m.b_notin (e ▸ hxi)) T'
    obtain ⟨hab_le, hbx⟩ := step_min natOrder_exact hs
    have hax : ∀ x ∈ h2, keyLe a x := fun x hx => keyLe_trans hab_le (hbx x hx)
    -- the merged node is above everything in `h2` that is not heavier
    have key : ∀ x ∈ h2, T'.depth x.2 ≤ T'.depth next + 1 := by
      intro x hx
      have hxc : x ∈ (a.1 + b.1, next) :: h2 := List.mem_cons_of_mem _ hx
      have hcc : ((a.1 + b.1, next) : Nat × Nat) ∈ (a.1 + b.1, next) :: h2 := List.mem_cons_self
      rcases keyLe_total (a.1 + b.1, next) x with hcx | hxc'
      · exact Nat.le_succ_of_le (hG _ hcc _ hxc hcx)
      · -- x is lighter than the merged node: use the next level's minima
        cases hs' : step exactOps ((a.1 + b.1, next) :: h2) with
        | fault f => exact absurd hs' (step_total total_exact _ f)
        | stop last =>
          have hlen := congrArg List.length (step_stop hs')
          cases h2 with
          | nil => cases hx
          | cons y ys => cases last <;> cases hlen
        | merge a' b' s' h2' =>
          cases step_exact hs'
          obtain ⟨ha'b', hb'x⟩ := step_min natOrder_exact hs'
          have hp' := step_perm hs'
          have ha'mem : a' ∈ (a.1 + b.1, next) :: h2 := hp'.mem_iff.mpr List.mem_cons_self
          have hb'mem : b' ∈ (a.1 + b.1, next) :: h2 :=
            hp'.mem_iff.mpr (List.mem_cons_of_mem _ List.mem_cons_self)
          -- the merged weight is at most the sum of the next two minima
          have hsum : a.1 + b.1 ≤ a'.1 + b'.1 := by
            have hwa : a.1 ≤ b.1 := keyLe_weight hab_le
            rcases List.mem_cons.mp ha'mem with h | h
            · rw [h]; exact Nat.le_add_right _ _
            · rcases List.mem_cons.mp hb'mem with h' | h'
              · rw [h']; exact Nat.le_add_left _ _
              · exact Nat.add_le_add (Nat.le_trans hwa (keyLe_weight (hbx a' h)))
                  (keyLe_weight (hbx b' h'))
          have hCc := hC a' b' _ h2' hs' _ hcc hsum
          have ha'x : keyLe a' x := by
            rcases List.mem_cons.mp (hp'.mem_iff.mp hxc) with h | h
            · rw [h]; exact keyLe_refl _
            · rcases List.mem_cons.mp h with h | h
              · rw [h]; exact ha'b'
              · exact keyLe_trans ha'b' (hb'x x h)
          exact Nat.le_trans (hG a' ha'mem x hxc ha'x) hCc
    -- every entry sits at most one level below the merged node, `a` and `b` exactly one
    have hle : ∀ q ∈ heap, (Tree.split next a.2 b.2 T').depth q.2 ≤ T'.depth next + 1 := by
      intro q hq
      rcases List.mem_cons.mp (hp.mem_iff.mp hq) with rfl | hq
      · exact Nat.le_of_eq dA
      · rcases List.mem_cons.mp hq with rfl | hq
        · exact Nat.le_of_eq dB
        · rw [dX q hq]; exact key q hq
    constructor
    · intro p hpm q hqm hpq
      rcases List.mem_cons.mp (hp.mem_iff.mp hpm) with rfl | hp1
      · rw [dA]; exact hle q hqm
      · rcases List.mem_cons.mp hp1 with rfl | hp2
        · rw [dB]; exact hle q hqm
        · -- `p` is neither of the minima, so `q` above it is neither
          have hpi : p.2 ∈ h2.map (·.2) := List.mem_map_of_mem hp2
          rcases List.mem_cons.mp (hp.mem_iff.mp hqm) with rfl | hq1
          · cases keyLe_antisymm hpq (hax p hp2); exact absurd hpi m.a_notin
          · rcases List.mem_cons.mp hq1 with rfl | hq2
            · cases keyLe_antisymm hpq (hbx p hp2); exact absurd hpi m.b_notin
            · rw [dX p hp2, dX q hq2]
              exact hG p (List.mem_cons_of_mem _ hp2) q (List.mem_cons_of_mem _ hq2) hpq
    · intro a0 b0 w0 h20 e z hzm hzw
      rw [hs] at e; cases e
      have hz1 := hp.mem_iff.mp hzm
      simp only [List.mem_cons] at hz1
      rcases hz1 with rfl | rfl | hz2
      · exact Nat.le_succ _
      · rw [dA, dB]; exact Nat.le_succ _
      · rw [dA, dX z hz2]
        have hzc : keyLe z (a.1 + b.1, next) :=
          (Nat.lt_or_eq_of_le hzw).imp id fun e => ⟨e, Nat.le_of_lt (hok.lt_next z hzm)⟩
        exact Nat.succ_le_succ (hG z (List.mem_cons_of_mem _ hz2) _ List.mem_cons_self hzc)

theorem huffTree_ties {ws : List Nat} {T : Tree} (hT : huffTree exactOps ws = some T)
    {i j wi wj : Nat} (hi : ws[i]? = some wi) (hj : ws[j]? = some wj)
    (hle : wi < wj ∨ (wi = wj ∧ i ≤ j)) : T.depth j ≤ T.depth i :=
  (ties_inv _ _ _ (loopInv_zipIdx ws) T hT).1
    (wi, i) (List.mk_mem_zipIdx_iff_getElem?.mpr hi) (wj, j)
    (List.mk_mem_zipIdx_iff_getElem?.mpr hj) hle

end CV.Huff
