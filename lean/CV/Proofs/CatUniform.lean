import CV.Proofs.CatLookup
/-!
# `UniformModel`

The model is the specification of the table `0, ppb, 2·ppb, …, (range-1)·ppb, 2^P` with
`ppb = ⌊2^P / range⌋`.  After the D9 repair a symbol that does not fit into `Probability` is
rejected *before* it is narrowed.
-/
namespace CV.Cat
open CV

def uniExt (P range : Nat) : List Nat :=
  (List.range range).map (fun i => i * (2 ^ P / range)) ++ [2 ^ P]

theorem uniExt_length (P range : Nat) : (uniExt P range).length = range + 1 := by simp [uniExt]

theorem uniExt_getD_lt (P range : Nat) {i : Nat} (hi : i < range) :
    (uniExt P range).getD i 0 = i * (2 ^ P / range) := by
  unfold uniExt
  rw [List.getD_eq_getElem?_getD, List.getElem?_append_left (by simpa using hi)]
  simp [hi]

theorem uniExt_getD_last (P range : Nat) : (uniExt P range).getD range 0 = 2 ^ P := by
  unfold uniExt
  rw [List.getD_eq_getElem?_getD, List.getElem?_append_right (by simp)]
  simp

theorem ppb_facts {P range : Nat} (h2 : 2 ≤ range) (hle : range ≤ 2 ^ P) :
    0 < 2 ^ P / range ∧ (range - 1) * (2 ^ P / range) < 2 ^ P ∧
      0 < (range - 1) * (2 ^ P / range) :=
  have hr0 : 0 < range := Nat.lt_of_lt_of_le Nat.zero_lt_two h2
  have hpos : 0 < 2 ^ P / range := Nat.div_pos hle hr0
  ⟨hpos, Nat.lt_of_lt_of_le (Nat.mul_lt_mul_of_pos_right (Nat.sub_lt hr0 Nat.one_pos) hpos)
    (Nat.mul_div_le _ _), Nat.mul_pos (Nat.sub_pos_of_lt h2) hpos⟩

theorem uni_mul_lt {P range i : Nat} (hle : range ≤ 2 ^ P) (hi : i < range) :
    i * (2 ^ P / range) < 2 ^ P :=
  Nat.lt_of_lt_of_le (Nat.mul_lt_mul_of_pos_right hi (Nat.div_pos hle (Nat.zero_lt_of_lt hi)))
    (Nat.mul_div_le _ _)

theorem uniExt_valid {P range : Nat} (h2 : 2 ≤ range) (hle : range ≤ 2 ^ P) :
    ValidExt P (uniExt P range) := by
  have hpos := (ppb_facts h2 hle).1
  refine ⟨by rw [uniExt_length]; omega, ?_, ?_, ?_⟩
  · rw [uniExt_getD_lt P range (by omega)]; simp
  · rw [uniExt_length, Nat.add_sub_cancel, uniExt_getD_last]
  · rw [List.pairwise_iff_getElem]
    intro i j hi hj hij
    rw [uniExt_length] at hi hj
    rw [← getD_of_lt (d := 0) (by rw [uniExt_length]; exact hi),
      ← getD_of_lt (d := 0) (by rw [uniExt_length]; exact hj),
      uniExt_getD_lt P range (by omega)]
    rcases Nat.lt_or_ge j range with hjr | hjr
    · rw [uniExt_getD_lt P range hjr]
      exact Nat.mul_lt_mul_of_pos_right hij hpos
    · rw [show j = range by omega, uniExt_getD_last]
      exact uni_mul_lt hle (by omega)

theorem sub_div_add_one {T r : Nat} (hr : 0 < r) (hle : r ≤ T) : (T - r) / r + 1 = T / r := by
  rw [← Nat.add_div_right _ hr, Nat.sub_add_cancel hle]

/-- **C19 for `UniformModel::new`**: a model for `2 ≤ range ≤ 2^P`, the `P = B` branch
    included; every other range panics (never UB), `Uniform.new_panics` -/
theorem Uniform.new_ok {B P range : Nat} (hP1 : 1 ≤ P) (hP : P ≤ B) (hPU : P ≤ U)
    (hr : range < 2 ^ U) (h2 : 2 ≤ range) (hle : range ≤ 2 ^ P) :
    Uniform.new B P range = .ok { ppb := 2 ^ P / range, last := range - 1 } := by
  have h2P := Nat.two_pow_pos P
  have hr0 : 0 < range := Nat.lt_of_lt_of_le Nat.zero_lt_two h2
  have hpos : 0 < 2 ^ P / range := Nat.div_pos hle hr0
  have hlt : 2 ^ P / range < 2 ^ P := Nat.div_lt_self h2P h2
  have hr1 : range - 1 < range := Nat.sub_lt hr0 Nat.one_pos
  -- one guard of `new` at a time; `simp only` steps into the next `let` / `match`
  unfold Uniform.new
  rw [if_neg (not_not_intro (show range > 1 from h2)),     -- `assert!(range > 1)`
    if_neg (Nat.ne_of_gt hr0)]                             -- `into_nonzero_unchecked`
  simp only
  rw [narrow_of_lt (Nat.lt_of_lt_of_le hr1 (Nat.le_trans hle (pow_le_pow2 hP))),
    narrow_of_lt (Nat.lt_trans hr1 hr), wsub_total_one hP1 hP,
    if_neg (not_not_intro ⟨Nat.sub_le_sub_right hle 1, rfl⟩)]  -- `last` fits and round-trips
  by_cases hPB' : P = B
  · subst hPB'
    have hdiv := sub_div_add_one hr0 hle
    rw [if_pos rfl]
    simp only [wsub_total hPU hr0 hle hr,
      narrow_of_lt (Nat.lt_of_le_of_lt (Nat.div_le_self _ _) (Nat.sub_lt h2P hr0))]
    rw [cadd_ok (hdiv ▸ hlt)]                              -- `+ 1` does not overflow
    simp only [hdiv]
    rw [if_neg (Nat.ne_of_gt hpos)]
  · have hlt' : P < B := Nat.lt_of_le_of_ne hP hPB'
    rw [if_neg hPB', shl_ok hlt']
    simp only [Nat.one_shiftLeft, Nat.mod_eq_of_lt (pow_lt_pow2 hlt')]
    rw [narrow_of_lt (Nat.lt_of_le_of_lt hle (pow_lt_pow2 hlt')),
      cdiv_ok (Nat.ne_of_gt hr0)]
    simp only
    rw [if_neg (Nat.ne_of_gt hpos)]                        -- `expect("range <= (1 << PRECISION)")`

theorem Uniform.new_panics {B P range : Nat} (hP1 : 1 ≤ P) (hP : P ≤ B)
    (hbad : ¬ (2 ≤ range ∧ range ≤ 2 ^ P)) :
    ∃ site, Uniform.new B P range = .error (.panic site) := by
  have hPB := pow_le_pow2 hP
  have h2P := Nat.two_pow_pos P
  unfold Uniform.new
  by_cases h1 : range > 1
  · rw [if_neg (by omega), if_neg (by omega)]
    simp only
    rw [wsub_total_one hP1 hP]
    refine ⟨"uniform.new.assert_fits", ?_⟩
    rw [if_pos]
    intro ⟨c1, c2⟩
    -- `last` round-trips, so `range - 1 < 2^B`, hence `last = range - 1 ≤ 2^P - 1`
    have hlastlt : narrow B (range - 1) < 2 ^ B := Nat.mod_lt _ (Nat.two_pow_pos B)
    have hU : narrow U (narrow B (range - 1)) ≤ narrow B (range - 1) := Nat.mod_le _ _
    have hle' : narrow B (range - 1) ≤ range - 1 := Nat.mod_le _ _
    have : narrow B (range - 1) = range - 1 := by omega
    omega
  · exact ⟨"uniform.new.assert_range", by rw [if_pos h1]⟩

/-- what `UniformModel::new` returned, if it returned -/
theorem Uniform.new_inv {B P range : Nat} {u : Uniform} (hP1 : 1 ≤ P) (hP : P ≤ B) (hPU : P ≤ U)
    (hr : range < 2 ^ U) (h : Uniform.new B P range = .ok u) :
    2 ≤ range ∧ range ≤ 2 ^ P ∧ u = { ppb := 2 ^ P / range, last := range - 1 } := by
  by_cases hv : 2 ≤ range ∧ range ≤ 2 ^ P
  · rw [Uniform.new_ok hP1 hP hPU hr hv.1 hv.2] at h
    simp only [Except.ok.injEq] at h
    exact ⟨hv.1, hv.2, h.symm⟩
  · obtain ⟨site, hs⟩ := Uniform.new_panics hP1 hP hv
    rw [hs] at h; simp at h

theorem specEnc_uniExt {P range : Nat} (h2 : 2 ≤ range) (s : Nat) :
    specEnc (uniExt P range) s =
      if s < range - 1 then some (s * (2 ^ P / range), 2 ^ P / range)
      else if s = range - 1 then
        some ((range - 1) * (2 ^ P / range), 2 ^ P - (range - 1) * (2 ^ P / range))
      else none := by
  have hr1 : range - 1 < range := Nat.sub_lt (Nat.lt_of_lt_of_le Nat.zero_lt_two h2) Nat.one_pos
  unfold specEnc
  rw [uniExt_length]
  by_cases hsl : s < range - 1
  · have hs1 : s + 1 < range := Nat.add_lt_of_lt_sub hsl
    rw [if_pos (Nat.succ_lt_succ (Nat.lt_trans hsl hr1)), if_pos hsl,
      uniExt_getD_lt P range (Nat.lt_trans hsl hr1), uniExt_getD_lt P range hs1, Nat.succ_mul,
      Nat.add_sub_cancel_left]
  · rw [if_neg hsl]
    by_cases hse : s = range - 1
    · subst hse
      rw [if_pos (Nat.succ_lt_succ hr1), if_pos rfl, uniExt_getD_lt P range hr1,
        Nat.sub_add_cancel (Nat.le_of_succ_le h2), uniExt_getD_last]
    · rw [if_neg hse, if_neg (by omega)]

/-- for *every* `usize` symbol: values `≥ 2^B` are rejected before narrowing (C09, D9) -/
theorem Uniform.enc_eq {B P range : Nat} (hP : P ≤ B) (h2 : 2 ≤ range)
    (hle : range ≤ 2 ^ P) (s : Nat) :
    Uniform.enc B P { ppb := 2 ^ P / range, last := range - 1 } s =
      .ok (specEnc (uniExt P range) s) := by
  obtain ⟨hpos, hlast, hlast0⟩ := ppb_facts h2 hle
  have hPB := pow_le_pow2 hP
  rw [specEnc_uniExt h2]
  unfold Uniform.enc
  simp only
  by_cases hs : s < 2 ^ B
  · rw [if_neg (not_not_intro hs)]
    by_cases hsl : s < range - 1
    · rw [if_pos hsl, if_pos hsl, wmul_of_lt (Nat.lt_of_lt_of_le
        (uni_mul_lt hle (Nat.lt_of_lt_of_le hsl (Nat.sub_le _ _))) hPB)]
    · rw [if_neg hsl, if_neg hsl]
      by_cases hse : s = range - 1
      · subst hse
        rw [if_pos rfl, if_pos rfl, wmul_of_lt (Nat.lt_of_lt_of_le hlast hPB),
          wsub_total_of_lt hP hlast0 hlast, if_neg (Nat.ne_of_gt (Nat.sub_pos_of_lt hlast))]
      · rw [if_neg hse, if_neg hse]
  · -- a symbol that does not fit into `Probability` is beyond the support
    have hbig : range - 1 < s := by omega
    rw [if_pos hs, if_neg (Nat.lt_asymm hbig), if_neg (Nat.ne_of_gt hbig)]

theorem specDec_uniExt_inner {P range i q : Nat} (hv : ValidExt P (uniExt P range))
    (hi : i + 1 < range) (h1 : i * (2 ^ P / range) ≤ q) (h2 : q < (i + 1) * (2 ^ P / range)) :
    specDec (uniExt P range) q = (i, i * (2 ^ P / range), 2 ^ P / range) := by
  have hin : InBin (uniExt P range) i q :=
    ⟨by rw [uniExt_length]; omega, by rw [uniExt_getD_lt P range (by omega)]; exact h1,
      by rw [uniExt_getD_lt P range hi]; exact h2⟩
  rw [specDec_eq_of_inBin hv hin, uniExt_getD_lt P range (by omega), uniExt_getD_lt P range hi,
    Nat.succ_mul, Nat.add_sub_cancel_left]

theorem specDec_uniExt_last {P range q : Nat} (hv : ValidExt P (uniExt P range)) (h2 : 2 ≤ range)
    (h1 : (range - 1) * (2 ^ P / range) ≤ q) (hq : q < 2 ^ P) :
    specDec (uniExt P range) q =
      (range - 1, (range - 1) * (2 ^ P / range), 2 ^ P - (range - 1) * (2 ^ P / range)) := by
  have e : range - 1 + 1 = range := by omega
  have hin : InBin (uniExt P range) (range - 1) q :=
    ⟨by rw [uniExt_length]; omega, by rw [uniExt_getD_lt P range (by omega)]; exact h1,
      by rw [e, uniExt_getD_last]; exact hq⟩
  rw [specDec_eq_of_inBin hv hin, uniExt_getD_lt P range (by omega), e, uniExt_getD_last]

/-- out-of-contract quantiles `≥ 2^P` land in the last bin; in particular no fault -/
theorem Uniform.dec_clamped {B P range : Nat} (hP : P ≤ B) (hr : range < 2 ^ U) (h2 : 2 ≤ range)
    (hle : range ≤ 2 ^ P) (q : Nat) :
    Uniform.dec B P { ppb := 2 ^ P / range, last := range - 1 } q =
      .ok (specDec (uniExt P range) (min q (2 ^ P - 1))) := by
  obtain ⟨hpos, hlast, hlast0⟩ := ppb_facts h2 hle
  have hv := uniExt_valid h2 hle
  have hd1 := div_mul_le' q (2 ^ P / range)
  have hd2 := lt_mul_div_succ' q hpos
  unfold Uniform.dec
  simp only
  rw [if_neg (Nat.ne_of_gt hpos)]
  by_cases hg : q / (2 ^ P / range) < range - 1
  · -- the guessed bin is not the last one, so `q` is below the start of the last bin
    have hq : q < 2 ^ P :=
      Nat.lt_of_lt_of_le hd2 (Nat.le_trans (Nat.mul_le_mul_right _ hg) (Nat.le_of_lt hlast))
    rw [if_pos hg, Nat.min_eq_left (Nat.le_sub_one_of_lt hq),
      specDec_uniExt_inner hv (Nat.add_lt_of_lt_sub hg) hd1 hd2, csub_ok (Nat.mod_le _ _),
      narrow_of_lt (Nat.lt_trans (Nat.lt_of_lt_of_le hg (Nat.sub_le _ _)) hr),
      Nat.sub_eq_of_eq_add (div_mul_add_mod q _).symm]
  · have hge : (range - 1) * (2 ^ P / range) ≤ q :=
      Nat.le_trans (Nat.mul_le_mul_right _ (Nat.le_of_not_lt hg)) hd1
    rw [if_neg hg, specDec_uniExt_last hv h2 (Nat.le_min.mpr ⟨hge, Nat.le_sub_one_of_lt hlast⟩)
        (Nat.lt_of_le_of_lt (Nat.min_le_right _ _) (Nat.sub_lt (Nat.two_pow_pos P) Nat.one_pos)),
      cmul_ok (Nat.lt_of_lt_of_le hlast (pow_le_pow2 hP))]
    simp only
    rw [wsub_total_of_lt hP hlast0 hlast, if_neg (Nat.ne_of_gt (Nat.sub_pos_of_lt hlast)),
      narrow_of_lt (Nat.lt_of_le_of_lt (Nat.sub_le _ _) hr)]

theorem Uniform.dec_eq {B P range : Nat} (hP : P ≤ B) (hr : range < 2 ^ U) (h2 : 2 ≤ range)
    (hle : range ≤ 2 ^ P) {q : Nat} (hq : q < 2 ^ P) :
    Uniform.dec B P { ppb := 2 ^ P / range, last := range - 1 } q =
      .ok (specDec (uniExt P range) q) := by
  rw [Uniform.dec_clamped hP hr h2 hle q, Nat.min_eq_left (by omega)]

theorem Uniform.tableGo_eq {B P : Nat} {m : Uniform} {lastU : Nat} (f : Nat → Nat × Nat × Nat)
    (l : List Nat) (h : ∀ s ∈ l, Uniform.tableEntry B P m lastU s = .ok (f s)) :
    Uniform.tableGo B P m lastU l = .ok (l.map f) := by
  induction l with
  | nil => rfl
  | cons s l ih =>
    simp only [Uniform.tableGo, h s (by simp), ih (fun x hx => h x (by simp [hx])), List.map_cons]

theorem Uniform.table_eq {B P range : Nat} (hP : P ≤ B) (hr : range < 2 ^ U) (h2 : 2 ≤ range)
    (hle : range ≤ 2 ^ P) :
    Uniform.table B P { ppb := 2 ^ P / range, last := range - 1 } =
      .ok (specTable id (uniExt P range)) := by
  obtain ⟨hpos, hlast, hlast0⟩ := ppb_facts h2 hle
  have hPB := pow_le_pow2 hP
  have e : range - 1 + 1 = range := Nat.sub_add_cancel (Nat.le_of_succ_le h2)
  unfold Uniform.table
  simp only
  rw [narrow_of_lt (Nat.lt_of_le_of_lt (Nat.sub_le _ _) hr), cadd_ok (e ▸ hr)]
  simp only
  rw [e, Uniform.tableGo_eq (fun i => (id i, (uniExt P range).getD i 0,
    (uniExt P range).getD (i + 1) 0 - (uniExt P range).getD i 0))]
  · simp [specTable, uniExt_length]
  · intro s hs
    rw [List.mem_range] at hs
    unfold Uniform.tableEntry
    dsimp only
    rw [narrow_of_lt (Nat.lt_of_lt_of_le hs (Nat.le_trans hle hPB)),
      cmul_ok (Nat.lt_of_lt_of_le (uni_mul_lt hle hs) hPB)]
    simp only [id]
    rw [uniExt_getD_lt P range hs]
    by_cases hsl : s = range - 1
    · subst hsl
      rw [if_neg (by simp), wsub_total_of_lt hP hlast0 hlast,
        if_neg (Nat.ne_of_gt (Nat.sub_pos_of_lt hlast)), e, uniExt_getD_last]
    · rw [if_pos hsl, uniExt_getD_lt P range (by omega), Nat.succ_mul]
      simp

end CV.Cat
