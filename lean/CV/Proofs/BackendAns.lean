import CV.Model.BackendAns
import CV.Proofs.Backend
import CV.Proofs.BackendMisc
/-!
# The ANS model's abstract backend is a faithful image of the backend models

`CV.Ans.Coder` keeps its backend as `bulk` (top of the stack first) and `cap` (`none` = `Vec`,
`some n` = a bounded `Cursor` over `n` words).  Its backend operations are `Ans.pushAll x [w]`,
head/`Ans.dropReads x 1`, `Ans.pos`, `Ans.seek` (`Vec`), and the two rules by which the protocol
driver (`Driver/Ans.lean`) answers `seek` over a buffer `data`: `bulk := (data.take l).reverse` on
its `ansd` lines (`Cursor::seek`), `bulk := data.drop l` on its `ansr` lines (`Reverse<Cursor>`).
`Sim B good abs`: write and stack read of `B` are, through `abs`, the abstract ones.  A `Cursor` and
a `Reverse<Cursor>` under `pos ≤ len` are images of a zipper with the same abstraction
`(stk, some (|stk| + |ahd|))`, so one construction (`Sim.of_zipper`) serves both.
Last part: the abstract backend as a machine over `AnsOp` (`absStepVec`/`absRunVec`, and
`absStepCur`/`absRunCur` carrying the buffer) and its step simulation by `Vec` and `Cursor`.
-/
namespace CV.Backend.AnsAbs
open CV CV.Backend

def absVec (v : VecB) (st : Nat) : Ans.Coder :=
  { bulk := v.data.reverse, state := st, cap := none }

def absCur (c : Cursor) (st : Nat) : Ans.Coder :=
  { bulk := (c.buf.take c.pos).reverse, state := st, cap := some c.buf.length }

def absRev (r : RevCursor) (st : Nat) : Ans.Coder :=
  { bulk := r.inner.buf.drop r.inner.pos, state := st, cap := some r.inner.buf.length }

/-- one backend write as the ANS model performs it -/
def ansWrite (x : Ans.Coder) (w : Nat) : Option Ans.Coder := Ans.pushAll x [w]
/-- one backend stack read as the ANS model performs it -/
def ansRead (x : Ans.Coder) : Option Nat × Ans.Coder := (x.bulk.head?, Ans.dropReads x 1)

theorem ansWrite_eq (x : Ans.Coder) (w : Nat) :
    ansWrite x w = if Ans.canWrite x then some { x with bulk := w :: x.bulk } else none := by
  simp [ansWrite, Ans.pushAll]

structure Sim {β : Type} (B : BackendOps β) (good : β → Prop) (abs : β → Nat → Ans.Coder) : Prop where
  state_eq : ∀ b st, (abs b st).state = st
  restate : ∀ b st st', abs b st' = { abs b st with state := st' }
  write_ok : ∀ b st w b', good b → B.write b w = .ok b' →
    Ans.canWrite (abs b st) = true ∧
    abs b' st = { abs b st with bulk := w :: (abs b st).bulk } ∧ good b'
  write_err : ∀ b st w e, good b → B.write b w = .error e →
    e = .outOfSpace ∧ Ans.canWrite (abs b st) = false
  read : ∀ b st, good b → ∃ b', B.read b = .ok ((abs b st).bulk.head?, b') ∧
    abs b' st = Ans.dropReads (abs b st) 1 ∧ good b'

section
variable {β : Type} {B : BackendOps β} {good : β → Prop} {abs : β → Nat → Ans.Coder}

theorem Sim.ansWrite_ok (h : Sim B good abs) {b b' : β} (hg : good b) (st : Nat) {w : Nat}
    (hw : B.write b w = .ok b') : ansWrite (abs b st) w = some (abs b' st) := by
  obtain ⟨h1, h2, _⟩ := h.write_ok b st w b' hg hw
  rw [ansWrite_eq, if_pos h1, h2]

theorem Sim.ansWrite_err (h : Sim B good abs) {b : β} {e : WErr} (hg : good b) (st : Nat) {w : Nat}
    (hw : B.write b w = .error e) : ansWrite (abs b st) w = none := by
  rw [ansWrite_eq, (h.write_err b st w e hg hw).2]
  rfl

theorem Sim.canWrite_iff (h : Sim B good abs) (b : β) (hg : good b) (st w : Nat) :
    Ans.canWrite (abs b st) = true ↔ ∃ b', B.write b w = .ok b' := by
  cases hw : B.write b w with
  | ok b' => exact ⟨fun _ => ⟨b', rfl⟩, fun _ => (h.write_ok b st w b' hg hw).1⟩
  | error e =>
    rw [(h.write_err b st w e hg hw).2]
    exact ⟨nofun, nofun⟩

theorem Sim.of_zipper (ofZ : Z → β)
    (hstate : ∀ b st, (abs b st).state = st)
    (hre : ∀ b st st', abs b st' = { abs b st with state := st' })
    (hrep : ∀ b, good b → ∃ z, b = ofZ z) (hgood : ∀ z, good (ofZ z))
    (habs : ∀ z st, abs (ofZ z) st = ⟨z.stk, st, some (z.stk.length + z.ahd.length)⟩)
    (hwrite : ∀ z w, B.write (ofZ z) w =
      match z.ahd with
      | [] => .error .outOfSpace
      | _ :: ah => .ok (ofZ ⟨w :: z.stk, ah⟩))
    (hread : ∀ z, B.read (ofZ z) =
      match z.stk with
      | [] => .ok (none, ofZ z)
      | a :: st => .ok (some a, ofZ ⟨st, a :: z.ahd⟩)) :
    Sim B good abs where
  state_eq := hstate
  restate := hre
  write_ok := by
    intro b st w b' hg hw
    obtain ⟨⟨stk, ahd⟩, rfl⟩ := hrep b hg
    rw [hwrite] at hw
    cases ahd with
    | nil => cases hw
    | cons a ah =>
      cases hw
      rw [habs, habs]
      refine ⟨by simp [Ans.canWrite], ?_, hgood _⟩
      simp only [List.length_cons, Ans.Coder.mk.injEq, Option.some.injEq, true_and]
      omega
  write_err := by
    intro b st w e hg hw
    obtain ⟨⟨stk, ahd⟩, rfl⟩ := hrep b hg
    rw [hwrite] at hw
    cases ahd with
    | nil =>
      cases hw
      refine ⟨rfl, ?_⟩
      rw [habs]
      simp [Ans.canWrite]
    | cons a ah => cases hw
  read := by
    intro b st hg
    obtain ⟨⟨stk, ahd⟩, rfl⟩ := hrep b hg
    rw [hread, habs]
    cases stk with
    | nil => exact ⟨_, rfl, habs _ _, hgood _⟩
    | cons a s =>
      refine ⟨_, rfl, ?_, hgood _⟩
      rw [habs]
      simp only [Ans.dropReads, List.drop_succ_cons, List.drop_zero, List.length_cons,
        Ans.Coder.mk.injEq, Option.some.injEq, true_and]
      omega

end

/-! ## `Vec` -/

theorem vec_write (v : VecB) (st w : Nat) :
    ansWrite (absVec v st) w = some (absVec (v.write w) st) := by
  simp [ansWrite_eq, absVec, Ans.canWrite, VecB.write]

theorem vec_read (v : VecB) (st : Nat) :
    ((v.read).1, absVec (v.read).2 st) = ansRead (absVec v st) := by
  obtain ⟨d⟩ := v
  rcases List.eq_nil_or_concat d with rfl | ⟨d', w, rfl⟩
  · rfl
  · simp [VecB.read, ansRead, absVec, Ans.dropReads]

theorem vec_pos (v : VecB) (st : Nat) : (Ans.pos (absVec v st)).1 = v.pos := by
  simp [Ans.pos, absVec, VecB.pos]

theorem vec_remaining (v : VecB) (st : Nat) : (absVec v st).bulk.length = v.remaining := by
  simp [absVec, VecB.remaining]

theorem vec_seek (v : VecB) (st p st' : Nat) :
    Ans.seek (absVec v st) (p, st') = (v.seek p).map (fun v' => absVec v' st') := by
  by_cases h : p ≤ v.data.length
  · simp [Ans.seek, absVec, VecB.seek, h, List.reverse_take]
  · simp [Ans.seek, absVec, VecB.seek, h]

theorem sim_vec : Sim vecOps (fun _ => True) absVec where
  state_eq := fun _ _ => rfl
  restate := fun _ _ _ => rfl
  write_ok := by
    intro v st w v' _ hw
    cases hw
    exact ⟨rfl, by simp [absVec, VecB.write], trivial⟩
  write_err := by
    intro v st w e _ hw
    cases hw
  read := by
    intro v st _
    obtain ⟨h1, h2⟩ := Prod.mk.inj (vec_read v st)
    exact ⟨(v.read).2, by rw [← show (v.read).1 = _ from h1]; rfl, h2, trivial⟩

/-! ## `Cursor` used as a stack, under `pos ≤ len` -/

theorem absCur_ofZ (z : Z) (st : Nat) :
    absCur (Cursor.ofZ z) st = ⟨z.stk, st, some (z.stk.length + z.ahd.length)⟩ := by
  simp [absCur, Cursor.ofZ]

theorem sim_cursor : Sim cursorOps Cursor.Inv absCur :=
  Sim.of_zipper Cursor.ofZ (fun _ _ => rfl) (fun _ _ _ => rfl)
    (fun c h => ⟨c.toZ, (Cursor.ofZ_toZ c h).symm⟩) Cursor.ofZ_inv absCur_ofZ
    Cursor.write_ofZ Cursor.readStack_ofZ

theorem cur_pos (c : Cursor) (hI : c.Inv) (st : Nat) :
    c.getPos = (absCur c st).bulk.length ∧ c.remainingStack = (absCur c st).bulk.length := by
  unfold Cursor.Inv at hI
  simp [Cursor.getPos, Cursor.remainingStack, absCur, Nat.min_eq_left hI]

/-! ## `Reverse<Cursor>` used as a stack source (`from_reversed_compressed`) -/

theorem absRev_ofZ (z : Z) (st : Nat) :
    absRev (RevCursor.ofZ z) st = ⟨z.stk, st, some (z.stk.length + z.ahd.length)⟩ := by
  simp [absRev, RevCursor.ofZ, Cursor.ofZ, Z.swap, Nat.add_comm]

theorem sim_revCursor : Sim revCursorOps (fun r => r.inner.Inv) absRev :=
  Sim.of_zipper RevCursor.ofZ (fun _ _ => rfl) (fun _ _ _ => rfl)
    RevCursor.exists_ofZ
    (fun z => Cursor.ofZ_inv z.swap) absRev_ofZ RevCursor.write_ofZ
    (fun z => by
      show Except.ok (RevCursor.ofZ z).readStack = _
      rw [RevCursor.readStack_ofZ]
      cases z.stk <;> rfl)

/-! ## histories over the ops an `AnsCoder` uses: the abstract machines and the step simulations -/

/-- the alphabet an `AnsCoder` uses on its backend -/
def AnsOp : Op → Bool
  | .write _ | .readS | .seek _ | .pos | .remS => true
  | _ => false

/-- the ANS model's abstract backend under these ops, `Vec` flavour (`Ans.seek` truncates) -/
def absStepVec (x : Ans.Coder) : Op → Out × Ans.Coder
  | .write w =>
    match ansWrite x w with
    | some y => (.ok, y)
    | none => (.full, x)
  | .readS => (.word (ansRead x).1, (ansRead x).2)
  | .pos => (.num (Ans.pos x).1, x)
  | .remS => (.num x.bulk.length, x)
  | .seek p =>
    match Ans.seek x (p, x.state) with
    | some y => (.ok, y)
    | none => (.err, x)
  | _ => (.unsupported, x)

def absRunVec : Ans.Coder → List Op → List Out × Ans.Coder
  | x, [] => ([], x)
  | x, op :: ops => ((absStepVec x op).1 :: (absRunVec (absStepVec x op).2 ops).1,
                     (absRunVec (absStepVec x op).2 ops).2)

theorem vec_step_sim (v : VecB) (st : Nat) (op : Op) (h : AnsOp op = true) :
    ∃ v', Backend.step (.vec v) op = .ok ((absStepVec (absVec v st) op).1, .vec v') ∧
      absVec v' st = (absStepVec (absVec v st) op).2 := by
  cases op with
  | write w =>
    have e : absStepVec (absVec v st) (.write w) = (.ok, absVec (v.write w) st) := by
      simp only [absStepVec, vec_write]
    rw [e]
    exact ⟨v.write w, rfl, rfl⟩
  | readS =>
    obtain ⟨h1, h2⟩ := Prod.mk.inj (vec_read v st)
    refine ⟨(v.read).2, ?_, h2⟩
    rw [Backend.step_vec_readS, h1]
    rfl
  | pos =>
    refine ⟨v, ?_, rfl⟩
    rw [absStepVec, vec_pos]
    rfl
  | remS =>
    refine ⟨v, ?_, rfl⟩
    rw [absStepVec, vec_remaining]
    rfl
  | seek p =>
    have hseek : Ans.seek (absVec v st) (p, (absVec v st).state) = _ := vec_seek v st p st
    rw [Backend.step_vec_seek]
    cases hs : v.seek p with
    | none =>
      rw [hs] at hseek
      have e : absStepVec (absVec v st) (.seek p) = (.err, absVec v st) := by
        simp only [absStepVec, hseek, Option.map]
      rw [e]
      exact ⟨v, rfl, rfl⟩
    | some v' =>
      rw [hs] at hseek
      have e : absStepVec (absVec v st) (.seek p) = (.ok, absVec v' st) := by
        simp only [absStepVec, hseek, Option.map]
      rw [e]
      exact ⟨v', rfl, rfl⟩
  | _ => cases h

/-- the abstract backend, `Cursor` flavour: with the whole buffer `data`, because `Cursor::seek`
    only moves the position (the driver's `ansd` rule); a write stores at index `bulk.length` -/
def absStepCur (x : Ans.Coder) (data : List Nat) : Op → Out × Ans.Coder × List Nat
  | .write w =>
    match ansWrite x w with
    | some y => (.ok, y, data.set x.bulk.length w)
    | none => (.full, x, data)
  | .readS => (.word (ansRead x).1, (ansRead x).2, data)
  | .pos => (.num (Ans.pos x).1, x, data)
  | .remS => (.num x.bulk.length, x, data)
  | .seek p =>
    if p ≤ data.length then (.ok, { x with bulk := (data.take p).reverse }, data)
    else (.err, x, data)
  | _ => (.unsupported, x, data)

def absRunCur : Ans.Coder → List Nat → List Op → List Out × Ans.Coder × List Nat
  | x, d, [] => ([], x, d)
  | x, d, op :: ops =>
    ((absStepCur x d op).1 ::
        (absRunCur (absStepCur x d op).2.1 (absStepCur x d op).2.2 ops).1,
      (absRunCur (absStepCur x d op).2.1 (absStepCur x d op).2.2 ops).2)

theorem cur_step_sim (c : Cursor) (hI : c.Inv) (st : Nat) (op : Op) (h : AnsOp op = true) :
    ∃ c', Cur.step true (.fwd c) op = .ok ((absStepCur (absCur c st) c.buf op).1, .fwd c') ∧
      c'.Inv ∧ absCur c' st = (absStepCur (absCur c st) c.buf op).2.1 ∧
      c'.buf = (absStepCur (absCur c st) c.buf op).2.2 := by
  have hlen : (absCur c st).bulk.length = c.pos := (cur_pos c hI st).1.symm
  cases op with
  | write w =>
    cases hc : c.write w with
    | ok c' =>
      have e : absStepCur (absCur c st) c.buf (.write w) = (.ok, absCur c' st, c'.buf) := by
        simp only [absStepCur, sim_cursor.ansWrite_ok hI st hc, hlen,
          (Cursor.write_overwrites c c' w hc).1]
      rw [e]
      refine ⟨c', ?_, (sim_cursor.write_ok c st w c' hI hc).2.2, rfl, rfl⟩
      unfold Cur.step
      simp only [hc, if_true]
    | error e =>
      cases (sim_cursor.write_err c st w e hI hc).1
      have e : absStepCur (absCur c st) c.buf (.write w) = (.full, absCur c st, c.buf) := by
        simp only [absStepCur, sim_cursor.ansWrite_err hI st hc]
      rw [e]
      refine ⟨c, ?_, hI, rfl, rfl⟩
      unfold Cur.step
      simp only [hc, if_true]
  | readS =>
    obtain ⟨c', h1, h2, h3⟩ := sim_cursor.read c st hI
    have h1' : c.readStack = _ := h1
    refine ⟨c', ?_, h3, h2, Cursor.readStack_buf h1'⟩
    unfold Cur.step
    simp only [h1']
    rfl
  | pos =>
    refine ⟨c, ?_, hI, rfl, rfl⟩
    rw [absStepCur, Ans.pos, hlen]
    rfl
  | remS =>
    refine ⟨c, ?_, hI, rfl, rfl⟩
    rw [absStepCur, hlen]
    rfl
  | seek p =>
    by_cases hp : p ≤ c.buf.length
    · have e : absStepCur (absCur c st) c.buf (.seek p) =
          (.ok, absCur { c with pos := p } st, c.buf) := by
        simp only [absStepCur, if_pos hp]
        rfl
      rw [e]
      exact ⟨_, Cur.step_seek_le true (.fwd c) p hp, hp, rfl, rfl⟩
    · have e : absStepCur (absCur c st) c.buf (.seek p) = (.err, absCur c st, c.buf) := by
        simp only [absStepCur, if_neg hp]
      rw [e]
      exact ⟨c, Cur.step_seek_gt true (.fwd c) p (Nat.lt_of_not_le hp), hI, rfl, rfl⟩
  | _ => cases h

end CV.Backend.AnsAbs
