import CV.Proofs.RangeMsg
/-!
# Compressed size (C12): the potential argument on the reference coder

`Pot c st a b`, i.e. `(2^W)^m · (2^S − 1) · a ≤ R · b`, is carried along a run with `a`, `b` the
products `sizeA`, `sizeB` of the steps taken (`pot_step`, `pot_run`); `pot_final` turns it into
the bound on `2^(W·n)` for `n ≤ m + 2` words.
-/
namespace CV.Range
variable {c : Cfg} {Sym : Type}
open RangeSpec (St step run)

/-- `∏ p_i · 2^(S-W-P_i)` -/
def sizeA (c : Cfg) : List (Nat × Nat × Nat) → Nat
  | [] => 1
  | (P, _, p) :: rest => p * 2^(c.S - c.W - P) * sizeA c rest

/-- `∏ 2^P_i · (2^(S-W-P_i) + 1)` -/
def sizeB (c : Cfg) : List (Nat × Nat × Nat) → Nat
  | [] => 1
  | (P, _, _) :: rest => 2^P * (2^(c.S - c.W - P) + 1) * sizeB c rest

def Pot (c : Cfg) (st : St) (a b : Nat) : Prop :=
  (2^c.W)^st.m * (2^c.S - 1) * a ≤ st.R * b

theorem step_loss (hc : RValid c) {R : Nat} (hr : 2^(c.S - c.W) ≤ R) :
    R * 2^(c.S - c.W - c.P) ≤ R / 2^c.P * (2^c.P * (2^(c.S - c.W - c.P) + 1)) := by
  have hs := scale_ge hc hr
  have hlt : R < (R / 2^c.P + 1) * 2^c.P := by
    rw [Nat.mul_comm]; exact Nat.lt_mul_div_succ R (Nat.two_pow_pos _)
  generalize R / 2^c.P = s at *
  generalize 2^(c.S - c.W - c.P) = K at *
  generalize 2^c.P = Q at *
  calc R * K ≤ ((s + 1) * Q) * K := Nat.mul_le_mul_right _ (Nat.le_of_lt hlt)
    _ = s * (Q * K) + Q * K := by rw [Nat.add_mul, Nat.one_mul, Nat.add_mul, Nat.mul_assoc]
    _ ≤ s * (Q * K) + Q * s := Nat.add_le_add_left (Nat.mul_le_mul_left _ hs) _
    _ = s * (Q * (K + 1)) := by rw [Nat.mul_add Q, Nat.mul_one, Nat.mul_add, Nat.mul_comm Q s]

theorem pot_step (hc : RValid c) {st : St} (hI : SpecInv c st) {cum p a b : Nat}
    (h : Pot c st a b) :
    Pot c (step c.W c.S st c.P cum p)
      (a * (p * 2^(c.S - c.W - c.P))) (b * (2^c.P * (2^(c.S - c.W - c.P) + 1))) := by
  have key := step_loss hc hI.1
  unfold Pot at h ⊢
  have hcore : (2^c.W)^st.m * (2^c.S - 1) * (a * (p * 2^(c.S - c.W - c.P)))
      ≤ (st.R / 2^c.P * p) * (b * (2^c.P * (2^(c.S - c.W - c.P) + 1))) := by
    generalize st.R / 2^c.P = s at *
    generalize 2^(c.S - c.W - c.P) = K at *
    generalize 2^c.P = Q at *
    generalize (2^c.W)^st.m * (2^c.S - 1) = G at *
    calc G * (a * (p * K)) = (G * a) * (p * K) := by ac_rfl
      _ ≤ (st.R * b) * (p * K) := Nat.mul_le_mul_right _ h
      _ = (b * p) * (st.R * K) := by ac_rfl
      _ ≤ (b * p) * (s * (Q * (K + 1))) := Nat.mul_le_mul_left _ key
      _ = (s * p) * (b * (Q * (K + 1))) := by ac_rfl
  unfold step
  dsimp only
  split
  · -- both sides gain the factor `2^W`
    rw [Nat.pow_succ, Nat.mul_right_comm _ (2^c.W), Nat.mul_right_comm _ (2^c.W),
      Nat.mul_right_comm _ (2^c.W) (b * _)]
    exact Nat.mul_le_mul_right _ hcore
  · exact hcore

theorem pot_run : ∀ (msg : List (MStep Sym)) (st : St) (a b : Nat),
    SpecInv c st → (∀ x ∈ msg, x.Valid c) → Pot c st a b →
    Pot c (run c.W c.S st (msg.map MStep.spec))
      (a * sizeA c (msg.map MStep.spec)) (b * sizeB c (msg.map MStep.spec))
  | [], st, a, b, _, _, h => by simpa [sizeA, sizeB, run] using h
  | x :: xs, st, a, b, hI, hv, h => by
    obtain ⟨hx, hv'⟩ := List.forall_mem_cons.mp hv
    have h2 := pot_run xs _ _ _ (hx.specInv hI) hv' (pot_step (c := cfgAt c x.B x.P) hx.1 hI h)
    simp only [List.map_cons, MStep.spec, run, sizeA, sizeB, ← Nat.mul_assoc] at h2 ⊢
    exact h2

theorem pot_final (hc : RValid c) {st : St} {A B n : Nat} (hpot : Pot c st A B)
    (hR : st.R < 2^c.S) (hn : n ≤ st.m + 2) : 2^(c.W * n) * A ≤ 2^(2 * c.W) * B := by
  have hT1 : 0 < 2^c.S - 1 := Nat.sub_pos_of_lt hc.one_lt_pow_S
  have hAB : (2^c.W)^st.m * A ≤ B := by
    apply Nat.le_of_mul_le_mul_left _ hT1
    calc (2^c.S - 1) * ((2^c.W)^st.m * A) = (2^c.W)^st.m * (2^c.S - 1) * A := by ac_rfl
      _ ≤ st.R * B := hpot
      _ ≤ (2^c.S - 1) * B := Nat.mul_le_mul_right _ (Nat.le_sub_one_of_lt hR)
  have hpow : 2^(c.W * n) ≤ 2^(2 * c.W) * (2^c.W)^st.m := by
    rw [← Nat.pow_mul, ← Nat.pow_add]
    apply Nat.pow_le_pow_right Nat.two_pos
    rw [Nat.mul_comm 2, ← Nat.mul_add, Nat.add_comm]
    exact Nat.mul_le_mul_left _ hn
  calc 2^(c.W * n) * A ≤ (2^(2 * c.W) * (2^c.W)^st.m) * A := Nat.mul_le_mul_right _ hpow
    _ = 2^(2 * c.W) * ((2^c.W)^st.m * A) := Nat.mul_assoc _ _ _
    _ ≤ 2^(2 * c.W) * B := Nat.mul_le_mul_left _ hAB

end CV.Range
