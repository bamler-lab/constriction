import CV.Model.Ans
/-!
# `encode_symbol` is atomic: on both documented failures the coder is left exactly as it was
-/
namespace CV.Ans
open CV

variable {Sym : Type}

/-- what the statement-by-statement transcription must return, given the result of `encode`:
    the ORIGINAL coder for `ImpossibleSymbol` and for a refused backend write; for a fault (a panic
    in a checked build, which `Proofs/AnsStep.lean` shows unreachable from invariant states) only
    the error is pinned: a panic after the flush would leave the coder mutated. -/
def AtomicSpec (x : Coder) (r : Except EncErr Coder) (out : Coder × Except EncErr Unit) : Prop :=
  match r with
  | .ok y => out = (y, .ok ())
  | .error .impossible => out = (x, .error .impossible)
  | .error .backendFull => out = (x, .error .backendFull)
  | .error (.fault f) => out.2 = .error (.fault f)

theorem encodeSymbolM_spec (c : Cfg) (m : Model Sym) (s : Sym) (x : Coder) :
    AtomicSpec x (encode c m s x) (encodeSymbolM c m s x) := by
  -- both transcriptions take the same branches in the same order; the model lookup and the
  -- write come before any assignment to `state`, so on those two failures the coder is still `x`
  unfold encodeSymbolM encode
  cases henc : m.enc s with
  | none => rfl
  | some cp =>
    obtain ⟨cum, p⟩ := cp
    simp only
    unfold encodeCP
    cases hshr : shr "ans.enc.hi" c.S x.state (c.S - c.P) with
    | error f => rfl
    | ok hi =>
      simp only
      by_cases hge : hi ≥ p
      · by_cases hw : canWrite x = true
        · simp only [hge, hw, if_true]
          by_cases hp0 : p = 0
          · simp [hp0, AtomicSpec]
          · simp only [hp0, if_false]
            cases cadd "ans.enc.quantile" c.B cum
                (narrow c.B (narrow c.W (x.state >>> c.W % p))) with
            | error f => rfl
            | ok q =>
              simp only
              cases shl "ans.enc.prefix" c.S (x.state >>> c.W / p) c.P with
              | error f => rfl
              | ok hiPart => rfl
        · simp [hge, hw, AtomicSpec]
      · simp only [hge, if_false]
        by_cases hp0 : p = 0
        · simp [hp0, AtomicSpec]
        · simp only [hp0, if_false]
          cases cadd "ans.enc.quantile" c.B cum (narrow c.B (narrow c.W (x.state % p))) with
          | error f => rfl
          | ok q =>
            simp only
            cases shl "ans.enc.prefix" c.S (x.state / p) c.P with
            | error f => rfl
            | ok hiPart => rfl

theorem encodeSymbolM_impossible (c : Cfg) (m : Model Sym) (s : Sym) (x : Coder)
    (h : m.enc s = none) : encodeSymbolM c m s x = (x, .error .impossible) := by
  have := encodeSymbolM_spec c m s x
  have he : encode c m s x = .error .impossible := by simp [encode, h]
  rw [he] at this; exact this

theorem encodeSymbols_cons_impossible (c : Cfg) (x : Coder) (s : Sym) (m : Model Sym)
    (rest : List (Option (Sym × Model Sym))) (h : m.enc s = none) :
    encodeSymbols c x (some (s, m) :: rest) = (x, .error (.coding .impossible)) := by
  simp only [encodeSymbols, encodeSymbolM_impossible c m s x h]

theorem encodeSymbols_cons_modelerr (c : Cfg) (x : Coder)
    (rest : List (Option (Sym × Model Sym))) :
    encodeSymbols c x (none :: rest) = (x, .error .model) := rfl

end CV.Ans
