import CV.Model.Range
import CV.Proofs.Arith
import Mathlib.Tactic.Ring
import Mathlib.Tactic.Linarith
/-!
# Range coder: configurations, the encoder invariant, and `encode_symbol` without faults

`encPure` is `encode_symbol` with every checked operation replaced by the value it returns when it
succeeds (`encodeCP_eq_pure`); everything after this file reasons about `encPure`.

The two Mathlib imports put `Nat.instMonoid` in scope; `2^n` in every statement of this component
elaborates through it.  No proof here uses the tactics.
-/
namespace CV.Range
variable {c : Cfg} {Sym : Type}

/-- what `generic_static_asserts!` in queue.rs plus the trait bounds allow:
    `PRECISION > 0`, `PRECISION ≤ Probability::BITS ≤ Word::BITS`,
    `State::BITS ≥ 2·Word::BITS`, `State::BITS % Word::BITS = 0` -/
def RValid (c : Cfg) : Prop := c.Valid ∧ c.W ∣ c.S

instance (c : Cfg) : Decidable (RValid c) := by unfold RValid; exact inferInstance

theorem RValid.P_le_W (h : RValid c) : c.P ≤ c.W := h.1.P_le_W
theorem RValid.W_pos (h : RValid c) : 1 ≤ c.W := h.1.W_pos
theorem RValid.two_W_le (h : RValid c) : 2 * c.W ≤ c.S := h.1.2.2.2
theorem RValid.W_lt_S (h : RValid c) : c.W < c.S := by
  have := h.W_pos; have := h.two_W_le; omega
theorem RValid.P_lt_S (h : RValid c) : c.P < c.S := h.1.P_lt_S

theorem RValid.pow_S (h : RValid c) : 2^c.S = 2^(c.S - c.W) * 2^c.W :=
  pow_split (Nat.le_of_lt h.W_lt_S)

theorem RValid.pow_SW {c : Cfg} (h : RValid c) : 2^(c.S - c.W) = 2^(c.S - 2 * c.W) * 2^c.W := by
  rw [Nat.two_mul, ← Nat.sub_sub]
  exact pow_split (by have := h.two_W_le; omega)

theorem RValid.pow_W {c : Cfg} (h : RValid c) : 2^c.W = 2^(c.W - c.P) * 2^c.P :=
  pow_split h.P_le_W

theorem RValid.pow_SW_P (h : RValid c) :
    2^(c.S - c.W) = 2^(c.S - c.W - c.P) * 2^c.P :=
  pow_split (by have := h.P_le_W; have := h.two_W_le; omega)

theorem RValid.pow_SW_lt (h : RValid c) : 2^(c.S - c.W) < 2^c.S :=
  Nat.pow_lt_pow_right (by omega) (by have := h.W_pos; have := h.W_lt_S; omega)

theorem RValid.two_le_pow_W (h : RValid c) : 2 ≤ 2^c.W :=
  Nat.pow_le_pow_right Nat.two_pos h.W_pos

theorem RValid.one_lt_pow_S (h : RValid c) : 1 < 2^c.S :=
  Nat.one_lt_two_pow (by have := h.W_lt_S; omega)

theorem RValid.mul_lt (h : RValid c) {x : Nat} (hx : x < 2^(c.S - c.W)) :
    x * 2^c.W < 2^c.S := by
  rw [h.pow_S]; exact Nat.mul_lt_mul_of_pos_right hx (Nat.two_pow_pos _)

theorem RValid.top_lt (h : RValid c) {x : Nat} (hx : x < 2^c.S) :
    x / 2^(c.S - c.W) < 2^c.W := by
  rw [Nat.div_lt_iff_lt_mul (Nat.two_pow_pos _), Nat.mul_comm, ← h.pow_S]; exact hx

theorem RValid.shift_mod (h : RValid c) (x : Nat) :
    x * 2^c.W % 2^c.S = x % 2^(c.S - c.W) * 2^c.W := by
  rw [h.pow_S]; exact Nat.mul_mod_mul_right _ _ _

theorem wadd_eq (n a b : Nat) : wadd n a b = (a + b) % 2^n := rfl

theorem RValid.shl_thr (h : RValid c) (site : String) :
    shl site c.S 1 (c.S - c.W) = .ok (2^(c.S - c.W)) := by
  have := h.W_pos; have := h.W_lt_S
  rw [shl_ok (by omega), Nat.shiftLeft_eq, Nat.one_mul, Nat.mod_eq_of_lt h.pow_SW_lt]

theorem RValid.shl_W (h : RValid c) (site : String) (x : Nat) :
    shl site c.S x c.W = .ok (x * 2^c.W % 2^c.S) := by
  rw [shl_ok h.W_lt_S, Nat.shiftLeft_eq]

theorem RValid.shr_top (h : RValid c) (site : String) (x : Nat) :
    shr site c.S x (c.S - c.W) = .ok (x / 2^(c.S - c.W)) := by
  have := h.W_pos; have := h.W_lt_S
  rw [shr_ok (by omega), Nat.shiftRight_eq_div_pow]

theorem RValid.shr_P (h : RValid c) (site : String) (x : Nat) :
    shr site c.S x c.P = .ok (x / 2^c.P) := by
  rw [shr_ok h.P_lt_S, Nat.shiftRight_eq_div_pow]

theorem RValid.narrow_top (h : RValid c) {x : Nat} (hx : x < 2^c.S) :
    narrow c.W (x / 2^(c.S - c.W)) = x / 2^(c.S - c.W) :=
  Nat.mod_eq_of_lt (h.top_lt hx)

/-- the code's test `lower.wrapping_add(range) > lower` for "the interval does not wrap" -/
theorem wrap_iff {a r T : Nat} (ha : a < T) (hr0 : 0 < r) (hr : r ≤ T) :
    (a + r) % T > a ↔ a + r < T := by
  rw [mod_two (show a + r < 2 * T by omega)]
  split <;> omega

/-- the code's test `lower.wrapping_add(off) < lower` for "adding `off` wrapped" -/
theorem wrap_lt_iff {a off T : Nat} (ha : a < T) (hoff : off < T) :
    (a + off) % T < a ↔ T ≤ a + off := by
  rw [mod_two (show a + off < 2 * T by omega)]
  split <;> omega

def WordsOK (c : Cfg) (l : List Nat) : Prop := ∀ w ∈ l, w < 2^c.W

theorem WordsOK.append {c : Cfg} {a b : List Nat} (ha : WordsOK c a) (hb : WordsOK c b) :
    WordsOK c (a ++ b) :=
  fun w hw => (List.mem_append.mp hw).elim (ha w) (hb w)

theorem WordsOK.nil : WordsOK c [] := fun _ hw => nomatch hw

theorem WordsOK.cons {a : Nat} {l : List Nat} (ha : a < 2^c.W) (hl : WordsOK c l) :
    WordsOK c (a :: l) :=
  fun w hw => (List.mem_cons.mp hw).elim (· ▸ ha) (hl w)

theorem WordsOK.replicate {c : Cfg} {a n : Nat} (ha : a < 2^c.W) :
    WordsOK c (List.replicate n a) :=
  fun _ hw => (List.mem_replicate.mp hw).2 ▸ ha

theorem WordsOK.drop {l : List Nat} (h : WordsOK c l) (k : Nat) : WordsOK c (l.drop k) :=
  fun w hw => h w (List.mem_of_mem_drop hw)

theorem WordsOK.getD {l : List Nat} (h : WordsOK c l) (k : Nat) : l.getD k 0 < 2^c.W := by
  unfold List.getD
  cases hk : l[k]? with
  | none => exact Nat.two_pow_pos _
  | some w => exact h w (List.mem_of_getElem? hk)

theorem wordsOK_of_all {l : List Nat}
    (h : l.all (fun w => decide (w < 2^c.W)) = true) : WordsOK c l := by
  intro w hw
  have := List.all_eq_true.mp h w hw
  simpa using this

def SitInv (c : Cfg) (lower range : Nat) : Situation → Prop
  | .normal => lower + range < 2^c.S
  | .inverted n first => 1 ≤ n ∧ first + 1 < 2^c.W ∧ 2^c.S ≤ lower + range

/-- Representation invariant of `RangeEncoder`:
    the documented `range ≥ 2^(S-W)`, registers within their types, the interval wraps iff
    the situation is `Inverted`, and the first held-back word can still absorb a carry. -/
def Inv (c : Cfg) (e : Encoder) : Prop :=
  WordsOK c e.bulk ∧ e.lower < 2^c.S ∧ 2^(c.S - c.W) ≤ e.range ∧ e.range < 2^c.S ∧
  SitInv c e.lower e.range e.situation

theorem inv_withBackend (h : RValid c) {ws : List Nat} (hw : WordsOK c ws) :
    Inv c (Encoder.withBackend c ws) := by
  have := h.pow_SW_lt
  have := Nat.two_pow_pos c.S
  refine ⟨hw, this, ?_, ?_, ?_⟩ <;>
    simp only [Encoder.withBackend, maxState, SitInv] <;> omega

theorem inv_empty (h : RValid c) : Inv c (Encoder.empty c) :=
  inv_withBackend h WordsOK.nil

/-- the `usize` counters have room for `k` more symbols: with `m = bulk.len() + num_inverted`,
    `Word::BITS · (m + k + 2) < 2^usize::BITS` (`+ 2`: the seal words; the factor: `num_bits`) -/
def Fits (c : Cfg) (e : Encoder) (k : Nat) : Prop :=
  c.W * (e.bulk.length + e.situation.held + k + 2) < 2^usizeBits

instance (c : Cfg) (e : Encoder) (k : Nat) : Decidable (Fits c e k) := by
  unfold Fits; exact inferInstance

theorem Fits.held_lt (hc : RValid c) {e : Encoder} {k : Nat} (h : Fits c e k) :
    e.bulk.length + e.situation.held + k + 2 < 2^usizeBits :=
  Nat.lt_of_le_of_lt (Nat.le_mul_of_pos_left _ hc.W_pos) h

theorem Fits.of_le {e e' : Encoder} {k j : Nat} (h : Fits c e k)
    (hj : e'.bulk.length + e'.situation.held + j ≤ e.bulk.length + e.situation.held + k) :
    Fits c e' j :=
  Nat.lt_of_le_of_lt (Nat.mul_le_mul_left _ (by omega)) h

theorem Fits.mono {e : Encoder} {k j : Nat} (h : Fits c e k) (hj : j ≤ k) :
    Fits c e j := h.of_le (by omega)

/-! ### `encode_symbol` without the checks -/

def heldP (c : Cfg) (n first : Nat) (carry : Bool) : List Nat :=
  if carry then (first + 1) :: List.replicate (n - 1) 0
  else first :: List.replicate (n - 1) (2^c.W - 1)

/-- first half of `encode_symbol` for the new interval `[lower + off, lower + off + r1)`: held-back
    words are released once it does not wrap, carried iff adding `off` wrapped -/
def resolveP (c : Cfg) (e : Encoder) (off r1 : Nat) : List Nat × Situation :=
  match e.situation with
  | .normal => (e.bulk, .normal)
  | .inverted n first =>
    if (e.lower + off) % 2^c.S + r1 < 2^c.S then
      (e.bulk ++ heldP c n first (decide (2^c.S ≤ e.lower + off)), .normal)
    else (e.bulk, .inverted n first)

def renormP (c : Cfg) (bulk : List Nat) (sit : Situation) (lower range : Nat) : Encoder :=
  if range < 2^(c.S - c.W) then
    let range2 := range * 2^c.W
    let lowerWord := lower / 2^(c.S - c.W)
    let lower2 := (lower % 2^(c.S - c.W)) * 2^c.W
    match sit with
    | .inverted n first =>
      { bulk := bulk, lower := lower2, range := range2, situation := .inverted (n + 1) first }
    | .normal =>
      if lower2 + range2 < 2^c.S then
        { bulk := bulk ++ [lowerWord], lower := lower2, range := range2, situation := .normal }
      else
        { bulk := bulk, lower := lower2, range := range2, situation := .inverted 1 lowerWord }
  else { bulk := bulk, lower := lower, range := range, situation := sit }

def encPure (c : Cfg) (e : Encoder) (cum p : Nat) : Encoder :=
  let scale := e.range / 2^c.P
  renormP c (resolveP c e (scale * cum) (scale * p)).1 (resolveP c e (scale * cum) (scale * p)).2
    ((e.lower + scale * cum) % 2^c.S) (scale * p)

theorem resolveP_held_le (c : Cfg) (e : Encoder) (off r1 : Nat) :
    (resolveP c e off r1).2.held ≤ e.situation.held := by
  unfold resolveP
  cases e.situation with
  | normal => exact Nat.le_refl _
  | inverted n first =>
    dsimp only
    split
    · exact Nat.zero_le _
    · exact Nat.le_refl _

theorem scale_ge (hc : RValid c) {range : Nat} (hr : 2^(c.S - c.W) ≤ range) :
    2^(c.S - c.W - c.P) ≤ range / 2^c.P := by
  rw [Nat.le_div_iff_mul_le (Nat.two_pow_pos _), ← hc.pow_SW_P]; exact hr

theorem scale_pos (hc : RValid c) {range : Nat} (hr : 2^(c.S - c.W) ≤ range) :
    0 < range / 2^c.P :=
  Nat.lt_of_lt_of_le (Nat.two_pow_pos _) (scale_ge hc hr)

/-- what both coders and the reference rest on, with `scale = range >> P`: the sub-interval is
    non-empty, inside `[0, range)`, and one renormalisation restores `≥ 2^(S-W)` (as `P ≤ W`) -/
theorem scale_facts (hc : RValid c) {range cum p : Nat}
    (hr : 2^(c.S - c.W) ≤ range) (hp : 0 < p) (hcp : cum + p ≤ 2^c.P) :
    0 < range / 2^c.P ∧ 0 < range / 2^c.P * p ∧
    range / 2^c.P * cum + range / 2^c.P * p ≤ range ∧
    2^(c.S - c.W) ≤ range / 2^c.P * p * 2^c.W := by
  have h1 := scale_ge hc hr
  have h0 := scale_pos hc hr
  refine ⟨h0, Nat.mul_pos h0 hp, ?_, ?_⟩
  · rw [← Nat.mul_add]
    exact Nat.le_trans (Nat.mul_le_mul_left _ hcp) (Nat.div_mul_le_self range (2^c.P))
  · have h2 : 2^(c.S - c.W) ≤ 2^(c.S - c.W - c.P) * 2^c.W := by
      rw [hc.pow_SW_P]; exact Nat.mul_le_mul_left _ (Nat.pow_le_pow_right (by omega) hc.P_le_W)
    exact Nat.le_trans h2 (Nat.mul_le_mul_right _ (Nat.le_trans h1 (Nat.le_mul_of_pos_right _ hp)))

theorem heldWords_eq {n first : Nat} {carry : Bool} (hf : first + 1 < 2^c.W) :
    heldWords c n first carry = .ok (heldP c n first carry) := by
  unfold heldWords heldP
  cases carry
  · simp [maxWord]
  · simp [cadd_ok hf]

theorem resolve_eq {e : Encoder} {off r1 : Nat} (hl : e.lower < 2^c.S)
    (hoff : off < 2^c.S) (hr0 : 0 < r1) (hr1 : r1 ≤ 2^c.S)
    (hs : ∀ n first, e.situation = .inverted n first → first + 1 < 2^c.W) :
    resolve c e ((e.lower + off) % 2^c.S) r1 = .ok (resolveP c e off r1) := by
  unfold resolve resolveP
  cases hsit : e.situation with
  | normal => rfl
  | inverted n first =>
    simp only [wadd_eq, wrap_iff (Nat.mod_lt _ (Nat.two_pow_pos c.S)) hr0 hr1,
      wrap_lt_iff hl hoff, heldWords_eq (hs n first hsit)]
    split <;> rfl

theorem renorm_eq (hc : RValid c) {bulk : List Nat} {sit : Situation} {lower range : Nat}
    (hl : lower < 2^c.S) (hr0 : 0 < range) (hn : sit.held + 1 < 2^usizeBits) :
    renorm c bulk sit lower range = .ok (renormP c bulk sit lower range) := by
  unfold renorm renormP
  rw [hc.shl_thr]
  dsimp only
  split
  · next hlt =>
    have hr2 := hc.mul_lt hlt
    have hne : range * 2^c.W ≠ 0 := Nat.ne_of_gt (Nat.mul_pos hr0 (Nat.two_pow_pos _))
    rw [hc.shl_W, hc.shr_top, hc.shl_W]
    simp only [Nat.mod_eq_of_lt hr2, hne, if_false, hc.narrow_top hl, hc.shift_mod]
    cases sit with
    | inverted n first =>
      simp only [wadd_eq, Nat.mod_eq_of_lt (show n + 1 < 2^usizeBits from hn), Nat.succ_ne_zero,
        if_false]
    | normal =>
      simp only [wadd_eq, wrap_iff (hc.mul_lt (Nat.mod_lt lower (Nat.two_pow_pos _)))
        (Nat.pos_of_ne_zero hne) (Nat.le_of_lt hr2)]
      split <;> rfl
  · rfl

theorem encodeCP_eq_pure (hc : RValid c) {e : Encoder} (hI : Inv c e)
    (hf : Fits c e 1) {cum p : Nat}
    (hp : 0 < p) (hcp : cum + p ≤ 2^c.P) :
    encodeCP c e cum p = .ok (encPure c e cum p) := by
  obtain ⟨-, hl, hr, hr2, hs⟩ := hI
  obtain ⟨-, hsc2, hsc3, -⟩ := scale_facts hc hr hp hcp
  have hmulp := Nat.lt_of_le_of_lt (Nat.le_trans (Nat.le_add_left _ _) hsc3) hr2
  have hmulc := Nat.lt_of_le_of_lt (Nat.le_trans (Nat.le_add_right _ _) hsc3) hr2
  clear hr
  unfold encodeCP encPure
  rw [hc.shr_P]
  dsimp only
  rw [cmul_ok hmulp, cmul_ok hmulc]
  simp only [Nat.ne_of_gt hsc2, if_false, wadd_eq]
  rw [resolve_eq hl hmulc hsc2 (Nat.le_of_lt hmulp) (by
    intro n first h
    rw [h] at hs
    exact hs.2.1)]
  dsimp only
  rw [renorm_eq hc (Nat.mod_lt _ (Nat.two_pow_pos _)) hsc2]
  have hfl := hf.held_lt hc
  have := resolveP_held_le c e (e.range / 2^c.P * cum) (e.range / 2^c.P * p)
  omega

/-! ### messages -/

/-- the configuration of one coding step: this model's `Probability::BITS` and `PRECISION`.
    One-step lemmas are stated for a `Cfg` and used at `cfgAt c x.B x.P`; `W` and `S` are those of
    `c`, so `Inv`, `Fits`, `DReg`, `SpecInv`, `Contains`, `absE` unfold to the same there, and the
    call sites pass `Inv c e` etc. as they are (`inv_cfgAt`, `absE_cfgAt` record that the
    propositions coincide); `DRel`, a structure, needs `DRel.congr`. -/
def cfgAt (c : Cfg) (B P : Nat) : Cfg := { W := c.W, S := c.S, P := P, B := B }

structure MStep (Sym : Type) where
  B : Nat
  P : Nat
  model : Model Sym
  sym : Sym

def MStep.Valid {Sym : Type} (c : Cfg) (x : MStep Sym) : Prop :=
  RValid (cfgAt c x.B x.P) ∧ x.model.WellFormed x.P ∧ (x.model.enc x.sym).isSome

/-- what a decoding step needs (no assumption on the symbol: nothing was encoded) -/
def MStep.DecValid {Sym : Type} (c : Cfg) (x : MStep Sym) : Prop :=
  RValid (cfgAt c x.B x.P) ∧ x.model.WellFormed x.P

theorem MStep.Valid.decValid {x : MStep Sym} (h : x.Valid c) : x.DecValid c := ⟨h.1, h.2.1⟩

def MStep.cp {Sym : Type} (x : MStep Sym) : Nat × Nat := (x.model.enc x.sym).getD (0, 0)

def MStep.spec {Sym : Type} (x : MStep Sym) : Nat × Nat × Nat := (x.P, x.cp.1, x.cp.2)

theorem MStep.Valid.enc_eq {x : MStep Sym} (h : x.Valid c) :
    x.model.enc x.sym = some (x.cp.1, x.cp.2) := by
  obtain ⟨_, _, hs⟩ := h
  unfold MStep.cp
  cases he : x.model.enc x.sym with
  | none => rw [he] at hs; cases hs
  | some v => rfl

theorem MStep.Valid.cp_ok {x : MStep Sym} (h : x.Valid c) :
    0 < x.cp.2 ∧ x.cp.1 + x.cp.2 ≤ 2^x.P ∧ x.cp.2 < 2^x.P := by
  obtain ⟨hp, hcp, hlt, _⟩ := h.2.1.1 _ _ _ h.enc_eq
  exact ⟨hp, hcp, hlt⟩

end CV.Range
