import CV.Proofs.RangeMsg
/-!
# Encoder histories: inspections are no-ops (C08, C18), rejected attempts can be erased (C09),
batch forms are the per-symbol loops (C02, C09), nothing faults (C20)

`Model/Range.lean` transcribes `encode_symbols` / `try_encode_symbols` and the decoding iterators
as the loops they are (`encodeSymbols`, `decodeSymbols`); here: they equal the caller's per-symbol
loop.
That the *real* batch methods equal these functions is what the `encs` / `decs` correspondence ops
and the twin-coder oracle check.
-/
namespace CV.Range
variable {c : Cfg} {Sym : Type}

theorem isEmpty_iff {e : Encoder} :
    isEmpty c e = true ↔ e.range = maxState c ∧ e.bulk = [] := by
  unfold isEmpty
  simp [List.isEmpty_iff]

theorem isEmpty_iff_export_nil {e : Encoder} :
    isEmpty c e = true ↔ e.bulk ++ sealP c e = [] := by
  rw [isEmpty_iff, List.append_eq_nil_iff, And.comm]
  refine and_congr_right (fun _ => ?_)
  unfold sealP
  split
  · next h => exact iff_of_true h rfl
  · next h =>
    exact iff_of_false h (List.append_ne_nil_of_left_ne_nil
      (List.append_ne_nil_of_right_ne_nil _ (List.cons_ne_nil _ _)) _)

/-- `EncoderGuard::new` then `drop` -/
theorem getCompressed_eq (hc : RValid c) {e : Encoder} (hI : Inv c e)
    (hf : Fits c e 0) :
    getCompressed c e = .ok (e.bulk ++ sealP c e, e) := by
  unfold getCompressed guardNew
  by_cases hem : isEmpty c e = true
  · -- nothing is sealed and `unseal` pops `num_seal_words() = 0` words
    obtain ⟨hr, hb⟩ := isEmpty_iff.mp hem
    have hk : numSealWords c e = .ok 0 := by unfold numSealWords; rw [if_pos hr]
    have hs : sealP c e = [] := by unfold sealP; rw [if_pos hr]
    unfold unsealEnc
    simp only [hem, if_true, hk, Nat.zero_le, Nat.sub_zero, List.take_length, hs, List.append_nil]
  · simp only [hem, Bool.false_eq_true, if_false, sealEnc_eq hc hI, unseal_seal hc hI hf]

theorem tempDecoder_eq (hc : RValid c) {e : Encoder} (hI : Inv c e)
    (hf : Fits c e 0) :
    ∃ d, tempDecoder c e = .ok (d, e) ∧
      Decoder.fromCompressed c (e.bulk ++ sealP c e) = .ok d := by
  obtain ⟨d, hd, _⟩ := fromCompressed_eq hc (sealP_wordsOK hc hI)
  refine ⟨d, ?_, hd⟩
  unfold tempDecoder
  simp only [getCompressed_eq hc hI hf, hd]

/-! ### histories with inspections -/

inductive Op (Sym : Type) where
  | enc (x : MStep Sym)
  | getCompressed
  | decoder
  | numWords
  | numBits
  | isEmpty
  | pos
  | clone

/-- a `Fault` of an inspection as an error of the history -/
def liftM {α : Type} (r : M α) : Except EncErr α :=
  match r with
  | .ok a => .ok a
  | .error f => .error (.fault f)

theorem liftM_map_ok {α β : Type} {r : M α} {a : α} (h : r = .ok a) (f : α → β) :
    liftM (r.map f) = .ok (f a) := by
  rw [h]; rfl

/-- the encoder after one operation (inspections: after the guard / temporary decoder has
    been dropped) -/
def runOp {Sym : Type} (c : Cfg) (e : Encoder) : Op Sym → Except EncErr Encoder
  | .enc x => encode (cfgAt c x.B x.P) x.model x.sym e
  | .getCompressed => liftM ((getCompressed c e).map (·.2))
  | .decoder => liftM ((tempDecoder c e).map (·.2))
  | .numWords => liftM ((numWords c e).map (fun _ => e))
  | .numBits => liftM ((numBits c e).map (fun _ => e))
  | .isEmpty => .ok e
  | .pos => liftM (e.pos.map (fun _ => e))
  | .clone => .ok e

def runOps {Sym : Type} (c : Cfg) : Encoder → List (Op Sym) → Except EncErr Encoder
  | e, [] => .ok e
  | e, op :: ops =>
    match runOp c e op with
    | .ok e' => runOps c e' ops
    | .error err => .error err

def encSteps {Sym : Type} : List (Op Sym) → List (MStep Sym)
  | [] => []
  | .enc x :: ops => x :: encSteps ops
  | _ :: ops => encSteps ops

theorem runOp_inspect (hc : RValid c) {e : Encoder} (hI : Inv c e)
    (hf : Fits c e 0)
    (op : Op Sym) (h : ∀ x, op ≠ .enc x) : runOp c e op = .ok e := by
  cases op with
  | enc x => exact absurd rfl (h x)
  | getCompressed => exact liftM_map_ok (getCompressed_eq hc hI hf) _
  | decoder =>
    obtain ⟨d, hd, _⟩ := tempDecoder_eq hc hI hf
    exact liftM_map_ok hd _
  | numWords => exact liftM_map_ok (numWords_eq hc hI hf) _
  | numBits => exact liftM_map_ok (numBits_eq hc hI hf) _
  | isEmpty => rfl
  | pos => exact liftM_map_ok (pos_eq hc hf) _
  | clone => rfl

theorem inspect_erasure {Sym : Type} {c : Cfg} (hc : RValid c) : ∀ (ops : List (Op Sym))
    (e : Encoder), Inv c e → Fits c e (encSteps ops).length → (∀ x ∈ encSteps ops, x.Valid c) →
    runOps c e ops = encodeMsg c e (encSteps ops) := by
  intro ops
  induction ops with
  | nil => intro e _ _ _; rfl
  | cons op ops ih =>
    intro e hI hf hv
    cases op with
    | enc x =>
      obtain ⟨hx, hv'⟩ := List.forall_mem_cons.mp hv
      obtain ⟨e', he', hI', hf', -, -⟩ := hx.encode_step hI hf
      simp only [runOps, runOp, encSteps, encodeMsg, he']
      exact ih e' hI' hf' hv'
    | _ =>
      simp only [runOps, encSteps]
      rw [runOp_inspect hc hI (hf.mono (Nat.zero_le _))]
      · exact ih e hI hf hv
      · intro x hx; cases hx

/-! ### rejected attempts -/

/-- a history of encode *attempts*: a symbol the model gives probability zero is rejected with
    `ImpossibleSymbol`, the caller keeps the (untouched) encoder and goes on -/
def encodeAttempts {Sym : Type} (c : Cfg) : Encoder → List (MStep Sym) → Except EncErr Encoder
  | e, [] => .ok e
  | e, x :: xs =>
    match encode (cfgAt c x.B x.P) x.model x.sym e with
    | .ok e' => encodeAttempts c e' xs
    | .error .impossible => encodeAttempts c e xs
    | .error (.fault f) => .error (.fault f)

def MStep.possible {Sym : Type} (x : MStep Sym) : Bool := (x.model.enc x.sym).isSome

theorem MStep.valid_of_possible {x : MStep Sym} (h : x.DecValid c)
    (hp : x.possible = true) : x.Valid c := ⟨h.1, h.2, hp⟩

theorem attempts_erasure {Sym : Type} {c : Cfg} : ∀ (xs : List (MStep Sym)) (e : Encoder),
    Inv c e → Fits c e (xs.filter MStep.possible).length → (∀ x ∈ xs, x.DecValid c) →
    encodeAttempts c e xs = encodeMsg c e (xs.filter MStep.possible) := by
  intro xs
  induction xs with
  | nil => intro e _ _ _; rfl
  | cons x xs ih =>
    intro e hI hf hv
    obtain ⟨hx, hv'⟩ := List.forall_mem_cons.mp hv
    by_cases hp : x.possible = true
    · have hxv := MStep.valid_of_possible hx hp
      rw [List.filter_cons_of_pos hp] at hf ⊢
      obtain ⟨e', he', hI', hf', -, -⟩ := hxv.encode_step hI hf
      simp only [encodeAttempts, encodeMsg, he']
      exact ih e' hI' hf' hv'
    · have hnone : x.model.enc x.sym = none := by
        unfold MStep.possible at hp
        exact Option.not_isSome_iff_eq_none.mp hp
      rw [List.filter_cons_of_neg hp] at hf ⊢
      simp only [encodeAttempts, encode_impossible hnone]
      exact ih e hI hf hv'

/-! ### batch forms -/

/-- the caller's loop: `encode_symbol` for each pair, stop at the first error -/
def perSymbolLoop {Sym : Type} (c : Cfg) : Encoder → List (Sym × Model Sym) →
    Encoder × Except EncErr Unit
  | e, [] => (e, .ok ())
  | e, (s, m) :: rest =>
    match encode c m s e with
    | .ok e' => perSymbolLoop c e' rest
    | .error err => (e, .error err)

theorem encodeSymbols_eq_perSymbolLoop {Sym : Type} (c : Cfg) (items : List (Sym × Model Sym))
    (e : Encoder) :
    encodeSymbols c e (items.map some) =
      ((perSymbolLoop c e items).1,
        match (perSymbolLoop c e items).2 with
        | .ok () => .ok ()
        | .error err => .error (.coding err)) := by
  induction items generalizing e with
  | nil => rfl
  | cons a rest ih =>
    obtain ⟨s, m⟩ := a
    simp only [List.map_cons, encodeSymbols, perSymbolLoop]
    cases h : encode c m s e with
    | ok e' => simp only; exact ih e'
    | error err => rfl

def perSymbolDecLoop {Sym : Type} (c : Cfg) : Decoder → List (Model Sym) → List Sym →
    Decoder × List Sym × Except DecErr Unit
  | d, [], acc => (d, acc.reverse, .ok ())
  | d, m :: rest, acc =>
    match decode c m d with
    | .ok (s, d') => perSymbolDecLoop c d' rest (s :: acc)
    | .error err => (d, acc.reverse, .error err)

theorem decodeSymbols_eq_perSymbolLoop (c : Cfg) (models : List (Model Sym))
    (d : Decoder) (acc : List Sym) :
    decodeSymbols c d (models.map some) acc =
      ((perSymbolDecLoop c d models acc).1, (perSymbolDecLoop c d models acc).2.1,
        match (perSymbolDecLoop c d models acc).2.2 with
        | .ok () => .ok ()
        | .error err => .error (.coding err)) := by
  induction models generalizing d acc with
  | nil => rfl
  | cons m rest ih =>
    simp only [List.map_cons, decodeSymbols, perSymbolDecLoop]
    cases h : decode c m d with
    | ok r => exact ih r.2 (r.1 :: acc)
    | error err => rfl

/-! ### single calls (C20) -/

theorem encode_no_fault {Sym : Type} {c : Cfg} (hc : RValid c) {m : Model Sym}
    (hm : m.WellFormed c.P) {e : Encoder} (hI : Inv c e) (hf : Fits c e 1) (s : Sym) :
    (∃ e', encode c m s e = .ok e' ∧ Inv c e') ∨ encode c m s e = .error .impossible := by
  cases hs : m.enc s with
  | none => exact .inr (encode_impossible hs)
  | some cp => exact .inl (encode_ok hc hm hI hf (cum := cp.1) (p := cp.2) hs)

theorem decode_no_fault {Sym : Type} {c : Cfg} (hc : RValid c) {m : Model Sym}
    (hm : m.WellFormed c.P) {d : Decoder} (hI : DReg c d) :
    (∃ s d', decode c m d = .ok (s, d') ∧ DInv c d') ∨ decode c m d = .error .invalidData := by
  rcases decode_total hc hm hI with ⟨h, _⟩ | ⟨s, d', h, hinv, _, _⟩
  · exact .inr h
  · exact .inl ⟨s, d', h, hinv⟩

end CV.Range
