import CV.Proofs.ChainPrecision
import CV.Proofs.ChainIO
/-!
# Chain coder: histories

`runDec` executes a schedule of decode steps and precision changes and logs what has to be
undone; `runUndo` undoes a log.  `undo_restores` is stated for *every* content `K`, `T` of the
two stacks below: with `K = T = []` resp. `T = unused prefix` this covers the coders produced
by `from_remainders`, which is how `restore_binary` / `restore_compressed` follow.
-/
namespace CV.Chain

@[simp] theorem withB_W (c : Cfg) (B : Nat) : (withB c B).W = c.W := rfl
@[simp] theorem withB_S (c : Cfg) (B : Nat) : (withB c B).S = c.S := rfl
@[simp] theorem withB_P (c : Cfg) (B : Nat) : (withB c B).P = c.P := rfl
@[simp] theorem withB_B (c : Cfg) (B : Nat) : (withB c B).B = B := rfl

/-- every step of the schedule is allowed by the crate's static assertions, and every model
    is well-formed at the precision it is used with -/
def StepsOk {Sym : Type} (c : Cfg) : List (Step Sym) → Prop
  | [] => True
  | .dec B m :: rest => CValid (withB c B) ∧ m.WellFormed c.P ∧ StepsOk c rest
  | .prec q :: rest => PrecOk c.W c.S q ∧ StepsOk (withP c q) rest

theorem runUndo_append {Sym : Type} (c : Cfg) (a b : List (Done Sym)) (y : Coder) :
    runUndo c (a ++ b) y =
      match runUndo c a y with
      | some (c1, z) => runUndo c1 b z
      | none => none := by
  induction a generalizing c y with
  | nil => simp [runUndo]
  | cons e a ih =>
    cases e with
    | dec B m s =>
      simp only [List.cons_append, runUndo]
      cases encode (withB c B) m s y with
      | ok z => exact ih c z
      | error _ => rfl
    | prec old =>
      simp only [List.cons_append, runUndo]
      cases changePrecision c old y with
      | ok z => exact ih _ z
      | error _ => rfl

/-- the functions the driver executes (`runDecE`, `runUndoE`) agree with the subjects of the
    theorems (`runDec`, `runUndo`): this lemma and `runUndo_eq_runUndoE` -/
theorem runDec_eq_runDecE {Sym : Type} :
    ∀ (steps : List (Step Sym)) (c : Cfg) (x : Coder),
      runDec c steps x =
        match (runDecE c steps x).2.2.2 with
        | none => some ((runDecE c steps x).1, (runDecE c steps x).2.1, (runDecE c steps x).2.2.1)
        | some _ => none := by
  intro steps
  induction steps with
  | nil => intro c x; simp [runDec, runDecE]
  | cons st rest ih =>
    intro c x
    cases st with
    | dec B m =>
      simp only [runDec, runDecE]
      cases decode (withB c B) m x with
      | error e => rfl
      | ok r =>
        obtain ⟨s, y⟩ := r
        simp only [ih c y]
        cases (runDecE c rest y).2.2.2 <;> rfl
    | prec q =>
      simp only [runDec, runDecE]
      cases changePrecision c q x with
      | error e => rfl
      | ok y =>
        simp only [ih (withP c q) y]
        cases (runDecE (withP c q) rest y).2.2.2 <;> rfl

theorem runUndo_eq_runUndoE {Sym : Type} :
    ∀ (l : List (Done Sym)) (c : Cfg) (y : Coder),
      runUndo c l y =
        match (runUndoE c l y).2.2.2 with
        | none => some ((runUndoE c l y).2.1, (runUndoE c l y).2.2.1)
        | some _ => none := by
  intro l
  induction l with
  | nil => intro c y; simp [runUndo, runUndoE]
  | cons e rest ih =>
    intro c y
    cases e with
    | dec B m s =>
      simp only [runUndo, runUndoE]
      cases encode (withB c B) m s y with
      | error e => rfl
      | ok z => simp only [ih c z]
    | prec old =>
      simp only [runUndo, runUndoE]
      cases changePrecision c old y with
      | error e => rfl
      | ok z => simp only [ih (withP c old) z]

theorem runUndoE_count {Sym : Type} :
    ∀ (l : List (Done Sym)) (c : Cfg) (y : Coder),
      (runUndoE c l y).2.2.2 = none → (runUndoE c l y).1 = l.length := by
  intro l
  induction l with
  | nil => intro c y _; rfl
  | cons e rest ih =>
    intro c y h
    cases e with
    | dec B m s =>
      simp only [runUndoE] at h ⊢
      cases hd : encode (withB c B) m s y with
      | error e => simp [hd] at h
      | ok z => simp only [hd] at h ⊢; simp [ih c z h]
    | prec old =>
      simp only [runUndoE] at h ⊢
      cases hd : changePrecision c old y with
      | error e => simp [hd] at h
      | ok z => simp only [hd] at h ⊢; simp [ih _ z h]

theorem undo_restores {Sym : Type} :
    ∀ (steps : List (Step Sym)) (c : Cfg) (x : Coder),
      PrecOk c.W c.S c.P → StepsOk c steps → Inv c x →
      ∀ log c' y, runDec c steps x = some (log, c', y) →
        Inv c' y ∧ PrecOk c'.W c'.S c'.P ∧ c' = withP c c'.P ∧
        ∃ D, x.compressed = D ++ y.compressed ∧
          ∀ K T, runUndo c' log.reverse
              { compressed := K, remainders := y.remainders ++ T, heads := y.heads }
            = some (c, { compressed := D ++ K, remainders := x.remainders ++ T, heads := x.heads }) := by
  intro steps
  induction steps with
  | nil =>
    intro c x hP _ hx log c' y hrun
    simp only [runDec, Option.some.injEq, Prod.mk.injEq] at hrun
    obtain ⟨rfl, rfl, rfl⟩ := hrun
    exact ⟨hx, hP, rfl, [], rfl, fun K T => by simp [runUndo]⟩
  | cons st rest ih =>
    intro c x hP hok hx log c' y hrun
    cases st with
    | dec B m =>
      obtain ⟨hv, hm, hrest⟩ := hok
      simp only [runDec] at hrun
      rcases decode_spec hv hm hx with ⟨herr, _, _⟩ | ⟨s, y1, word, hdec, hstep⟩
      · simp [herr] at hrun
      · obtain ⟨D1, hD1, henc⟩ := hstep.undo
        simp only [hdec] at hrun
        rcases hrd : runDec c rest y1 with _ | ⟨l, c1, z⟩
        · simp [hrd] at hrun
        · simp only [hrd, Option.some.injEq, Prod.mk.injEq] at hrun
          obtain ⟨rfl, rfl, rfl⟩ := hrun
          obtain ⟨hyI, hP', hc', D2, hD2, hundo⟩ := ih c y1 hP hrest hstep.inv l c1 z hrd
          refine ⟨hyI, hP', hc', D1 ++ D2, by rw [hD1, hD2, List.append_assoc], ?_⟩
          intro K T
          rw [List.reverse_cons, runUndo_append, hundo K T]
          simp only [runUndo, henc (D2 ++ K) T, List.append_assoc]
    | prec q =>
      obtain ⟨hq, hrest⟩ := hok
      simp only [runDec] at hrun
      rcases changePrecision_spec hP hq hx with ⟨herr, _⟩ | ⟨y1, hcp, hy1, hcomp, _, hback⟩
      · simp [herr] at hrun
      · simp only [hcp] at hrun
        rcases hrd : runDec (withP c q) rest y1 with _ | ⟨l, c1, z⟩
        · simp [hrd] at hrun
        · simp only [hrd, Option.some.injEq, Prod.mk.injEq] at hrun
          obtain ⟨rfl, rfl, rfl⟩ := hrun
          obtain ⟨hyI, hP', hc', D2, hD2, hundo⟩ :=
            ih (withP c q) y1 hq hrest hy1 l c1 z hrd
          refine ⟨hyI, hP', ?_, D2, by rw [← hcomp, hD2], ?_⟩
          · rw [hc']; rfl
          · intro K T
            rw [List.reverse_cons, runUndo_append, hundo K T]
            simp only [runUndo, hback (D2 ++ K) T]
            rfl

/-- what the three documented ways of continuing after `into_remainders()` produce, given the
    finishing function `fin` (`intoBinary` or `intoCompressed`); all lists top-of-stack first,
    so `s2 ++ p2 ++ stash` is the `Vec` concatenation `stash ++ prefix2 ++ suffix2`. -/
def RestoresAll {Sym : Type} (fin : Cfg → Coder → Except ExpErr (List Nat × List Nat))
    (c c' : Cfg) (log : List (Done Sym)) (y : Coder) (data : List Nat) : Prop :=
  ∃ pre suf, intoRemainders c' y = .ok (pre, suf) ∧
    -- the exported prefix is an unaltered part of the original data (its bottom)
    (∃ top, data = top ++ pre) ∧
    -- (a) keep using the same coder
    (∃ z p2 s2, runUndo c' log.reverse y = some (c, z) ∧ fin c z = .ok (p2, s2) ∧
        s2 ++ p2 = data) ∧
    -- (b) `from_remainders(suffix)`, the prefix is put away and prepended at the end
    (∃ y1 z p2 s2, fromRemainders c' suf = some y1 ∧ runUndo c' log.reverse y1 = some (c, z) ∧
        fin c z = .ok (p2, s2) ∧ s2 ++ p2 ++ pre = data) ∧
    -- (c) `from_remainders(prefix ++ suffix)` (concatenated as `Vec`s)
    (∃ y2 z p2 s2, fromRemainders c' (suf ++ pre) = some y2 ∧
        runUndo c' log.reverse y2 = some (c, z) ∧ fin c z = .ok (p2, s2) ∧ s2 ++ p2 = data)

theorem restores_of_ctor {Sym : Type}
    {fin : Cfg → Coder → Except ExpErr (List Nat × List Nat)}
    {c : Cfg} (hP : PrecOk c.W c.S c.P) {data : List Nat} {x0 : Coder}
    (hx0 : Inv c x0) (hrem : x0.remainders = [])
    {D0 : List Nat} (hD0 : data = D0 ++ x0.compressed)
    (hfin : ∀ K R, fin c { compressed := K, remainders := R, heads := x0.heads } = .ok (R, D0 ++ K))
    {steps : List (Step Sym)} (hs : StepsOk c steps) {log : List (Done Sym)} {c' : Cfg} {y : Coder}
    (hrun : runDec c steps x0 = some (log, c', y)) :
    RestoresAll fin c c' log y data := by
  obtain ⟨hyI, hP', _, D, hD, hundo⟩ := undo_restores steps c x0 hP hs hx0 log c' y hrun
  obtain ⟨F, hir, hfr⟩ := intoRemainders_spec hP' hyI
  refine ⟨y.compressed, y.heads.compressed :: (F ++ y.remainders), hir,
    ⟨D0 ++ D, by rw [hD0, hD, List.append_assoc]⟩, ?_, ?_, ?_⟩
  · have h := hundo y.compressed []
    simp only [List.append_nil] at h
    refine ⟨_, _, _, h, hfin _ _, ?_⟩
    simp [hrem, hD0, hD]
  · have hf := hfr []
    simp only [List.append_nil] at hf
    have h := hundo [] []
    simp only [List.append_nil] at h
    refine ⟨_, _, _, _, hf, h, hfin _ _, ?_⟩
    simp [hrem, hD0, hD]
  · have hf := hfr y.compressed
    have h := hundo [] y.compressed
    simp only [List.append_nil] at h
    refine ⟨_, _, _, _, by simpa using hf, h, hfin _ _, ?_⟩
    simp [hrem, hD0, hD]

/-- **C13, raw binary data** (zero words included): after any schedule that runs without an
    error, exporting the remainders, continuing in any of the three documented ways, undoing
    the schedule and calling `into_binary` reproduces `data` exactly. -/
theorem restore_binary {Sym : Type} {c : Cfg} (hP : PrecOk c.W c.S c.P) {data : List Nat}
    (hd : Words c.W data) {x0 : Coder} (h0 : fromBinary c data = some x0)
    {steps : List (Step Sym)} (hs : StepsOk c steps) {log : List (Done Sym)} {c' : Cfg} {y : Coder}
    (hrun : runDec c steps x0 = some (log, c', y)) :
    RestoresAll intoBinary c c' log y data := by
  obtain ⟨hx0, hrem, _, D0, hD0, _, hfin⟩ := fromBinary_spec hP hd h0
  exact restores_of_ctor hP hx0 hrem hD0 hfin hs hrun

/-- **C13, data ending in a non-zero word** (`from_compressed` … `into_compressed`). -/
theorem restore_compressed {Sym : Type} {c : Cfg} (hP : PrecOk c.W c.S c.P) {data : List Nat}
    (hd : Words c.W data) {x0 : Coder} (h0 : fromCompressed c data = some x0)
    {steps : List (Step Sym)} (hs : StepsOk c steps) {log : List (Done Sym)} {c' : Cfg} {y : Coder}
    (hrun : runDec c steps x0 = some (log, c', y)) :
    RestoresAll intoCompressed c c' log y data := by
  obtain ⟨hx0, hrem, _, D0, hD0, _, hfin⟩ := fromCompressed_spec hP hd h0
  exact restores_of_ctor hP hx0 hrem hD0 hfin hs hrun

end CV.Chain
