import CV.Proofs.BackendAns
import CV.Proofs.AnsStep
/-!
# The ANS coder over a concrete backend *is* the abstract ANS model

For a backend simulated by the ANS model's `(bulk, cap)` (`Sim B good abs`), `encodeCPOn`/`decodeOn`
commute with `abs` and `Ans.encodeCP`/`Ans.decode`.  Both transcriptions of a step run the same
arithmetic on `state` and touch the backend at one point (flush / refill); the `…_split` lemmas
display them so, and the later proofs look at that point alone.
-/
namespace CV.Backend.AnsAbs
open CV CV.Backend
open CV.Ans (encTail encTail_map)

/-- image of a coder-step result in the abstract model -/
def liftEnc {β : Type} (abs : β → Nat → Ans.Coder) :
    Except Ans.EncErr (β × Nat) → Except Ans.EncErr Ans.Coder
  | .ok (b, st) => .ok (abs b st)
  | .error e => .error e

def liftDec {β Sym : Type} (abs : β → Nat → Ans.Coder) :
    M (Sym × β × Nat) → M (Sym × Ans.Coder)
  | .ok (s, b, st) => .ok (s, abs b st)
  | .error f => .error f

variable {β : Type} {B : BackendOps β} {good : β → Prop} {abs : β → Nat → Ans.Coder}

/-! ## `encode_symbol`: flush, then arithmetic -/

theorem encTail_ne_full {α : Type} (g : Nat → α) (c : Cfg) (st cum p : Nat) :
    (encTail c st cum p).map g ≠ .error .backendFull := by
  unfold encTail
  split
  · nofun
  · cases cadd "ans.enc.quantile" c.B cum (narrow c.B (narrow c.W (st % p))) with
    | error f => nofun
    | ok q => cases shl "ans.enc.prefix" c.S (st / p) c.P <;> nofun

theorem encodeCP_split (c : Cfg) (x : Ans.Coder) (cum p : Nat) :
    Ans.encodeCP c x cum p =
      match shr "ans.enc.hi" c.S x.state (c.S - c.P) with
      | .error f => .error (.fault f)
      | .ok hi =>
        if hi ≥ p then
          if Ans.canWrite x then
            (encTail c (x.state >>> c.W) cum p).map
              fun s => { x with bulk := narrow c.W x.state :: x.bulk, state := s }
          else .error .backendFull
        else (encTail c x.state cum p).map fun s => { x with state := s } := by
  unfold Ans.encodeCP
  cases shr "ans.enc.hi" c.S x.state (c.S - c.P) with
  | error f => rfl
  | ok hi =>
    by_cases hflush : hi ≥ p
    · by_cases hcw : Ans.canWrite x = true
      · simp only [if_pos hflush, if_pos hcw]
        exact encTail_map (fun s => { x with bulk := narrow c.W x.state :: x.bulk, state := s }) c _ cum p
      · simp only [if_pos hflush, if_neg hcw]
    · simp only [if_neg hflush]
      exact encTail_map (fun s => { x with state := s }) c _ cum p

theorem encodeCPOn_split (B : BackendOps β) (c : Cfg) (b : β) (st cum p : Nat) :
    encodeCPOn B c b st cum p =
      match shr "ans.enc.hi" c.S st (c.S - c.P) with
      | .error f => .error (.fault f)
      | .ok hi =>
        if hi ≥ p then
          match B.write b (narrow c.W st) with
          | .ok b' => (encTail c (st >>> c.W) cum p).map fun s => (b', s)
          | .error .outOfSpace => .error .backendFull
          | .error (.fault f) => .error (.fault f)
        else (encTail c st cum p).map fun s => (b, s) := by
  unfold encodeCPOn
  cases shr "ans.enc.hi" c.S st (c.S - c.P) with
  | error f => rfl
  | ok hi =>
    by_cases hflush : hi ≥ p
    · simp only [if_pos hflush]
      cases B.write b (narrow c.W st) with
      | ok b' => exact encTail_map (fun s => (b', s)) c _ cum p
      | error e => cases e <;> rfl
    · simp only [if_neg hflush]; exact encTail_map (fun s => (b, s)) c _ cum p

theorem liftEnc_map (abs : β → Nat → Ans.Coder) (b : β) (r : Except Ans.EncErr Nat) :
    liftEnc abs (r.map fun s => (b, s)) = r.map (abs b) := by
  cases r <;> rfl

theorem map_pair_ok {b b' : β} {st' : Nat} {r : Except Ans.EncErr Nat}
    (h : (r.map fun s => (b, s)) = .ok (b', st')) : b' = b := by
  cases r with
  | error e => cases h
  | ok s =>
    cases h
    rfl

theorem encode_some {Sym : Type} {m : Model Sym} {s : Sym} {cp : Nat × Nat} (henc : m.enc s = some cp)
    (c : Cfg) (x : Ans.Coder) : Ans.encode c m s x = Ans.encodeCP c x cp.1 cp.2 := by
  unfold Ans.encode; rw [henc]

theorem encodeOn_some {Sym : Type} {m : Model Sym} {s : Sym} {cp : Nat × Nat}
    (henc : m.enc s = some cp) (B : BackendOps β) (c : Cfg) (b : β) (st : Nat) :
    encodeOn B c m s b st = encodeCPOn B c b st cp.1 cp.2 := by
  unfold encodeOn; rw [henc]

/-! ## `decode_symbol`: arithmetic, then refill -/

def decHead {Sym : Type} (c : Cfg) (m : Model Sym) (st : Nat) : M (Sym × Nat) :=
  match shl "ans.dec.one" c.S 1 c.P with
  | .error f => .error f
  | .ok modulus =>
    let quantile := narrow c.B (narrow c.W (st % modulus))
    let r := m.dec quantile
    match csub "ans.dec.remainder" quantile r.2.1 with
    | .error f => .error f
    | .ok remainder =>
      match cmul "ans.dec.mul" c.S (st >>> c.P) r.2.2 with
      | .error f => .error f
      | .ok t =>
        match cadd "ans.dec.add" c.S t remainder with
        | .error f => .error f
        | .ok st' => .ok (r.1, st')

theorem decode_split {Sym : Type} (c : Cfg) (m : Model Sym) (x : Ans.Coder) :
    Ans.decode c m x =
      match decHead c m x.state with
      | .error f => .error f
      | .ok (s, st) =>
        if st < 2^(c.S - c.W) then
          match x.bulk with
          | w :: rest => .ok (s, { x with bulk := rest, state := ((st <<< c.W) % 2^c.S) ||| w })
          | [] => .ok (s, { x with state := st })
        else .ok (s, { x with state := st }) := by
  unfold Ans.decode decHead
  cases shl "ans.dec.one" c.S 1 c.P with
  | error f => rfl
  | ok modulus =>
    dsimp only
    cases csub "ans.dec.remainder" (narrow c.B (narrow c.W (x.state % modulus)))
        (m.dec (narrow c.B (narrow c.W (x.state % modulus)))).2.1 with
    | error f => rfl
    | ok remainder =>
      dsimp only
      cases cmul "ans.dec.mul" c.S (x.state >>> c.P)
          (m.dec (narrow c.B (narrow c.W (x.state % modulus)))).2.2 with
      | error f => rfl
      | ok t =>
        dsimp only
        cases cadd "ans.dec.add" c.S t remainder <;> rfl

theorem decodeOn_split {Sym : Type} (B : BackendOps β) (c : Cfg) (m : Model Sym) (b : β) (st : Nat) :
    decodeOn B c m b st =
      match decHead c m st with
      | .error f => .error f
      | .ok (s, st1) =>
        if st1 < 2^(c.S - c.W) then
          match B.read b with
          | .error f => .error f
          | .ok (some w, b') => .ok (s, b', ((st1 <<< c.W) % 2^c.S) ||| w)
          | .ok (none, b') => .ok (s, b', st1)
        else .ok (s, b, st1) := by
  unfold decodeOn decHead
  cases shl "ans.dec.one" c.S 1 c.P with
  | error f => rfl
  | ok modulus =>
    dsimp only
    cases csub "ans.dec.remainder" (narrow c.B (narrow c.W (st % modulus)))
        (m.dec (narrow c.B (narrow c.W (st % modulus)))).2.1 with
    | error f => rfl
    | ok remainder =>
      dsimp only
      cases cmul "ans.dec.mul" c.S (st >>> c.P)
          (m.dec (narrow c.B (narrow c.W (st % modulus)))).2.2 with
      | error f => rfl
      | ok t =>
        dsimp only
        cases cadd "ans.dec.add" c.S t remainder <;> rfl

section
variable (h : Sim B good abs) (c : Cfg) (b : β) (hg : good b) (st : Nat)
include h hg

/-- including `backendFull`: refused write, coder untouched -/
theorem encodeCPOn_sim (cum p : Nat) :
    Ans.encodeCP c (abs b st) cum p = liftEnc abs (encodeCPOn B c b st cum p) := by
  rw [encodeCP_split, encodeCPOn_split, h.state_eq]
  cases shr "ans.enc.hi" c.S st (c.S - c.P) with
  | error f => rfl
  | ok hi =>
    dsimp only
    split
    · cases hw : B.write b (narrow c.W st) with
      | ok b' =>
        obtain ⟨hcw, habs, _⟩ := h.write_ok b st _ b' hg hw
        rw [if_pos hcw, liftEnc_map]
        congr 1
        funext s
        rw [h.restate b' st s, habs]
      | error e =>
        obtain ⟨rfl, hcw⟩ := h.write_err b st _ e hg hw
        rw [hcw]
        rfl
    · rw [liftEnc_map]
      congr 1
      funext s
      rw [h.restate b st s]

theorem encodeCPOn_good (cum p : Nat) (b' : β) (st' : Nat)
    (he : encodeCPOn B c b st cum p = .ok (b', st')) : good b' := by
  rw [encodeCPOn_split] at he
  cases hs : shr "ans.enc.hi" c.S st (c.S - c.P) with
  | error f =>
    rw [hs] at he
    cases he
  | ok hi =>
    rw [hs] at he
    dsimp only at he
    split at he
    · cases hw : B.write b (narrow c.W st) with
      | ok b1 =>
        rw [hw] at he
        rw [map_pair_ok he]
        exact (h.write_ok b st _ b1 hg hw).2.2
      | error e =>
        rw [hw] at he
        cases e <;> cases he
    · rw [map_pair_ok he]
      exact hg

theorem sim_full_only_when_full (cum p : Nat) (he : encodeCPOn B c b st cum p = .error .backendFull) :
    Ans.canWrite (abs b st) = false := by
  rw [encodeCPOn_split] at he
  cases hs : shr "ans.enc.hi" c.S st (c.S - c.P) with
  | error f =>
    rw [hs] at he
    cases he
  | ok hi =>
    rw [hs] at he
    dsimp only at he
    split at he
    · cases hw : B.write b (narrow c.W st) with
      | ok b1 =>
        rw [hw] at he
        exact absurd he (encTail_ne_full _ c _ cum p)
      | error e => exact (h.write_err b st _ e hg hw).2
    · exact absurd he (encTail_ne_full _ c _ cum p)

theorem decodeOn_sim {Sym : Type} (m : Model Sym) :
    Ans.decode c m (abs b st) = liftDec abs (decodeOn B c m b st) := by
  rw [decode_split, decodeOn_split, h.state_eq]
  cases decHead c m st with
  | error f => rfl
  | ok p =>
    obtain ⟨s, st1⟩ := p
    dsimp only
    split
    · obtain ⟨b', hr, habs, _⟩ := h.read b st hg
      rw [hr]
      cases hb : (abs b st).bulk with
      | nil =>
        simp only [List.head?_nil, liftDec]
        rw [h.restate b' st st1, habs]
        simp [Ans.dropReads, hb]
      | cons w rest =>
        simp only [List.head?_cons, liftDec]
        rw [h.restate b' st, habs]
        simp [Ans.dropReads, hb]
    · simp only [liftDec]
      rw [h.restate b st st1]

theorem decodeOn_good {Sym : Type} (m : Model Sym) (s : Sym) (b' : β) (st' : Nat)
    (hd : decodeOn B c m b st = .ok (s, b', st')) : good b' := by
  rw [decodeOn_split] at hd
  cases hh : decHead c m st with
  | error f =>
    rw [hh] at hd
    cases hd
  | ok p =>
    rw [hh] at hd
    dsimp only at hd
    split at hd
    · obtain ⟨b1, hr, _, hg1⟩ := h.read b st hg
      rw [hr] at hd
      generalize (abs b st).bulk.head? = o at hd
      cases o
      · cases hd
        exact hg1
      · cases hd
        exact hg1
    · cases hd; exact hg

end

theorem sim_encode_succeeds {Sym : Type} (h : Sim B good abs) {c : Cfg} (hc : c.Valid)
    {m : Model Sym} (hm : m.WellFormed c.P) (b : β) (hg : good b) (st : Nat)
    (hx : Ans.Inv c (abs b st)) {s : Sym} {cp : Nat × Nat} (henc : m.enc s = some cp)
    (hroom : Ans.canWrite (abs b st) = true) :
    ∃ b' st', encodeOn B c m s b st = .ok (b', st') := by
  obtain ⟨cum, p⟩ := cp
  have he := Ans.encodeCP_eq hc hx (hm.cpok henc)
  rw [if_neg (fun hfull => by rw [hroom] at hfull; cases hfull.2), encodeCPOn_sim h c b hg st] at he
  rw [encodeOn_some henc]
  cases hr : encodeCPOn B c b st cum p with
  | ok r => exact ⟨r.1, r.2, rfl⟩
  | error e =>
    rw [hr] at he
    cases he

end CV.Backend.AnsAbs
