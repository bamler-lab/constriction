import CV.Proofs.ChainStep
/-!
# Chain coder: `change_precision` / `increase_precision` / `decrease_precision`

Increasing the precision is a conditional flush, decreasing a conditional refill
(`flushIf_spec`, `refillIf_spec`); changing back restores the coder exactly.
-/
namespace CV.Chain

@[simp] theorem withP_W (c : Cfg) (q : Nat) : (withP c q).W = c.W := rfl
@[simp] theorem withP_S (c : Cfg) (q : Nat) : (withP c q).S = c.S := rfl
@[simp] theorem withP_P (c : Cfg) (q : Nat) : (withP c q).P = q := rfl
@[simp] theorem withP_B (c : Cfg) (q : Nat) : (withP c q).B = c.B := rfl
theorem withP_self (c : Cfg) : withP c c.P = c := rfl
theorem withP_withP (c : Cfg) (q r : Nat) : withP (withP c q) r = withP c r := rfl

section
variable {c : Cfg} {q : Nat}

theorem changePrecision_up (hQ : PrecOk c.W c.S q) (hgt : c.P < q) (comp rems : List Nat)
    (hc hr : Nat) :
    changePrecision c q ⟨comp, rems, ⟨hc, hr⟩⟩ =
      .ok ⟨comp, (flushIf c (2^(c.S - q)) (hr, rems)).2,
        ⟨hc, (flushIf c (2^(c.S - q)) (hr, rems)).1⟩⟩ := by
  obtain ⟨hq1, _, hS⟩ := hQ
  simp only [changePrecision, gt_iff_lt, hgt, if_true, increasePrecision, ge_iff_le,
    shlT_one (show c.S - q < c.S by omega), flushIf]
  split <;> rfl

theorem changePrecision_down (hQ : PrecOk c.W c.S q) (hle : q ≤ c.P) (comp rems : List Nat)
    (hc hr : Nat) :
    changePrecision c q ⟨comp, rems, ⟨hc, hr⟩⟩ =
      match refillIf c (2^(c.S - c.W - q)) (hr, rems) with
      | none => .error .outOfRemainders
      | some s => .ok ⟨comp, s.2, ⟨hc, s.1⟩⟩ := by
  simp only [changePrecision, gt_iff_lt, Nat.not_lt.mpr hle, if_false, decreasePrecision,
    Nat.sub_right_comm c.S q c.W, hQ.thr, refillIf]
  split
  · rcases refillHead c hr rems with _ | ⟨a, b⟩ <;> rfl
  · rfl

theorem flushIf_withP (c : Cfg) (q : Nat) : flushIf (withP c q) = flushIf c := rfl
theorem refillIf_withP (c : Cfg) (q : Nat) : refillIf (withP c q) = refillIf c := rfl

/-- how the windows of two admissible precisions lie to each other -/
theorem PrecOk.pow_le {W S p q : Nat} (hP : PrecOk W S p) (hQ : PrecOk W S q) :
    2^(S - W - p) ≤ 2^(S - q) ∧ (p ≤ q → 2^(S - W - q) ≤ 2^(S - W - p)) := by
  obtain ⟨_, _, _⟩ := hP
  obtain ⟨_, _, _⟩ := hQ
  exact ⟨pow_le_pow2 (by omega), fun _ => pow_le_pow2 (by omega)⟩

end

theorem changePrecision_spec {c : Cfg} {q : Nat} (hP : PrecOk c.W c.S c.P)
    (hQ : PrecOk c.W c.S q) {x : Coder} (hx : Inv c x) :
    (changePrecision c q x = .error .outOfRemainders ∧ x.remainders = [] ∧ q < c.P) ∨
    ∃ y, changePrecision c q x = .ok y ∧ Inv (withP c q) y ∧
      y.compressed = x.compressed ∧ y.heads.compressed = x.heads.compressed ∧
      ∀ K T, changePrecision (withP c q) c.P
          { compressed := K, remainders := y.remainders ++ T, heads := y.heads }
        = .ok { compressed := K, remainders := x.remainders ++ T, heads := x.heads } := by
  obtain ⟨comp, rems, ⟨hc, hr⟩⟩ := x
  obtain ⟨⟨hc1, hc2, hr1, hr2⟩, hwc, hwr⟩ := hx
  simp only at hc1 hc2 hr1 hr2 hwc hwr ⊢
  obtain ⟨hPQ, hPQ1⟩ := hP.pow_le hQ
  obtain ⟨hQP, hQP1⟩ := hQ.pow_le hP
  have hP' : PrecOk (withP c q).W (withP c q).S c.P := hP
  by_cases hgt : c.P < q
  · -- increase: flush into the lower window; going back refills
    obtain ⟨hr', rems', hfl, h1, h2, hw', hback⟩ := flushIf_spec hQ.window
      (Nat.lt_of_lt_of_le hr2 (pow_le_pow2 (Nat.sub_le _ _))) hr1 (hP.window ▸ hr2)
      (hPQ1 (Nat.le_of_lt hgt)) hPQ hwr
    refine .inr ⟨⟨comp, rems', ⟨hc, hr'⟩⟩, by rw [changePrecision_up hQ hgt, hfl],
      ⟨⟨hc1, hc2, h1, h2⟩, hwc, hw'⟩, rfl, rfl, fun K T => ?_⟩
    rw [changePrecision_down hP' (Nat.le_of_lt hgt)]
    simp only [withP_S, withP_W, refillIf_withP, hback T]
  · -- decrease (or keep): refill into the upper window; going back flushes
    have hle : q ≤ c.P := Nat.le_of_not_lt hgt
    rw [changePrecision_down hQ hle]
    rcases refillIf_spec hP.window hr1 hr2 (hQP1 hle) hQP
        (hQ.window ▸ pow_le_pow2 (Nat.sub_le _ _)) hwr with
      ⟨hn, hnil, hlt⟩ | ⟨R, rems', hre, hLR, hRL, hw', hback⟩
    · refine .inl ⟨by rw [hn], hnil, Nat.lt_of_le_of_ne hle fun h => ?_⟩
      subst h; exact absurd hr1 (Nat.not_le.mpr hlt)
    · rw [← hQ.window] at hRL
      refine .inr ⟨⟨comp, rems', ⟨hc, R⟩⟩, by rw [hre], ⟨⟨hc1, hc2, hLR, hRL⟩, hwc, hw'⟩, rfl, rfl,
        fun K T => ?_⟩
      have hb := hback T
      by_cases hg : q < c.P
      · rw [changePrecision_up hP' hg]
        simp only [withP_S, flushIf_withP, hb]
      · -- the same precision: nothing was refilled and nothing is
        obtain rfl : q = c.P := Nat.le_antisymm hle (Nat.le_of_not_lt hg)
        rw [flushIf, if_neg (Nat.not_le.mpr hRL)] at hb
        rw [changePrecision_down hP' (Nat.le_refl _)]
        simp only [withP_S, withP_W, refillIf, Nat.not_lt.mpr hLR, if_false, hb]

theorem changePrecision_ok {c : Cfg} {q : Nat} (hP : PrecOk c.W c.S c.P) (hQ : PrecOk c.W c.S q)
    {x y : Coder} (hx : Inv c x) (h : changePrecision c q x = .ok y) :
    Inv (withP c q) y ∧ y.compressed = x.compressed ∧
      ∀ K T, changePrecision (withP c q) c.P
          { compressed := K, remainders := y.remainders ++ T, heads := y.heads }
        = .ok { compressed := K, remainders := x.remainders ++ T, heads := x.heads } := by
  rcases changePrecision_spec hP hQ hx with ⟨herr, _⟩ | ⟨_, h', hy, hcomp, _, hback⟩
  · rw [herr] at h; cases h
  · rw [h'] at h; cases h; exact ⟨hy, hcomp, hback⟩

theorem changePrecision_error {c : Cfg} {q : Nat} (hP : PrecOk c.W c.S c.P)
    (hQ : PrecOk c.W c.S q) {x : Coder} (hx : Inv c x) {e : EncErr}
    (h : changePrecision c q x = .error e) :
    e = .outOfRemainders ∧ x.remainders = [] ∧ q < c.P := by
  rcases changePrecision_spec hP hQ hx with ⟨herr, h1, h2⟩ | ⟨_, h', _⟩
  · rw [herr] at h; cases h; exact ⟨rfl, h1, h2⟩
  · rw [h'] at h; cases h

end CV.Chain
