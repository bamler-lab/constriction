import CV.Model.Bits
import CV.Proofs.Arith
/-!
# Bit-level coders: refinement of the Impl model to "a list of bits"

For `W ≥ 1` and states satisfying `Inv`, `writeBit` appends to `bits W c` and `readBit` removes
its last element.  A bit source that behaves like a list (`Src.Refines`) is drained by any
transcription of "call `next` until `none`"; the stack coder read in pop order is such a source.
-/
namespace CV.Bits
variable {W : Nat} {c : Coder}

/-- decidable equality of results, so that concrete instances can be checked by `decide` -/
scoped instance instDecidableEqExcept {ε α : Type} [DecidableEq ε] [DecidableEq α] :
    DecidableEq (Except ε α) := fun a b =>
  match a, b with
  | .ok x, .ok y => if h : x = y then isTrue (by rw [h]) else isFalse (by intro h'; cases h'; exact h rfl)
  | .error x, .error y =>
    if h : x = y then isTrue (by rw [h]) else isFalse (by intro h'; cases h'; exact h rfl)
  | .ok _, .error _ => isFalse (by intro h; cases h)
  | .error _, .ok _ => isFalse (by intro h; cases h)

theorem validW_one {W : Nat} (h : ValidW W) : 1 ≤ W := Nat.le_of_succ_le h

theorem shl1_pow (j : Nat) : (2:Nat)^j <<< 1 = 2^(j+1) := by
  rw [Nat.shiftLeft_eq, Nat.pow_one, Nat.pow_succ]

theorem shr1_pow_succ (k : Nat) : (2:Nat)^(k+1) >>> 1 = 2^k := by
  rw [Nat.shiftRight_eq_div_pow, Nat.pow_one, Nat.pow_succ, Nat.mul_div_cancel _ (by decide)]

theorem one_shl_mod {j : Nat} (hj : j < W) : (1 <<< j) % 2^W = 2^j := by
  rw [Nat.one_shiftLeft, Nat.mod_eq_of_lt (pow_lt_pow2 hj)]

theorem tz_two_pow (W j : Nat) (h : j < W) : tz W (2^j) = j := by
  induction j generalizing W with
  | zero => cases W with
    | zero => cases h
    | succ W => rfl
  | succ j ih => cases W with
    | zero => cases h
    | succ W =>
      rw [tz, Nat.pow_succ, Nat.mul_mod_left, if_neg (by decide), Nat.mul_div_cancel _ (by decide),
        ih W (Nat.lt_of_succ_lt_succ h)]

theorem log2_eq_of_bounds {x j : Nat} (h1 : 2^j ≤ x) (h2 : x < 2^(j+1)) : Nat.log2 x = j :=
  (Nat.log2_eq_iff (Nat.ne_of_gt (Nat.lt_of_lt_of_le (Nat.two_pow_pos j) h1))).mpr ⟨h1, h2⟩

theorem two_pow_add_lt {k N x : Nat} (hx : x < 2^k) (h : k < N) : 2^k + x < 2^N :=
  Nat.lt_of_lt_of_le (by rw [Nat.pow_succ]; omega) (pow_le_pow2 h)

theorem lz_eq {x : Nat} (hx : x ≠ 0) : lz W x = W - (Nat.log2 x + 1) := by
  rw [lz, bitlen, if_neg hx]

theorem wsub_zero_one {N : Nat} (hN : 1 ≤ N) : wsub N 0 1 = 2^N - 1 := by
  rw [wsub_of_lt Nat.one_pos (Nat.one_lt_two_pow (Nat.ne_of_gt hN)), Nat.zero_add]

theorem and_two_pow (x j : Nat) : x &&& 2^j = if x.testBit j then 2^j else 0 := by
  apply Nat.eq_of_testBit_eq
  intro i
  rw [Nat.testBit_and, Nat.testBit_two_pow]
  by_cases hji : j = i
  · subst hji
    cases x.testBit j <;> simp
  · cases x.testBit j <;> simp [hji]

/-- the test `x & (1 << j) != 0` of the decoders -/
theorem and_pow_ne_zero (x j : Nat) : (x &&& 2^j ≠ 0) = (x.testBit j = true) := by
  rw [and_two_pow]
  cases x.testBit j <;> simp

theorem xor_top_bit {x j : Nat} (hx : x < 2^(j+1)) :
    x ^^^ (x &&& 2^j) = x % 2^j := by
  apply Nat.eq_of_testBit_eq
  intro i
  rw [Nat.testBit_xor, Nat.testBit_and, Nat.testBit_two_pow, Nat.testBit_mod_two_pow]
  by_cases h1 : i < j
  · have : ¬ j = i := by omega
    simp [h1, this]
  · by_cases h2 : j = i
    · subst h2; simp
    · have hlt : x < 2^i := Nat.lt_of_lt_of_le hx (pow_le_pow2 (by omega))
      simp [h1, h2, Nat.testBit_lt_two_pow hlt]

@[simp] theorem lowBits_length (k w : Nat) : (lowBits k w).length = k := by
  simp [lowBits]

@[simp] theorem lowBits_zero (w : Nat) : lowBits 0 w = [] := rfl

theorem lowBits_succ (k w : Nat) : lowBits (k+1) w = lowBits k w ++ [w.testBit k] := by
  simp [lowBits, List.range_succ]

theorem lowBits_congr {k a b : Nat} (h : ∀ i, i < k → a.testBit i = b.testBit i) :
    lowBits k a = lowBits k b :=
  List.map_congr_left fun i hi => h i (List.mem_range.mp hi)

theorem lowBits_succ_left (k w : Nat) :
    lowBits (k+1) w = w.testBit 0 :: lowBits k (w / 2) := by
  induction k with
  | zero => rfl
  | succ k ih =>
    rw [lowBits_succ, ih, lowBits_succ (w := w / 2), Nat.testBit_succ]
    rfl

theorem lowBits_mod (k w : Nat) : lowBits k (w % 2^k) = lowBits k w :=
  lowBits_congr fun i hi => by rw [Nat.testBit_mod_two_pow, decide_eq_true hi, Bool.true_and]

theorem lowBits_of_lt {k x : Nat} (hx : x < 2^k) (d : Nat) :
    lowBits (k + d) x = lowBits k x ++ List.replicate d false := by
  induction d with
  | zero => simp
  | succ d ih =>
    have hlt : x < 2^(k+d) := Nat.lt_of_lt_of_le hx (pow_le_pow2 (Nat.le_add_right k d))
    rw [← Nat.add_assoc, lowBits_succ, ih, Nat.testBit_lt_two_pow hlt, List.replicate_succ',
      List.append_assoc]

theorem lowBits_zero_word (k : Nat) : lowBits k 0 = List.replicate k false := by
  simpa using lowBits_of_lt (Nat.two_pow_pos 0) k

theorem eq_of_lowBits_eq {k a b : Nat} (ha : a < 2^k) (hb : b < 2^k)
    (h : lowBits k a = lowBits k b) : a = b := by
  apply Nat.eq_of_testBit_eq
  intro i
  by_cases hi : i < k
  · have := congrArg (fun l => l[i]?) h
    simpa [lowBits, hi] using this
  · have hle : k ≤ i := Nat.le_of_not_lt hi
    have h1 : a < 2^i := Nat.lt_of_lt_of_le ha (pow_le_pow2 hle)
    have h2 : b < 2^i := Nat.lt_of_lt_of_le hb (pow_le_pow2 hle)
    rw [Nat.testBit_lt_two_pow h1, Nat.testBit_lt_two_pow h2]

theorem lowBits_or_top {k x : Nat} (hx : x < 2^k) (b : Bool) :
    lowBits (k+1) (x ||| (if b then 2^k else 0)) = lowBits k x ++ [b] := by
  rw [lowBits_succ, Nat.testBit_or, Nat.testBit_lt_two_pow hx]
  congr 1
  · apply lowBits_congr
    intro i hi
    rw [Nat.testBit_or]
    cases b
    · simp
    · simp [Nat.testBit_two_pow]; omega
  · cases b <;> simp

theorem lowBits_one_bit (b : Bool) : lowBits 1 (if b then 1 else 0) = [b] := by
  cases b <;> rfl

@[simp] theorem wordBits_nil (W : Nat) : wordBits W [] = [] := rfl

theorem wordBits_cons (W w : Nat) (ws : List Nat) :
    wordBits W (w :: ws) = wordBits W ws ++ lowBits W w := by
  simp [wordBits, List.flatMap_append]

theorem wordBits_length (W : Nat) (ws : List Nat) : (wordBits W ws).length = ws.length * W := by
  induction ws with
  | nil => simp
  | cons w ws ih => rw [wordBits_cons, List.length_append, ih, lowBits_length, List.length_cons, Nat.succ_mul]

theorem wordBits_injective (hW : 1 ≤ W) {a b : List Nat}
    (ha : ∀ w ∈ a, w < 2^W) (hb : ∀ w ∈ b, w < 2^W) (h : wordBits W a = wordBits W b) : a = b := by
  have hlen : a.length = b.length := by
    have := congrArg List.length h
    rw [wordBits_length, wordBits_length] at this
    exact Nat.eq_of_mul_eq_mul_right hW this
  induction a generalizing b with
  | nil => exact (List.length_eq_zero_iff.mp hlen.symm).symm
  | cons x a ih =>
    cases b with
    | nil => cases hlen
    | cons y b =>
      rw [wordBits_cons, wordBits_cons] at h
      have hsplit := List.append_inj' h (by rw [lowBits_length, lowBits_length])
      rw [eq_of_lowBits_eq (ha x List.mem_cons_self) (hb y List.mem_cons_self) hsplit.2,
        ih (fun w hw => ha w (List.mem_cons_of_mem _ hw))
          (fun w hw => hb w (List.mem_cons_of_mem _ hw)) hsplit.1 (Nat.succ.inj hlen)]

theorem inv_empty (W : Nat) : Inv W empty := by
  refine ⟨?_, Or.inl ⟨rfl, rfl⟩⟩
  intro w hw; cases hw

theorem fill_zero (h : c.mask = 0) : fill W c = 0 := by
  simp [fill, h]

theorem fill_pow {j : Nat} (hj : j < W) (h : c.mask = 2^j) : fill W c = j + 1 := by
  simp [fill, h, tz_two_pow W j hj]

theorem fill_eq_zero_iff : fill W c = 0 ↔ c.mask = 0 := by
  unfold fill
  split <;> simp [*]

theorem fill_le (hI : Inv W c) : fill W c ≤ W := by
  rcases hI.2 with ⟨hm, _⟩ | ⟨j, hj, hm, _⟩
  · rw [fill_zero hm]; exact Nat.zero_le W
  · rw [fill_pow hj hm]; exact hj

theorem bits_of_mask_zero (h : c.mask = 0) :
    bits W c = wordBits W c.backend := by
  rw [bits, fill_zero h, lowBits_zero, List.append_nil]

theorem bits_of_mask_pow {j : Nat} (hj : j < W) (h : c.mask = 2^j) :
    bits W c = wordBits W c.backend ++ lowBits (j+1) c.cw := by
  rw [bits, fill_pow hj h]

@[simp] theorem bits_empty (W : Nat) : bits W empty = [] := bits_of_mask_zero rfl

theorem bits_length (c : Coder) :
    (bits W c).length = c.backend.length * W + fill W c := by
  simp [bits, wordBits_length]

theorem bits_eq_nil_iff (hW : 1 ≤ W) :
    bits W c = [] ↔ c.mask = 0 ∧ c.backend = [] := by
  rw [← List.length_eq_zero_iff, bits_length, Nat.add_eq_zero_iff, fill_eq_zero_iff,
    Nat.mul_eq_zero, List.length_eq_zero_iff]
  constructor
  · rintro ⟨h | h, hm⟩
    · exact ⟨hm, h⟩
    · omega
  · exact fun ⟨hm, h⟩ => ⟨Or.inl h, hm⟩

theorem writeBit_of_mask_zero (hm : c.mask = 0) (b : Bool) :
    writeBit W c b = { backend := c.backend, cw := if b then 1 else 0, mask := 1 } := by
  simp [writeBit, hm]

theorem writeBit_of_room {j : Nat} (hm : c.mask = 2^j) (hj : j + 1 < W) (b : Bool) :
    writeBit W c b =
      { backend := c.backend, cw := c.cw ||| (if b then 2^(j+1) else 0), mask := 2^(j+1) } := by
  have hwm : (c.mask <<< 1) % 2^W = 2^(j+1) := by
    rw [hm, shl1_pow, Nat.mod_eq_of_lt (pow_lt_pow2 hj)]
  simp [writeBit, hwm]

theorem writeBit_of_full {j : Nat} (hm : c.mask = 2^j) (b : Bool) :
    writeBit (j+1) c b = { backend := c.cw :: c.backend, cw := if b then 1 else 0, mask := 1 } := by
  have hwm : ((2:Nat)^j <<< 1) % 2^(j+1) = 0 := by rw [shl1_pow, Nat.mod_self]
  simp [writeBit, hm, hwm]

theorem writeBit_mask_ne_zero (W : Nat) (c : Coder) (b : Bool) : (writeBit W c b).mask ≠ 0 := by
  unfold writeBit
  by_cases h : (c.mask <<< 1) % 2^W = 0 <;> simp [h]

theorem writeBit_spec (hW : 1 ≤ W) (hI : Inv W c) (b : Bool) :
    Inv W (writeBit W c b) ∧ bits W (writeBit W c b) = bits W c ++ [b] := by
  obtain ⟨hB, hS⟩ := hI
  have hbit : (if b then 1 else 0) < 2^(0+1) := by cases b <;> decide
  rcases hS with ⟨hm, hc⟩ | ⟨j, hj, hm, hc⟩
  · rw [writeBit_of_mask_zero hm, bits_of_mask_zero hm, bits_of_mask_pow (j := 0) hW rfl]
    exact ⟨⟨hB, Or.inr ⟨0, hW, rfl, hbit⟩⟩, by rw [lowBits_one_bit]⟩
  · rw [bits_of_mask_pow hj hm]
    by_cases hlast : j + 1 < W
    · rw [writeBit_of_room hm hlast, bits_of_mask_pow hlast rfl]
      refine ⟨⟨hB, Or.inr ⟨j+1, hlast, rfl, ?_⟩⟩, by rw [lowBits_or_top hc, List.append_assoc]⟩
      apply Nat.or_lt_two_pow (Nat.lt_trans hc (pow_lt_pow2 (Nat.lt_succ_self _)))
      cases b
      · exact Nat.two_pow_pos _
      · exact pow_lt_pow2 (Nat.lt_succ_self _)
    · obtain rfl : W = j + 1 := Nat.le_antisymm (Nat.le_of_not_lt hlast) hj
      rw [writeBit_of_full hm, bits_of_mask_pow (j := 0) hW rfl]
      refine ⟨⟨?_, Or.inr ⟨0, hW, rfl, hbit⟩⟩, by rw [lowBits_one_bit, wordBits_cons]⟩
      intro w hw
      rcases List.mem_cons.mp hw with rfl | h
      · exact hc
      · exact hB w h

theorem writeBit_inv (hW : 1 ≤ W) (hI : Inv W c) (b : Bool) :
    Inv W (writeBit W c b) := (writeBit_spec hW hI b).1

theorem writeBit_bits (hW : 1 ≤ W) (hI : Inv W c) (b : Bool) :
    bits W (writeBit W c b) = bits W c ++ [b] := (writeBit_spec hW hI b).2

theorem writeBits_spec (hW : 1 ≤ W) (bs : List Bool) (hI : Inv W c) :
    Inv W (writeBits W c bs) ∧ bits W (writeBits W c bs) = bits W c ++ bs := by
  induction bs generalizing c with
  | nil => exact ⟨hI, (List.append_nil _).symm⟩
  | cons b bs ih =>
    have h1 := writeBit_spec hW hI b
    have h2 := ih h1.1
    exact ⟨h2.1, by rw [writeBits, h2.2, h1.2, List.append_assoc]; rfl⟩

theorem readBit_of_mask_ne_zero (h : c.mask ≠ 0) :
    readBit W c = readStep c := by
  rw [readBit, if_neg h]

theorem readStep_spec {j : Nat} (hB : ∀ w ∈ c.backend, w < 2^W) (hj : j < W)
    (hm : c.mask = 2^j) (hc : c.cw < 2^(j+1)) :
    (readStep c).1 = (bits W c).getLast? ∧ Inv W (readStep c).2 ∧
      bits W (readStep c).2 = (bits W c).dropLast := by
  have hlt : c.cw % 2^j < 2^j := Nat.mod_lt _ (Nat.two_pow_pos j)
  have hstep : readStep c =
      (some (c.cw.testBit j), { backend := c.backend, cw := c.cw % 2^j, mask := 2^j >>> 1 }) := by
    rw [readStep, hm, xor_top_bit hc]
    simp [and_pow_ne_zero]
  rw [hstep, bits_of_mask_pow hj hm, lowBits_succ, ← List.append_assoc, List.getLast?_concat,
    List.dropLast_concat, ← lowBits_mod]
  refine ⟨rfl, ?_⟩
  cases j with
  | zero => exact ⟨⟨hB, Or.inl ⟨rfl, Nat.mod_one _⟩⟩, by rw [bits_of_mask_zero rfl]; exact (List.append_nil _).symm⟩
  | succ k =>
    exact ⟨⟨hB, Or.inr ⟨k, Nat.lt_of_succ_lt hj, shr1_pow_succ k, hlt⟩⟩,
      bits_of_mask_pow (Nat.lt_of_succ_lt hj) (shr1_pow_succ k)⟩

theorem readBit_spec (hW : 1 ≤ W) (hI : Inv W c) :
    (readBit W c).1 = (bits W c).getLast? ∧ Inv W (readBit W c).2 ∧
      bits W (readBit W c).2 = (bits W c).dropLast := by
  obtain ⟨hB, hS⟩ := hI
  rcases hS with ⟨hm, hc⟩ | ⟨j, hj, hm, hc⟩
  · cases hb : c.backend with
    | nil =>
      have hr : readBit W c = (none, c) := by simp [readBit, hm, hb]
      rw [hr, (bits_eq_nil_iff hW).mpr ⟨hm, hb⟩]
      exact ⟨rfl, ⟨hB, Or.inl ⟨hm, hc⟩⟩, rfl⟩
    | cons w rest =>
      have hlast : W - 1 < W := Nat.sub_lt hW Nat.one_pos
      have hr : readBit W c = readStep { backend := rest, cw := w, mask := 2^(W-1) } := by
        simp [readBit, hm, hb, one_shl_mod hlast]
      have hbits : bits W c = bits W ({ backend := rest, cw := w, mask := 2^(W-1) } : Coder) := by
        rw [bits_of_mask_zero hm, hb, wordBits_cons, bits_of_mask_pow hlast rfl, Nat.sub_add_cancel hW]
      rw [hb] at hB
      rw [hr, hbits]
      exact readStep_spec (fun x hx => hB x (List.mem_cons_of_mem _ hx)) hlast rfl
        (by rw [Nat.sub_add_cancel hW]; exact hB w List.mem_cons_self)
  · rw [readBit_of_mask_ne_zero (by rw [hm]; exact Nat.ne_of_gt (Nat.two_pow_pos j))]
    exact readStep_spec hB hj hm hc

theorem readBit_fst (hW : 1 ≤ W) (hI : Inv W c) :
    (readBit W c).1 = (bits W c).getLast? := (readBit_spec hW hI).1

theorem readBit_inv (hW : 1 ≤ W) (hI : Inv W c) :
    Inv W (readBit W c).2 := (readBit_spec hW hI).2.1

theorem readBit_bits (hW : 1 ≤ W) (hI : Inv W c) :
    bits W (readBit W c).2 = (bits W c).dropLast := (readBit_spec hW hI).2.2

theorem readBit_none (hW : 1 ≤ W) (h : bits W c = []) :
    readBit W c = (none, c) := by
  obtain ⟨hm, hb⟩ := (bits_eq_nil_iff hW).mp h
  simp [readBit, hm, hb]

theorem readBit_writeBit (hW : 1 ≤ W) (hI : Inv W c) (b : Bool) :
    (readBit W (writeBit W c b)).1 = some b ∧ Inv W (readBit W (writeBit W c b)).2 ∧
      bits W (readBit W (writeBit W c b)).2 = bits W c := by
  have hw := writeBit_spec hW hI b
  have hr := readBit_spec hW hw.1
  exact ⟨by rw [hr.1, hw.2]; simp, hr.2.1, by rw [hr.2.2, hw.2]; simp⟩

theorem len_eq (W : Nat) (c : Coder) :
    len W c =
      if ¬ c.backend.length * W < 2^64 then .error (.panic "bits.len.mul")
      else if ¬ c.backend.length * W + fill W c < 2^64 then .error (.panic "bits.len.add")
      else .ok (c.backend.length * W + fill W c) := rfl

theorem len_spec (c : Coder) (h : (bits W c).length < 2^64) :
    len W c = .ok (bits W c).length := by
  rw [bits_length] at h ⊢
  rw [len_eq, if_neg (not_not_intro (Nat.lt_of_le_of_lt (Nat.le_add_right _ _) h)),
    if_neg (not_not_intro h)]

theorem len_overflow (c : Coder) (h : ¬ (bits W c).length < 2^64) :
    ∃ f, len W c = .error f := by
  rw [bits_length] at h
  by_cases h1 : c.backend.length * W < 2^64
  · exact ⟨_, by rw [len_eq, if_neg (not_not_intro h1), if_pos h]⟩
  · exact ⟨_, by rw [len_eq, if_pos h1]⟩

theorem len_ok {n : Nat} (h : len W c = .ok n) : (bits W c).length = n := by
  by_cases hl : (bits W c).length < 2^64
  · rw [len_spec c hl] at h
    exact Except.ok.inj h
  · obtain ⟨f, hf⟩ := len_overflow c hl
    rw [hf] at h; cases h

theorem isEmpty_iff (hW : 1 ≤ W) :
    isEmpty c = true ↔ bits W c = [] := by
  rw [bits_eq_nil_iff hW]
  simp [isEmpty]

/-- a bit source (what a `DecoderCodebook` sees) that behaves like the list `view s` -/
structure Src.Refines {σ : Type} (src : Src σ) (I : σ → Prop) (view : σ → List Bool) : Prop where
  inv : ∀ s, I s → I (src.next s).2
  out : ∀ s, I s → (src.next s).1 = (view s).head?
  view : ∀ s, I s → view (src.next s).2 = (view s).tail

variable {σ : Type} {src : Src σ} {I : σ → Prop} {view : σ → List Bool}

theorem Src.Refines.next_cases (R : Src.Refines src I view) {s : σ} (hI : I s) :
    ∃ s', I s' ∧ ((view s = [] ∧ src.next s = (none, s') ∧ view s' = []) ∨
      (∃ b, view s = b :: view s' ∧ src.next s = (some b, s'))) := by
  have ho := R.out s hI
  have hv := R.view s hI
  refine ⟨(src.next s).2, R.inv s hI, ?_⟩
  cases hvs : view s with
  | nil =>
    rw [hvs] at ho hv
    exact Or.inl ⟨rfl, Prod.ext ho rfl, hv⟩
  | cons b t =>
    rw [hvs] at ho hv
    exact Or.inr ⟨b, by rw [hv]; rfl, Prod.ext ho rfl⟩

theorem listSrc_refines : Src.Refines listSrc (fun _ => True) id where
  inv := fun _ _ => trivial
  out := fun s _ => by cases s <;> rfl
  view := fun s _ => by cases s <;> rfl

theorem stackSrc_refines (hW : 1 ≤ W) :
    Src.Refines (stackSrc W) (Inv W) (fun c => (bits W c).reverse) where
  inv := fun _ hI => readBit_inv hW hI
  out := fun c hI => by
    show (readBit W c).1 = _
    rw [readBit_fst hW hI, List.head?_reverse]
  view := fun c hI => by
    show (bits W (readBit W c).2).reverse = _
    rw [readBit_bits hW hI, List.tail_reverse]

/-- Any transcription of "call `next` until it returns `none`" (`Stack.drain`, `QDecoder.drain`)
    collects the whole view once the fuel exceeds its length, and leaves an empty source. -/
theorem Src.Refines.drain (R : Src.Refines src I view) (drain : Nat → σ → Option (List Bool × σ))
    (hnone : ∀ f s s', src.next s = (none, s') → drain (f + 1) s = some ([], s'))
    (hsome : ∀ f s b s' bs s'', src.next s = (some b, s') → drain f s' = some (bs, s'') →
      drain (f + 1) s = some (b :: bs, s''))
    (f : Nat) (s : σ) (hI : I s) (hlen : (view s).length < f) :
    ∃ s', drain f s = some (view s, s') ∧ I s' ∧ view s' = [] := by
  induction f generalizing s with
  | zero => cases hlen
  | succ f ih =>
    obtain ⟨s₁, hI₁, ⟨hv, hn, hv₁⟩ | ⟨b, hv, hn⟩⟩ := R.next_cases hI
    · exact ⟨s₁, by rw [hnone f s s₁ hn, hv], hI₁, hv₁⟩
    · rw [hv, List.length_cons] at hlen
      obtain ⟨s', hd, hI', hv'⟩ := ih s₁ hI₁ (Nat.lt_of_succ_lt_succ hlen)
      exact ⟨s', by rw [hsome f s b s₁ _ s' hn hd, hv], hI', hv'⟩

theorem fuel_gt (hI : Inv W c) : (bits W c).length < Stack.fuel W c := by
  have := fill_le hI
  rw [bits_length]; unfold Stack.fuel; omega

theorem iter_spec (hW : 1 ≤ W) (hI : Inv W c) :
    Stack.iter W c = .ok (bits W c).reverse := by
  obtain ⟨c', hd, _, _⟩ := (stackSrc_refines hW).drain (Stack.drain W)
    (fun _ _ _ h => by rw [Stack.drain, show readBit W _ = _ from h])
    (fun _ _ _ _ _ _ h hd => by rw [Stack.drain, show readBit W _ = _ from h]; simp only [hd])
    (Stack.fuel W c) c hI (by rw [List.length_reverse]; exact fuel_gt hI)
  rw [Stack.iter, hd]

end CV.Bits
