import CV.Proofs.CatModels
/-!
# Acceptance criteria, in both directions

For the hash-table encoder, the non-contiguous decoder and the contiguous lookup constructors,
with `infer_last_probability` at every `1 ≤ P ≤ B` (which is what D8 broke at `P = B`).
-/
namespace CV.Cat
open CV

theorem triples_pos {Sym : Type} {ss : List Sym} {qs : List Nat} (hpos : ∀ q ∈ qs, 0 < q) :
    ∀ x ∈ triples ss qs, x.2.2 ≠ 0 := by
  intro x hx
  unfold triples at hx
  obtain ⟨s, l, p⟩ := x
  have h1 := (List.of_mem_zip hx).2
  have h2 := (List.of_mem_zip h1).2
  have := hpos p h2
  simp only; omega

/-- **hash-table encoder model: accepted iff** the full table is valid, the counts match and
    the symbols are pairwise distinct -/
theorem NcEnc.fromFixed_iff {Sym : Type} [DecidableEq Sym] [Inhabited Sym] {B P : Nat}
    {syms : List Sym} {probs : List Nat} {infer : Bool}
    (hP1 : 1 ≤ P) (hP : P ≤ B) (hprobs : ∀ p ∈ probs, p < 2 ^ B) :
    (∃ m, NcEnc.fromSymbolsAndNonzeroFixedPoint B P syms probs infer = some m) ↔
      ValidProbs P (fullTable P probs infer) ∧ syms.length = (fullTable P probs infer).length ∧
        syms.Nodup := by
  constructor
  · rintro ⟨m, h⟩
    obtain ⟨hv, hlen, hnd, _⟩ := NcEnc.fromFixed_some hP1 hP hprobs h
    exact ⟨hv, hlen, hnd⟩
  · rintro ⟨hv, hlen, hnd⟩
    have hfold : foldOp NcEnc.insertNew [] (triples syms (fullTable P probs infer)) =
        some ([] ++ triples syms (fullTable P probs infer)) :=
      (NcEnc.foldOp_insertNew_iff _ [] _ (by simp)).mpr
        ⟨rfl, by simpa [triples_syms hlen] using hnd, triples_pos hv.2.1⟩
    have hacc := (accumulate_eq_some_iff (B := B) hP1 hP hprobs).mpr
      ⟨hv, syms, by rw [← hlen]; exact takeSyms_list_all syms, hfold⟩
    refine ⟨{ tbl := [] ++ triples syms (fullTable P probs infer) }, ?_⟩
    unfold NcEnc.fromSymbolsAndNonzeroFixedPoint
    rw [hacc]
    simp [SymIter.next]

/-- **non-contiguous decoder model: accepted iff** the full table is valid and the counts match -/
theorem NcDec.fromFixed_iff {Sym : Type} {B P : Nat} {syms : List Sym} {probs : List Nat}
    {infer : Bool} (hP1 : 1 ≤ P) (hP : P ≤ B) (hprobs : ∀ p ∈ probs, p < 2 ^ B) :
    (∃ m, NcDec.fromSymbolsAndNonzeroFixedPoint B P syms probs infer = .ok (some m)) ↔
      ValidProbs P (fullTable P probs infer) ∧ syms.length = (fullTable P probs infer).length := by
  constructor
  · rintro ⟨m, h⟩
    rcases NcDec.fromFixed_some (syms := syms) (infer := infer) hP1 hP hprobs with
      h0 | ⟨m', last, h1, hv, hlen, _⟩
    · rw [h0] at h; cases h
    · exact ⟨hv, hlen⟩
  · rintro ⟨hv, hlen⟩
    have hfold := foldOp_push (fun (s : Sym) l _ => (l, s)) (triples syms (fullTable P probs infer)) []
    have hacc := (accumulate_eq_some_iff (B := B) hP1 hP hprobs).mpr
      ⟨hv, syms, by rw [← hlen]; exact takeSyms_list_all syms, hfold⟩
    unfold NcDec.fromSymbolsAndNonzeroFixedPoint
    rw [hacc]
    simp only [List.nil_append]
    cases hl : (List.map (fun t => (t.2.1, t.1)) (triples syms (fullTable P probs infer))).getLast? with
    | none =>
      exfalso
      have := List.getLast?_eq_none_iff.mp hl
      have hz : (triples syms (fullTable P probs infer)).length = 0 := by
        have := congrArg List.length this
        simpa using this
      unfold triples at hz
      rw [List.length_zip, List.length_zip, psums_length, Nat.min_self, hlen, Nat.min_self] at hz
      have := hv.1; omega
    | some x =>
      obtain ⟨c, last⟩ := x
      simp [SymIter.next]

/-- **contiguous lookup model: accepted iff** the full table is valid -/
theorem Lookup.fromFixed_iff {B P : Nat} {probs : List Nat} {infer : Bool}
    (hP1 : 1 ≤ P) (hP : P ≤ B) (hprobs : ∀ p ∈ probs, p < 2 ^ B) :
    (∃ m, Lookup.fromNonzeroFixedPoint B P probs infer = some m) ↔
      ValidProbs P (fullTable P probs infer) := by
  constructor
  · rintro ⟨m, h⟩
    exact (Lookup.fromFixed_some hP1 hP hprobs h).1
  · intro hv
    have hext := extOf_valid hv
    obtain ⟨tbl', e1, _⟩ := foldOp_pushOp_specTable (B := B) hext hP
      (fun i => (List.replicate (fullTable P probs infer).length ()).getD i default)
    rw [← triples_eq_specTable (by simp)] at e1
    have hacc := (accumulate_eq_some_iff (B := B) hP1 hP hprobs).mpr ⟨hv, _, takeSyms_rep () _, e1⟩
    refine ⟨{ tbl := tbl', cdf := (extOf (fullTable P probs infer)).dropLast ++ [wrappingPow2 B P] }, ?_⟩
    unfold Lookup.fromNonzeroFixedPoint
    rw [hacc]

end CV.Cat
