import CV.Proofs.ChainStep
import CV.Proofs.Chunks
/-!
# Chain coder: constructors and exporters

The fuel of the exporters' `while` loops is always sufficient (`drain_unfold`, `W ≥ 1`).
`ChainCoderHeads::new` is specified once for the three constructors (`headsNew_spec`); they
establish the invariant on *any* word list (C10) and are undone by the exporters (C13).
-/
namespace CV.Chain

theorem shr_lt_self {W r : Nat} (hW : 1 ≤ W) (hr : r ≠ 0) : r >>> W < r := by
  rw [shr_eq]
  apply Nat.div_lt_self (by omega)
  calc 1 < 2^1 := by decide
    _ ≤ 2^W := pow_le_pow2 hW

theorem drainGo_fuel_irrel {W lim : Nat} (hW : 1 ≤ W) :
    ∀ (f1 f2 r : Nat) (st : List Nat), r ≤ f1 → r ≤ f2 →
      drainGo W lim f1 r st = drainGo W lim f2 r st := by
  intro f1
  induction f1 with
  | zero => intro f2 r st h1 _; cases Nat.le_zero.mp h1; cases f2 <;> simp [drainGo]
  | succ n ih =>
    intro f2 r st h1 h2
    cases f2 with
    | zero => cases Nat.le_zero.mp h2; simp [drainGo]
    | succ k =>
      simp only [drainGo]
      split
      · rfl
      · have := shr_lt_self hW (r := r) (by omega)
        exact ih k _ _ (by omega) (by omega)

theorem drain_unfold {W : Nat} (hW : 1 ≤ W) (lim r : Nat) (st : List Nat) :
    drain W lim r st =
      if r ≤ lim then .ok (r, st) else drain W lim (r >>> W) (narrow W r :: st) := by
  unfold drain
  cases r with
  | zero => simp [drainGo]
  | succ k =>
    simp only [drainGo]
    split
    · rfl
    · exact drainGo_fuel_irrel hW _ _ _ _
        (Nat.le_of_lt_succ (shr_lt_self hW (Nat.succ_ne_zero k))) (Nat.le_refl _)

theorem drain_ok {W : Nat} (hW : 1 ≤ W) (lim : Nat) :
    ∀ (r : Nat), ∃ z F, ∀ st, drain W lim r st = .ok (z, F ++ st) := by
  intro r
  induction r using Nat.strongRecOn with
  | _ r ih =>
    by_cases hl : r ≤ lim
    · exact ⟨r, [], fun st => by rw [drain_unfold hW, if_pos hl]; rfl⟩
    · obtain ⟨z, F, hd⟩ := ih (r >>> W) (shr_lt_self hW (by omega))
      refine ⟨z, F ++ [narrow W r], fun st => ?_⟩
      rw [drain_unfold hW, if_neg hl, hd]
      simp

/-! ## the loop of `ChainCoderHeads::new` -/

theorem fillLoop_ge {c : Cfg} {thr h : Nat} (hge : ¬ h < thr) (src : List Nat) :
    fillLoop c thr h src = some (h, src) := by
  cases src <;> simp [fillLoop, hge]

/-- `fillLoop` from head `h` over `src` ended with head `h'`, leaving `rest`: it moved words `D`
    below the head until it reached `thr`, overshooting by less than a word; draining the head
    puts exactly `D` back -/
def Filled (c : Cfg) (thr h : Nat) (src : List Nat) (h' : Nat) (rest : List Nat) : Prop :=
  thr ≤ h' ∧ Words c.W rest ∧
  ∃ D, src = D ++ rest ∧ (D = [] ∧ h' = h ∨ h' < thr * 2^c.W) ∧
    (∃ v, h' = h * 2^(c.W * D.length) + v ∧ v < 2^(c.W * D.length)) ∧
    ∀ lim st, lim < 2^c.W → drain c.W lim h' st = drain c.W lim h (D ++ st)

theorem Filled.stop {c : Cfg} {thr h : Nat} {src : List Nat} (hws : Words c.W src)
    (hlt : ¬ h < thr) : Filled c thr h src h src :=
  ⟨Nat.le_of_not_lt hlt, hws, [], rfl, .inl ⟨rfl, rfl⟩, ⟨0, by simp, by simp⟩, fun _ _ _ => rfl⟩

theorem fillLoop_spec {c : Cfg} {thr : Nat} (hW : 1 ≤ c.W)
    (hthr : thr * 2^c.W ≤ 2^c.S) :
    ∀ (src : List Nat) (h : Nat), Words c.W src → 1 ≤ h →
      ∀ h' rest, fillLoop c thr h src = some (h', rest) → Filled c thr h src h' rest := by
  intro src
  induction src with
  | nil =>
    intro h hws hh h' rest hfl
    by_cases hlt : h < thr
    · simp [fillLoop, hlt] at hfl
    · rw [fillLoop_ge hlt] at hfl
      cases hfl
      exact .stop hws hlt
  | cons w src ih =>
    intro h hws hh h' rest hfl
    by_cases hlt : h < thr
    · have hwlt := hws.head
      have hup : h * 2^c.W + w < thr * 2^c.W := mul_add_lt_mul hlt hwlt
      have e : shlT c.S h c.W ||| w = h * 2^c.W + w :=
        shlT_or (Nat.lt_of_le_of_lt (Nat.le_add_right _ w) (Nat.lt_of_lt_of_le hup hthr)) hwlt
      simp only [fillLoop, hlt, if_true, e] at hfl
      have h1ge : 2^c.W ≤ h * 2^c.W + w := le_mul_add_of_pos hh _ _
      obtain ⟨hge, hwr, D, hD, hub, ⟨v, hv, hvlt⟩, hdr⟩ :=
        ih _ hws.tail (Nat.le_trans (Nat.two_pow_pos _) h1ge) h' rest hfl
      refine ⟨hge, hwr, w :: D, by rw [hD]; rfl, .inr ?_, ?_, fun lim st hlim => ?_⟩
      · rcases hub with ⟨_, rfl⟩ | hub
        · exact hup
        · exact hub
      · -- `(h * 2^W + w) * 2^(W |D|) + v = h * 2^(W (|D|+1)) + (w * 2^(W |D|) + v)`
        refine ⟨w * 2^(c.W * D.length) + v, ?_, ?_⟩
        · rw [hv, List.length_cons, Nat.mul_succ, Nat.pow_add, Nat.add_mul, Nat.mul_assoc,
            Nat.mul_comm (2^c.W), Nat.add_assoc]
        · rw [List.length_cons, Nat.mul_succ, Nat.pow_add, Nat.mul_comm (2^(c.W * D.length))]
          exact mul_add_lt_mul hwlt hvlt
      · rw [hdr lim st hlim, drain_unfold hW lim (h * 2^c.W + w),
          if_neg (Nat.not_le.mpr (Nat.lt_of_lt_of_le hlim h1ge))]
        simp [shr_eq, narrow, mul_add_div_of_lt hwlt, mul_add_mod_of_lt hwlt]
    · rw [fillLoop_ge hlt] at hfl
      cases hfl
      exact .stop hws hlt

/-- what `ChainCoderHeads::new` establishes: heads `hs` built from the start head `h0` over the
    words `src0`, leaving `rest` -/
structure HeadsBuilt (c : Cfg) (h0 : Nat) (src0 : List Nat) (hs : Heads) (rest : List Nat) :
    Prop where
  start_pos : 1 ≤ h0
  start_lt : h0 < 2^c.W
  compressed : hs.compressed = 1
  rem_lo : 2^(c.S - c.W - c.P) ≤ hs.remainders
  rem_hi : hs.remainders < 2^(c.S - c.P)
  rest_words : Words c.W rest
  /-- the words `D` moved into the remainders head: value, number, and draining puts them back -/
  taken : ∃ D, src0 = D ++ rest ∧
    (∃ v, hs.remainders = h0 * 2^(c.W * D.length) + v ∧ v < 2^(c.W * D.length)) ∧
    (D.length ≠ 0 → c.W * (D.length - 1) < c.S - c.W - c.P) ∧
    ∀ lim st, lim < 2^c.W → drain c.W lim hs.remainders st = drain c.W lim h0 (D ++ st)

/-- **`ChainCoderHeads::new`**, for all three constructors: the start head is the pushed `1`,
    or the first word, which must not be zero. -/
theorem headsNew_spec {c : Cfg} (hv : PrecOk c.W c.S c.P) {src : List Nat} (hd : Words c.W src)
    {pushOne : Bool} {hs : Heads} {rest : List Nat}
    (h : headsNew c src pushOne = some (hs, rest)) :
    ∃ h0 src0, (if pushOne then h0 = 1 ∧ src0 = src else src = h0 :: src0) ∧
      HeadsBuilt c h0 src0 hs rest := by
  have hW := hv.W_pos
  obtain ⟨h0, src0, hstart, h01, h0W, hw0, hc1, hfl⟩ : ∃ h0 src0,
      (if pushOne then h0 = 1 ∧ src0 = src else src = h0 :: src0) ∧
      1 ≤ h0 ∧ h0 < 2^c.W ∧ Words c.W src0 ∧ hs.compressed = 1 ∧
      fillLoop c (2^(c.S - c.W - c.P)) h0 src0 = some (hs.remainders, rest) := by
    unfold headsNew at h
    rw [hv.thr] at h
    cases pushOne with
    | true =>
      cases hfl : fillLoop c (2^(c.S - c.W - c.P)) 1 src with
      | none => simp [hfl] at h
      | some p =>
        simp only [if_true, hfl, Option.some.injEq, Prod.mk.injEq] at h
        obtain ⟨rfl, rfl⟩ := h
        exact ⟨1, src, ⟨rfl, rfl⟩, Nat.le_refl 1, Nat.one_lt_two_pow (Nat.ne_of_gt hW), hd, rfl, hfl⟩
    | false =>
      cases src with
      | nil => simp at h
      | cons w0 src0 =>
        by_cases hw0 : w0 = 0
        · simp [hw0] at h
        · cases hfl : fillLoop c (2^(c.S - c.W - c.P)) w0 src0 with
          | none => simp [hw0, hfl] at h
          | some p =>
            simp only [Bool.false_eq_true, if_false, ne_eq, hw0, not_false_eq_true, if_true, hfl,
              Option.some.injEq, Prod.mk.injEq] at h
            obtain ⟨rfl, rfl⟩ := h
            exact ⟨w0, src0, rfl, Nat.pos_of_ne_zero hw0, hd.head, hd.tail, rfl, hfl⟩
  obtain ⟨hge, hwr, D, hD, hub, ⟨v, hval, hvlt⟩, hdr⟩ :=
    fillLoop_spec hW (by rw [← hv.window]; exact pow_le_pow2 (Nat.sub_le _ _)) src0 h0 hw0 h01 _ rest
      hfl
  refine ⟨h0, src0, hstart, h01, h0W, hc1, hge, ?_, hwr, D, hD, ⟨v, hval, hvlt⟩,
    fun hne => ?_, hdr⟩
  · rcases hub with ⟨_, hr⟩ | hub
    · -- nothing was read: the head is the start head, one word
      rw [hr]; exact Nat.lt_of_lt_of_le h0W (pow_le_pow2 (Nat.le_sub_of_add_le hv.2.2))
    · rw [hv.window]; exact hub
  · -- something was read, so `2^(W |D|) ≤ h0 * 2^(W |D|) ≤ r < 2^(k + W)`
    have hub := hub.resolve_left fun h => hne (by rw [h.1]; rfl)
    rw [← Nat.pow_add] at hub
    have hlo : 2^(c.W * D.length) ≤ hs.remainders :=
      hval ▸ Nat.le_trans (Nat.le_mul_of_pos_left _ h01) (Nat.le_add_right _ _)
    have := lt_of_pow_le_lt hlo hub
    have e : c.W * D.length = c.W * (D.length - 1) + c.W := by
      rw [← Nat.mul_succ, Nat.succ_eq_add_one, Nat.sub_add_cancel (Nat.pos_of_ne_zero hne)]
    omega

theorem heads_of_data {c : Cfg} {data : List Nat} {b : Bool} {x : Coder}
    (h : (match headsNew c data b with
      | none => none
      | some (hs, rest) => some { compressed := rest, remainders := [], heads := hs }) = some x) :
    headsNew c data b = some (x.heads, x.compressed) ∧ x.remainders = [] := by
  split at h
  · cases h
  · next hn => cases h; exact ⟨hn, rfl⟩

/-- `from_binary` takes exactly `⌈(S-W-P)/W⌉` words `D`; `into_binary` turns the heads back into
    `D`, whatever has been pushed onto the compressed stack in between. -/
theorem fromBinary_spec {c : Cfg} (hv : PrecOk c.W c.S c.P) {data : List Nat} (hd : Words c.W data)
    {x : Coder} (h : fromBinary c data = some x) :
    Inv c x ∧ x.remainders = [] ∧ x.heads.compressed = 1 ∧
    ∃ D, data = D ++ x.compressed ∧
      (c.S - c.W - c.P ≤ c.W * D.length ∧
        (D.length ≠ 0 → c.W * (D.length - 1) < c.S - c.W - c.P)) ∧
      ∀ K R, intoBinary c { compressed := K, remainders := R, heads := x.heads }
        = .ok (R, D ++ K) := by
  obtain ⟨hn, hrem⟩ := heads_of_data (b := true) h
  obtain ⟨h0, src0, hstart, hb⟩ := headsNew_spec hv hd hn
  obtain ⟨rfl, rfl⟩ : h0 = 1 ∧ src0 = data := by simpa using hstart
  obtain ⟨D, hD, ⟨v, hval, hvlt⟩, hcount, hdr⟩ := hb.taken
  have hc1 := hb.compressed
  have hge := hb.rem_lo
  have hW := hv.W_pos
  have hWpos : 1 < 2^c.W := Nat.one_lt_two_pow (Nat.ne_of_gt hW)
  rw [Nat.one_mul] at hval
  refine ⟨⟨⟨Nat.le_of_eq hc1.symm, by rw [hc1]; exact hWpos, hge, hb.rem_hi⟩, hb.rest_words,
    hrem ▸ Words.nil⟩, hrem, hc1, D, hD, ⟨?_, hcount⟩, fun K R => ?_⟩
  · have : x.heads.remainders < 2^(c.W * D.length + 1) := by rw [Nat.pow_succ]; omega
    have := lt_of_pow_le_lt hge this
    omega
  · have hbl : bitlen x.heads.remainders = c.W * D.length + 1 := by
      rw [hval]; exact bitlen_pow_add hvlt
    have hdrain : drain c.W 1 x.heads.remainders K = .ok (1, D ++ K) := by
      rw [hdr 1 K hWpos, drain_unfold hW, if_pos (Nat.le_refl 1)]
    simp [intoBinary, hc1, hbl, csub, hdrain]

/-- `from_compressed` likewise; it takes at least one and at most `1 + ⌈(S-W-P)/W⌉` words -/
theorem fromCompressed_spec {c : Cfg} (hv : PrecOk c.W c.S c.P) {data : List Nat} (hd : Words c.W data)
    {x : Coder} (h : fromCompressed c data = some x) :
    Inv c x ∧ x.remainders = [] ∧ x.heads.compressed = 1 ∧
    ∃ D, data = D ++ x.compressed ∧
      (1 ≤ D.length ∧ (2 ≤ D.length → c.W * (D.length - 2) < c.S - c.W - c.P)) ∧
      ∀ K R, intoCompressed c { compressed := K, remainders := R, heads := x.heads }
        = .ok (R, D ++ K) := by
  obtain ⟨hn, hrem⟩ := heads_of_data (b := false) h
  obtain ⟨w0, src0, hstart, hb⟩ := headsNew_spec hv hd hn
  have hstart : data = w0 :: src0 := by simpa using hstart
  obtain ⟨D, hD, _, hcount, hdr⟩ := hb.taken
  have hc1 := hb.compressed
  have hW := hv.W_pos
  have hWpos : 1 < 2^c.W := Nat.one_lt_two_pow (Nat.ne_of_gt hW)
  refine ⟨⟨⟨Nat.le_of_eq hc1.symm, by rw [hc1]; exact hWpos, hb.rem_lo, hb.rem_hi⟩,
    hb.rest_words, hrem ▸ Words.nil⟩, hrem, hc1, w0 :: D, by rw [hstart, hD]; rfl,
    ⟨by simp, fun h2 => ?_⟩, fun K R => ?_⟩
  · simp only [List.length_cons] at h2 ⊢
    exact hcount (Nat.ne_of_gt (Nat.le_of_succ_le_succ h2))
  · have hdrain : drain c.W 0 x.heads.remainders K = .ok (0, w0 :: D ++ K) := by
      rw [hdr 0 K (Nat.two_pow_pos _), drain_unfold hW, if_neg (Nat.not_le.mpr hb.start_pos),
        shr_eq, Nat.div_eq_of_lt hb.start_lt, narrow_of_lt hb.start_lt, drain_unfold hW,
        if_pos (Nat.le_refl 0)]
      rfl
    simp [intoCompressed, hc1, hdrain]

theorem fromRemainders_inv {c : Cfg} (hv : PrecOk c.W c.S c.P) {rems : List Nat}
    (hd : Words c.W rems) {x : Coder} (h : fromRemainders c rems = some x) :
    Inv c x := by
  cases rems with
  | nil => simp [fromRemainders] at h
  | cons w rest =>
    by_cases hw : w = 0
    · simp [fromRemainders, hw] at h
    · simp only [fromRemainders, hw, if_false] at h
      cases hn : headsNew c rest false with
      | none => simp [hn] at h
      | some p =>
        obtain ⟨hs, rest'⟩ := p
        simp only [hn, Option.some.injEq] at h
        subst h
        obtain ⟨_, _, _, hb⟩ := headsNew_spec hv hd.tail hn
        exact ⟨⟨Nat.pos_of_ne_zero hw, hd.head, hb.rem_lo, hb.rem_hi⟩, Words.nil, hb.rest_words⟩

theorem constructors_inv {c : Cfg} (hv : PrecOk c.W c.S c.P) {ws : List Nat} (hws : Words c.W ws) :
    (∀ x, fromBinary c ws = some x → Inv c x) ∧
    (∀ x, fromCompressed c ws = some x → Inv c x) ∧
    (∀ x, fromRemainders c ws = some x → Inv c x) :=
  ⟨fun _ h => (fromBinary_spec hv hws h).1, fun _ h => (fromCompressed_spec hv hws h).1,
    fun _ h => fromRemainders_inv hv hws h⟩

/-- what `drain … 0` pushes starts with a non-zero word, and reading it back up to a threshold
    above `r >> W` is the same as starting from the drained value -/
theorem drain_refill {c : Cfg} {thr : Nat} (hW : 1 ≤ c.W) :
    ∀ (r : Nat) (st : List Nat) (z : Nat) (res : List Nat),
      drain c.W 0 r st = .ok (z, res) → r ≠ 0 → r < 2^c.S → r >>> c.W < thr →
      ∃ f0 rest, res = f0 :: rest ∧ f0 ≠ 0 ∧ fillLoop c thr f0 rest = fillLoop c thr r st := by
  intro r
  induction r using Nat.strongRecOn with
  | _ r ih =>
    intro st z res hdr hr hrS hsh
    rw [drain_unfold hW, if_neg (by omega)] at hdr
    by_cases h0 : r >>> c.W = 0
    · rw [h0, drain_unfold hW, if_pos (Nat.le_refl 0)] at hdr
      cases hdr
      have : r < 2^c.W := by
        rw [shr_eq] at h0; exact (Nat.div_eq_zero_iff_lt (Nat.two_pow_pos _)).mp h0
      exact ⟨_, st, rfl, by rwa [narrow_of_lt this], by rw [narrow_of_lt this]⟩
    · have hle : r >>> c.W ≤ r := by rw [shr_eq]; exact Nat.div_le_self _ _
      have hle2 : r >>> c.W >>> c.W ≤ r >>> c.W := by
        rw [shr_eq (r >>> c.W)]; exact Nat.div_le_self _ _
      obtain ⟨f0, rest, hres, hf0, hfill⟩ := ih _ (shr_lt_self hW hr) _ _ _ hdr h0
        (Nat.lt_of_le_of_lt hle hrS) (Nat.lt_of_le_of_lt hle2 hsh)
      refine ⟨f0, rest, hres, hf0, ?_⟩
      have e : shlT c.S (r >>> c.W) c.W ||| narrow c.W r = r := by
        rw [shr_eq, narrow, shlT_or (Nat.lt_of_le_of_lt (Nat.div_mul_le_self _ _) hrS)
          (Nat.mod_lt _ (Nat.two_pow_pos _))]
        exact div_mul_add_mod _ _
      rw [hfill, fillLoop, if_pos hsh, e]

/-- `from_remainders(into_remainders(x)) = x` up to the (emptied) compressed stack, also when
    further words `T` (e.g. the unused prefix) lie below the exported suffix. -/
theorem intoRemainders_spec {c : Cfg} (hv : PrecOk c.W c.S c.P) {x : Coder} (hx : Inv c x) :
    ∃ F, intoRemainders c x = .ok (x.compressed, x.heads.compressed :: (F ++ x.remainders)) ∧
      ∀ T, fromRemainders c (x.heads.compressed :: (F ++ x.remainders ++ T))
        = some { compressed := [], remainders := x.remainders ++ T, heads := x.heads } := by
  have hW := hv.W_pos
  have ethr := hv.thr
  have hr0 := hx.rem_ne_zero
  obtain ⟨⟨hc1, hc2, hr1, hr2⟩, hwc, hwr⟩ := hx
  obtain ⟨z, F, hd⟩ := drain_ok hW 0 x.heads.remainders
  refine ⟨F, by simp [intoRemainders, hd], ?_⟩
  intro T
  have hdT := hd (x.remainders ++ T)
  have hsh : x.heads.remainders >>> c.W < 2^(c.S - c.W - c.P) := by
    rw [shr_eq]; apply Nat.div_lt_of_lt_mul; rw [Nat.mul_comm, ← hv.window]; exact hr2
  obtain ⟨f0, rest, hres, hf0, hfill⟩ := drain_refill hW _ _ _ _ hdT hr0
    (Nat.lt_of_lt_of_le hr2 (pow_le_pow2 (Nat.sub_le _ _))) hsh
  rw [fillLoop_ge (Nat.not_lt.mpr hr1)] at hfill
  have hc0 : x.heads.compressed ≠ 0 := Nat.ne_of_gt hc1
  have hassoc : F ++ x.remainders ++ T = f0 :: rest := by rw [List.append_assoc]; exact hres
  simp [fromRemainders, hc0, hassoc, headsNew, ethr, hf0, hfill]

theorem intoRemainders_no_fault {c : Cfg} (hW : 1 ≤ c.W) (x : Coder) :
    ∃ r, intoRemainders c x = .ok r := by
  obtain ⟨z, F, hd⟩ := drain_ok hW 0 x.heads.remainders
  exact ⟨(x.compressed, x.heads.compressed :: (F ++ x.remainders)), by simp [intoRemainders, hd]⟩

theorem intoCompressed_no_fault {c : Cfg} (hW : 1 ≤ c.W) (x : Coder) :
    intoCompressed c x = .error .notWhole ∨ ∃ r, intoCompressed c x = .ok r := by
  obtain ⟨z, F, hd⟩ := drain_ok hW 0 x.heads.remainders
  by_cases h1 : x.heads.compressed = 1
  · right; exact ⟨(x.remainders, F ++ x.compressed), by simp [intoCompressed, h1, hd]⟩
  · left; simp [intoCompressed, h1]

theorem drain_one {W : Nat} (hW : 1 ≤ W) :
    ∀ (k r : Nat), 2^(k * W) ≤ r → r < 2^(k * W + 1) →
      ∃ F, ∀ st, drain W 1 r st = .ok (1, F ++ st) := by
  intro k
  induction k with
  | zero =>
    intro r h1 h2
    simp at h1 h2
    have : r = 1 := by omega
    subst this
    exact ⟨[], fun st => by rw [drain_unfold hW, if_pos (Nat.le_refl 1)]; rfl⟩
  | succ k ih =>
    intro r h1 h2
    have hbig : ¬ r ≤ 1 := Nat.not_le.mpr (Nat.lt_of_lt_of_le
      (Nat.one_lt_two_pow (Nat.mul_ne_zero (Nat.succ_ne_zero k) (Nat.ne_of_gt hW))) h1)
    have hlo : 2^(k * W) ≤ r >>> W := by
      rw [shr_eq, Nat.le_div_iff_mul_le (Nat.two_pow_pos _), ← Nat.pow_add, ← Nat.succ_mul]; exact h1
    have hhi : r >>> W < 2^(k * W + 1) := by
      rw [shr_eq, Nat.div_lt_iff_lt_mul (Nat.two_pow_pos _), ← Nat.pow_add, Nat.add_right_comm,
        ← Nat.succ_mul]
      exact h2
    obtain ⟨F, hF⟩ := ih _ hlo hhi
    refine ⟨F ++ [narrow W r], fun st => ?_⟩
    rw [drain_unfold hW, if_neg hbig, hF]
    simp

theorem intoBinary_no_fault {c : Cfg} (hW : 1 ≤ c.W) {x : Coder} (hr : x.heads.remainders ≠ 0) :
    intoBinary c x = .error .notWhole ∨ ∃ r, intoBinary c x = .ok r := by
  by_cases h1 : x.heads.compressed = 1
  · have hbl : bitlen x.heads.remainders = Nat.log2 x.heads.remainders + 1 := by
      simp [bitlen, hr]
    by_cases hmod : Nat.log2 x.heads.remainders % c.W = 0
    · right
      obtain ⟨k, hk⟩ : ∃ k, Nat.log2 x.heads.remainders = k * c.W :=
        ⟨_, (Nat.div_mul_cancel (Nat.dvd_of_mod_eq_zero hmod)).symm⟩
      have hb := (Nat.log2_eq_iff hr).mp hk
      obtain ⟨F, hF⟩ := drain_one hW k _ hb.1 hb.2
      exact ⟨(x.remainders, F ++ x.compressed), by simp [intoBinary, h1, hbl, csub, hmod, hF]⟩
    · left
      simp [intoBinary, h1, hbl, csub, hmod]
  · left; simp [intoBinary, h1]

end CV.Chain
