import CV.Model.Backend
/-!
# Spec of a cursor: a list zipper, and the simulation lemma

`Z.stk` = the words `Stack` reads will return (next one first), `Z.ahd` = the words `Queue`
reads will return / the cells writes will overwrite (next one first).  A `Cursor` whose
invariant `pos ≤ len` holds *is* `Cursor.ofZ z` for exactly one `z`; a `Reverse<Cursor>` is
the same zipper stored mirrored (`RevCursor.ofZ`).  `step_ofZ`: every trait method of both
implementations computes `Z.step`.
-/
namespace CV.Backend

structure Z where
  stk : List Nat
  ahd : List Nat
  deriving Repr, DecidableEq

namespace Z

def swap (z : Z) : Z := ⟨z.ahd, z.stk⟩

def extend : Z → List Nat → Out × Z
  | z, [] => (.ok, z)
  | z, w :: ws =>
    match z.ahd with
    | [] => (.extFull ws.length, z)
    | _ :: ah => extend ⟨w :: z.stk, ah⟩ ws

def step (writable : Bool) (z : Z) : Op → Out × Z
  | .readS =>
    match z.stk with
    | [] => (.word none, z)
    | a :: st => (.word (some a), ⟨st, a :: z.ahd⟩)
  | .readQ =>
    match z.ahd with
    | [] => (.word none, z)
    | a :: ah => (.word (some a), ⟨a :: z.stk, ah⟩)
  | .write w =>
    if writable then
      match z.ahd with
      | [] => (.full, z)
      | _ :: ah => (.ok, ⟨w :: z.stk, ah⟩)
    else (.unsupported, z)
  | .extend ws => if writable then extend z ws else (.unsupported, z)
  | .remS => (.num z.stk.length, z)
  | .remQ => (.num z.ahd.length, z)
  | .exhS => (.bools (z.stk.length == 0) (z.stk.length == 0), z)
  | .exhQ => (.bools (z.ahd.length == 0) (z.ahd.length == 0), z)
  | .spaceLeft => if writable then (.num z.ahd.length, z) else (.unsupported, z)
  | .full => if writable then (.bools (z.ahd.length == 0) true, z) else (.unsupported, z)
  | .intoReversed => if writable then (.ok, z) else (.unsupported, z)
  | .roundtrip => (.ok, z)
  | _ => (.unsupported, z)

def run (writable : Bool) : Z → List Op → List Out × Z
  | z, [] => ([], z)
  | z, op :: ops => ((step writable z op).1 :: (run writable (step writable z op).2 ops).1,
                     (run writable (step writable z op).2 ops).2)

end Z

/-- "symmetric" ops: their result does not reveal the storage direction
    (`pos`, `seek`, `raw` do, by design; `bm_set` is not a trait method) -/
def Op.Sym : Op → Bool
  | .pos | .seek _ | .raw | .bmSet _ => false
  | _ => true

def Cursor.ofZ (z : Z) : Cursor := ⟨z.stk.reverse ++ z.ahd, z.stk.length⟩
def RevCursor.ofZ (z : Z) : RevCursor := ⟨Cursor.ofZ z.swap⟩

/-- `rev = false`: a `Cursor`; `rev = true`: a `Reverse<Cursor>` -/
def Cur.ofZ (rev : Bool) (z : Z) : Cur :=
  if rev then .rev (RevCursor.ofZ z) else .fwd (Cursor.ofZ z)

def flipOn (writable : Bool) (op : Op) (rev : Bool) : Bool :=
  match op with
  | .intoReversed => if writable then !rev else rev
  | _ => rev

instance (s : Cur) : Decidable s.Inv := inferInstanceAs (Decidable s.inner.Inv)

theorem Cursor.ofZ_inv (z : Z) : (Cursor.ofZ z).Inv := by
  simp [Cursor.ofZ, Cursor.Inv]

theorem Cur.ofZ_inv (rev : Bool) (z : Z) : (Cur.ofZ rev z).Inv := by
  cases rev <;> simp [Cur.ofZ, Cur.Inv, Cur.inner, RevCursor.ofZ, Cursor.ofZ_inv]

/-- words a `Stack` read sequence returns, next first -/
def Cur.stackView : Cur → List Nat
  | .fwd c => (c.buf.take c.pos).reverse
  | .rev r => r.inner.buf.drop r.inner.pos
/-- words a `Queue` read sequence returns, next first -/
def Cur.queueView : Cur → List Nat
  | .fwd c => c.buf.drop c.pos
  | .rev r => (r.inner.buf.take r.inner.pos).reverse

def Cursor.toZ (c : Cursor) : Z := ⟨(Cur.fwd c).stackView, (Cur.fwd c).queueView⟩

theorem Cur.views_ofZ (rev : Bool) (z : Z) :
    (Cur.ofZ rev z).stackView = z.stk ∧ (Cur.ofZ rev z).queueView = z.ahd := by
  cases rev <;> simp [Cur.ofZ, Cur.stackView, Cur.queueView, Cursor.ofZ, RevCursor.ofZ, Z.swap]

theorem Cursor.ofZ_toZ (c : Cursor) (h : c.Inv) : Cursor.ofZ c.toZ = c := by
  cases c with
  | mk buf pos =>
    simp only [Cursor.Inv] at h
    simp [Cursor.ofZ, Cursor.toZ, Cur.stackView, Cur.queueView, List.take_append_drop,
      Nat.min_eq_left h]

theorem RevCursor.exists_ofZ (r : RevCursor) (h : r.inner.Inv) : ∃ z, r = RevCursor.ofZ z :=
  ⟨r.inner.toZ.swap, congrArg RevCursor.mk (Cursor.ofZ_toZ r.inner h).symm⟩

theorem Cur.exists_ofZ (s : Cur) (h : s.Inv) : ∃ rev z, s = Cur.ofZ rev z := by
  cases s with
  | fwd c => exact ⟨false, c.toZ, congrArg Cur.fwd (Cursor.ofZ_toZ c h).symm⟩
  | rev r =>
    obtain ⟨z, rfl⟩ := r.exists_ofZ h
    exact ⟨true, z, rfl⟩

theorem Cursor.readStack_ofZ (z : Z) :
    (Cursor.ofZ z).readStack =
      match z.stk with
      | [] => .ok (none, Cursor.ofZ z)
      | a :: st => .ok (some a, Cursor.ofZ ⟨st, a :: z.ahd⟩) := by
  obtain ⟨stk, ahd⟩ := z
  cases stk <;> simp [Cursor.ofZ, Cursor.readStack]

theorem Cursor.readQueue_ofZ (z : Z) :
    (Cursor.ofZ z).readQueue =
      match z.ahd with
      | [] => (none, Cursor.ofZ z)
      | a :: ah => (some a, Cursor.ofZ ⟨a :: z.stk, ah⟩) := by
  obtain ⟨stk, ahd⟩ := z
  cases ahd <;> simp [Cursor.ofZ, Cursor.readQueue]

theorem Cursor.write_ofZ (z : Z) (w : Nat) :
    (Cursor.ofZ z).write w =
      match z.ahd with
      | [] => .error .outOfSpace
      | _ :: ah => .ok (Cursor.ofZ ⟨w :: z.stk, ah⟩) := by
  obtain ⟨stk, ahd⟩ := z
  cases ahd <;> simp [Cursor.ofZ, Cursor.write, List.set_append_right]

theorem RevCursor.write_ofZ (z : Z) (w : Nat) :
    (RevCursor.ofZ z).write w =
      match z.ahd with
      | [] => .error .outOfSpace
      | _ :: ah => .ok (RevCursor.ofZ ⟨w :: z.stk, ah⟩) := by
  obtain ⟨stk, ahd⟩ := z
  cases ahd <;> simp [RevCursor.ofZ, Cursor.ofZ, Z.swap, RevCursor.write, List.set_append_right]

theorem RevCursor.readStack_ofZ (z : Z) :
    (RevCursor.ofZ z).readStack =
      match z.stk with
      | [] => (none, RevCursor.ofZ z)
      | a :: st => (some a, RevCursor.ofZ ⟨st, a :: z.ahd⟩) := by
  obtain ⟨stk, ahd⟩ := z
  simp only [RevCursor.readStack, RevCursor.ofZ, Cursor.readQueue_ofZ]
  cases stk <;> rfl

/-- `space_left`, `Queue`-`remaining`, `into_reversed` all compute this `len - pos` -/
theorem Cursor.len_sub_pos_ofZ (site : String) (z : Z) :
    csub site (Cursor.ofZ z).buf.length (Cursor.ofZ z).pos = .ok z.ahd.length := by
  simp [Cursor.ofZ, csub]

theorem Cursor.intoReversed_ofZ (z : Z) :
    (Cursor.ofZ z).intoReversed = .ok (RevCursor.ofZ z) := by
  rw [Cursor.intoReversed, Cursor.len_sub_pos_ofZ]
  simp [Cursor.ofZ, RevCursor.ofZ, Z.swap]

theorem RevCursor.intoReversed_ofZ (z : Z) :
    (RevCursor.ofZ z).intoReversed = .ok (Cursor.ofZ z) := by
  simp [RevCursor.intoReversed, RevCursor.ofZ, Cursor.intoReversed_ofZ, Z.swap]

theorem Cursor.newAtPos_ofZ (z : Z) :
    Cursor.newAtPos (Cursor.ofZ z).buf (Cursor.ofZ z).pos = some (Cursor.ofZ z) := by
  simp [Cursor.newAtPos, Cursor.ofZ]

theorem extendLoop_ofZ {σ : Type} (write : σ → Nat → Except WErr σ) (ofZ : Z → σ)
    (hw : ∀ z w, write (ofZ z) w =
      match z.ahd with
      | [] => .error .outOfSpace
      | _ :: ah => .ok (ofZ ⟨w :: z.stk, ah⟩))
    (ws : List Nat) : ∀ z : Z,
    extendLoop write (ofZ z) ws = .ok ((Z.extend z ws).1, ofZ (Z.extend z ws).2) := by
  induction ws with
  | nil =>
    intro z
    rfl
  | cons w ws ih =>
    intro ⟨stk, ahd⟩
    cases ahd with
    | nil =>
      simp only [extendLoop, hw]
      rfl
    | cons a ah =>
      simp only [extendLoop, hw, ih]
      rfl

/-- every direction-independent method of a `Cursor` under its invariant computes the zipper step
    and never faults (`unfold` + `simp only`: `simp [Cur.step]` first generates 32 equation lemmas) -/
theorem Cur.step_ofZ_fwd (wr : Bool) (z : Z) (op : Op) (hs : op.Sym = true) :
    Cur.step wr (.fwd (Cursor.ofZ z)) op =
      .ok ((Z.step wr z op).1, Cur.ofZ (flipOn wr op false) (Z.step wr z op).2) := by
  obtain ⟨stk, ahd⟩ := z
  unfold Cur.step
  cases op with
  | readS =>
    simp only [Cursor.readStack_ofZ]
    cases stk <;> rfl
  | readQ =>
    simp only [Cursor.readQueue_ofZ]
    cases ahd <;> rfl
  | write w =>
    simp only [Cursor.write_ofZ]
    cases wr <;> cases ahd <;> rfl
  | extend ws =>
    simp only [extendLoop_ofZ Cursor.write Cursor.ofZ Cursor.write_ofZ]
    cases wr <;> rfl
  | remS => rfl
  | remQ =>
    simp only [Cursor.remainingQueue, Cursor.len_sub_pos_ofZ]
    rfl
  | exhS => rfl
  | exhQ =>
    simp only [Cursor.isExhaustedQueue, Cursor.remainingQueue, Cursor.len_sub_pos_ofZ]
    rfl
  | spaceLeft =>
    simp only [Cursor.spaceLeft, Cursor.len_sub_pos_ofZ]
    cases wr <;> rfl
  | full =>
    simp only [Cursor.isFull, Cursor.spaceLeft, Cursor.len_sub_pos_ofZ]
    cases wr <;> rfl
  | intoReversed =>
    simp only [Cursor.intoReversed_ofZ]
    cases wr <;> rfl
  | roundtrip =>
    simp only [Cursor.newAtPos_ofZ]
    rfl
  | pos | seek _ | raw | bmSet _ => cases hs

/-- the same for a `Reverse<Cursor>`: `RevCursor.ofZ z` is `⟨Cursor.ofZ z.swap⟩` and `Reverse` hands each
    read and each `remaining` to the inner cursor's method of the other semantics (the facts at `z.swap`) -/
theorem Cur.step_ofZ_rev (wr : Bool) (z : Z) (op : Op) (hs : op.Sym = true) :
    Cur.step wr (.rev (RevCursor.ofZ z)) op =
      .ok ((Z.step wr z op).1, Cur.ofZ (flipOn wr op true) (Z.step wr z op).2) := by
  obtain ⟨stk, ahd⟩ := z
  unfold Cur.step
  cases op with
  | readS =>
    simp only [RevCursor.readStack_ofZ]
    cases stk <;> rfl
  | readQ =>
    simp only [RevCursor.readQueue, RevCursor.ofZ, Cursor.readStack_ofZ]
    cases ahd <;> rfl
  | write w =>
    simp only [RevCursor.write_ofZ]
    cases wr <;> cases ahd <;> rfl
  | extend ws =>
    simp only [extendLoop_ofZ RevCursor.write RevCursor.ofZ RevCursor.write_ofZ]
    cases wr <;> rfl
  | remS =>
    simp only [RevCursor.remainingStack, RevCursor.ofZ, Cursor.remainingQueue, Cursor.len_sub_pos_ofZ]
    rfl
  | remQ => rfl
  | exhS =>
    simp only [RevCursor.isExhaustedStack, RevCursor.ofZ, Cursor.isExhaustedQueue,
      Cursor.remainingQueue, Cursor.len_sub_pos_ofZ]
    rfl
  | exhQ => rfl
  | spaceLeft => cases wr <;> rfl
  | full => cases wr <;> rfl
  | intoReversed =>
    simp only [RevCursor.intoReversed_ofZ]
    cases wr <;> rfl
  | roundtrip =>
    simp only [RevCursor.ofZ, Cursor.newAtPos_ofZ]
    rfl
  | pos | seek _ | raw | bmSet _ => cases hs

theorem Cur.step_ofZ (wr rev : Bool) (z : Z) (op : Op) (hs : op.Sym = true) :
    Cur.step wr (Cur.ofZ rev z) op =
      .ok ((Z.step wr z op).1, Cur.ofZ (flipOn wr op rev) (Z.step wr z op).2) := by
  cases rev
  · exact Cur.step_ofZ_fwd wr z op hs
  · exact Cur.step_ofZ_rev wr z op hs

def flipAll (wr : Bool) : List Op → Bool → Bool
  | [], rev => rev
  | op :: ops, rev => flipAll wr ops (flipOn wr op rev)

theorem Cur.run_ofZ (wr : Bool) (ops : List Op) : ∀ (rev : Bool) (z : Z),
    (∀ op ∈ ops, op.Sym = true) →
    Cur.run wr (Cur.ofZ rev z) ops =
      ((Z.run wr z ops).1, .ok (Cur.ofZ (flipAll wr ops rev) (Z.run wr z ops).2)) := by
  induction ops with
  | nil =>
    intro rev z _
    rfl
  | cons op ops ih =>
    intro rev z h
    rw [Cur.run, Cur.step_ofZ wr rev z op (h op List.mem_cons_self)]
    simp only [ih _ _ fun o ho => h o (List.mem_cons_of_mem _ ho)]
    rfl

namespace Z

theorem step_write_full (z : Z) (w : Nat) (h : z.ahd = []) :
    step true z (.write w) = (.full, z) := by
  obtain ⟨stk, ahd⟩ := z
  cases h
  rfl

end Z

end CV.Backend
