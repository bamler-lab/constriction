import Mathlib.Analysis.SpecialFunctions.Log.Base
import Mathlib.Tactic.Linarith
import Mathlib.Tactic.Positivity
import Mathlib.Tactic.NormNum
/-!
# From a multiplicative size bound on naturals to the logarithmic bound (shared by ANS and range coder)

A coded symbol is summarised by `(p, P, k)`: its probability in quanta, the precision, and
`k = StateBits - WordBits - P`.
-/
namespace CV.LogBound
open Real

/-! The four products of the multiplicative bound, over summaries `(p, P, k)`:
`prodP = ∏ p`, `prodK = ∏ 2^k`, `prodPrec = ∏ 2^P`, `prodK1 = ∏ (2^k + 1)`. -/

def prodP : List (ℕ × ℕ × ℕ) → ℕ
  | [] => 1
  | e :: l => e.1 * prodP l
def prodK : List (ℕ × ℕ × ℕ) → ℕ
  | [] => 1
  | e :: l => 2^e.2.2 * prodK l
def prodPrec : List (ℕ × ℕ × ℕ) → ℕ
  | [] => 1
  | e :: l => 2^e.2.1 * prodPrec l
def prodK1 : List (ℕ × ℕ × ℕ) → ℕ
  | [] => 1
  | e :: l => (2^e.2.2 + 1) * prodK1 l

/-- total information content `Σ log2(2^P / p)` in bits -/
noncomputable def info : List (ℕ × ℕ × ℕ) → ℝ
  | [] => 0
  | e :: l => ((e.2.1 : ℝ) - logb 2 e.1) + info l
/-- total rounding term `Σ log2(1 + 2^-k)` -/
noncomputable def rounding : List (ℕ × ℕ × ℕ) → ℝ
  | [] => 0
  | e :: l => logb 2 (1 + (2 : ℝ)^(-(e.2.2 : ℤ))) + rounding l

theorem logb_two_pow (n : ℕ) : logb 2 ((2 : ℝ)^n) = n := by
  rw [logb_pow]; simp

theorem prodP_pos : ∀ l : List (ℕ × ℕ × ℕ), (∀ e ∈ l, 0 < e.1) → 0 < prodP l
  | [], _ => Nat.one_pos
  | _ :: l, h =>
    Nat.mul_pos (h _ List.mem_cons_self) (prodP_pos l fun e he => h e (List.mem_cons_of_mem _ he))

theorem prodK_pos : ∀ l : List (ℕ × ℕ × ℕ), 0 < prodK l
  | [] => Nat.one_pos
  | _ :: l => Nat.mul_pos (Nat.two_pow_pos _) (prodK_pos l)

theorem prodPrec_pos : ∀ l : List (ℕ × ℕ × ℕ), 0 < prodPrec l
  | [] => Nat.one_pos
  | _ :: l => Nat.mul_pos (Nat.two_pow_pos _) (prodPrec_pos l)

theorem prodK1_pos : ∀ l : List (ℕ × ℕ × ℕ), 0 < prodK1 l
  | [] => Nat.one_pos
  | _ :: l => Nat.mul_pos (Nat.succ_pos _) (prodK1_pos l)

theorem logb_cast_mul {a b : ℕ} (ha : 0 < a) (hb : 0 < b) :
    logb 2 ((a * b : ℕ) : ℝ) = logb 2 a + logb 2 b := by
  rw [Nat.cast_mul, logb_mul (Nat.cast_ne_zero.2 ha.ne') (Nat.cast_ne_zero.2 hb.ne')]

theorem logb_cast_two_pow (n : ℕ) : logb 2 ((2^n : ℕ) : ℝ) = n := by
  rw [Nat.cast_pow, Nat.cast_ofNat, logb_two_pow]

theorem logb_one_add_inv_pow (k : ℕ) :
    logb 2 (1 + (2 : ℝ)^(-(k : ℤ))) = logb 2 ((2^k + 1 : ℕ) : ℝ) - k := by
  have h2k : (0 : ℝ) < (2 : ℝ)^k := pow_pos two_pos k
  have : (1 + (2 : ℝ)^(-(k : ℤ))) = ((2 : ℝ)^k + 1) / (2 : ℝ)^k := by
    rw [zpow_neg, zpow_natCast, add_div, div_self h2k.ne', one_div, add_comm]
  rw [this, logb_div (add_pos h2k one_pos).ne' h2k.ne', logb_two_pow, Nat.cast_add, Nat.cast_pow,
    Nat.cast_ofNat, Nat.cast_one]

theorem log_prods (l : List (ℕ × ℕ × ℕ)) (hp : ∀ e ∈ l, 0 < e.1) :
    logb 2 (prodPrec l) + logb 2 (prodK1 l) - logb 2 (prodP l) - logb 2 (prodK l)
      = info l + rounding l := by
  induction l with
  | nil => simp [prodPrec, prodK1, prodP, prodK, info, rounding]
  | cons e l ih =>
    obtain ⟨p, P, k⟩ := e
    obtain ⟨hp0, hpl⟩ := List.forall_mem_cons.1 hp
    simp only [prodPrec, prodK1, prodP, prodK, info, rounding]
    rw [logb_cast_mul (Nat.two_pow_pos P) (prodPrec_pos l),
      logb_cast_mul (Nat.succ_pos _) (prodK1_pos l), logb_cast_mul hp0 (prodP_pos l hpl),
      logb_cast_mul (Nat.two_pow_pos k) (prodK_pos l), logb_cast_two_pow, logb_cast_two_pow,
      logb_one_add_inv_pow, add_add_add_comm (_ - _), ← ih hpl]
    ring

theorem log_bound (N C : ℕ) (l : List (ℕ × ℕ × ℕ)) (hp : ∀ e ∈ l, 0 < e.1) (hN : 0 < N) (hC : 0 < C)
    (h : N * prodP l * prodK l ≤ C * prodPrec l * prodK1 l) :
    logb 2 N ≤ logb 2 C + info l + rounding l := by
  have hNP := Nat.mul_pos hN (prodP_pos l hp)
  have hCP := Nat.mul_pos hC (prodPrec_pos l)
  have hlog := logb_le_logb_of_le one_lt_two (Nat.cast_pos.2 (Nat.mul_pos hNP (prodK_pos l)))
    (Nat.cast_le (α := ℝ) |>.2 h)
  rw [logb_cast_mul hNP (prodK_pos l), logb_cast_mul hN (prodP_pos l hp),
    logb_cast_mul hCP (prodK1_pos l), logb_cast_mul hC (prodPrec_pos l)] at hlog
  -- move the two subtracted logarithms to the left
  rw [add_assoc, ← log_prods l hp, ← add_sub_assoc, ← add_sub_assoc, le_sub_iff_add_le,
    le_sub_iff_add_le, add_right_comm, ← add_assoc]
  exact hlog

theorem log_bound_two_pow (n s : ℕ) (l : List (ℕ × ℕ × ℕ)) (hp : ∀ e ∈ l, 0 < e.1)
    (h : 2^n * prodP l * prodK l ≤ 2^s * prodPrec l * prodK1 l) :
    (n : ℝ) ≤ info l + rounding l + s := by
  have := log_bound _ _ l hp (Nat.two_pow_pos n) (Nat.two_pow_pos s) h
  rw [logb_cast_two_pow, logb_cast_two_pow] at this
  rw [add_comm, ← add_assoc]
  exact this

/-- induction step of the potential argument: the bound for one symbol (`h1`: potential `Q₀` to
    `Q₁`) times the bound for the rest (`h2`: `Q₁` to `Qₙ`) -/
theorem prod_cons_le {Q₀ Q₁ Qₙ a b c d A B C D : ℕ} (h1 : Q₁ * a * b ≤ Q₀ * c * d)
    (h2 : Qₙ * A * B ≤ Q₁ * C * D) : Qₙ * (a * A) * (b * B) ≤ Q₀ * (c * C) * (d * D) :=
  calc Qₙ * (a * A) * (b * B) = (Qₙ * A * B) * (a * b) := by ring
    _ ≤ (Q₁ * C * D) * (a * b) := Nat.mul_le_mul_right _ h2
    _ = (Q₁ * a * b) * (C * D) := by ring
    _ ≤ (Q₀ * c * d) * (C * D) := Nat.mul_le_mul_right _ h1
    _ = Q₀ * (c * C) * (d * D) := by ring

/-- last step of the potential argument: the size `N` is at most the final potential `Q` times `w`,
    and `h2` is the chained bound from the initial potential `L` -/
theorem prod_le_of_le_mul {N Q w L A B C D : ℕ} (h1 : N ≤ Q * w) (h2 : Q * A * B ≤ L * C * D) :
    N * A * B ≤ L * w * C * D :=
  calc N * A * B ≤ Q * w * A * B := Nat.mul_le_mul_right _ (Nat.mul_le_mul_right _ h1)
    _ = (Q * A * B) * w := by ring
    _ ≤ (L * C * D) * w := Nat.mul_le_mul_right _ h2
    _ = L * w * C * D := by ring

/-- `(1 + 2^-8)^500 < 2^3`, i.e. `500 · log2(1 + 2^-8) < 3 = 500 · 0.006` -/
theorem pow500 : ((257 : ℝ) / 256) ^ 500 < 8 := by
  set_option exponentiation.threshold 600 in
  rw [div_pow, div_lt_iff₀ (by positivity)]
  set_option exponentiation.threshold 600 in
  norm_num

/-- with the default presets (`k = 8`) the per-symbol rounding term is below 0.006 bit -/
theorem rounding_default_lt : logb 2 (1 + (2 : ℝ)^(-(8 : ℤ))) < 0.006 := by
  rw [logb_lt_iff_lt_rpow (by norm_num) (by positivity)]
  have h : ((1 : ℝ) + 2^(-(8 : ℤ)))^(500 : ℕ) < ((2 : ℝ)^(0.006 : ℝ))^(500 : ℕ) := by
    rw [← rpow_natCast ((2 : ℝ)^(0.006 : ℝ)), ← rpow_mul (by norm_num)]
    have : (0.006 : ℝ) * ((500 : ℕ) : ℝ) = 3 := by norm_num
    rw [this]
    have := pow500
    norm_num at this ⊢
    exact this
  exact lt_of_pow_lt_pow_left₀ 500 (by positivity) h

end CV.LogBound
