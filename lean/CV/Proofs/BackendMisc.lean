import CV.Model.Backend
/-!
# `Vec`, `SmallVec`, iterator adapters, callback adapters

LIFO / seek laws of `Vec`, `SmallVec` as a refinement of `Vec`, FIFO and fusedness of the iterator
adapters, delivery order of the callback adapters, over `Backend.step` / `Backend.run` (what the
driver executes).  The first lemmas record `Backend.step` on constructors by `rfl` (its `match` is slow for `simp`).
-/
namespace CV.Backend

theorem Backend.step_cur (wr : Bool) (s : Cur) (op : Op) :
    Backend.step (.cur wr s) op =
      match Cur.step wr s op with
      | .ok (o, s') => .ok (o, .cur wr s')
      | .error f => .error f := by
  cases op <;> rfl

theorem Backend.step_vec_write (v : VecB) (w : Nat) :
    Backend.step (.vec v) (.write w) = .ok (.ok, .vec (v.write w)) := rfl

theorem Backend.step_vec_readS (v : VecB) :
    Backend.step (.vec v) .readS = .ok (.word (v.read).1, .vec (v.read).2) := rfl

theorem Backend.step_vec_seek (v : VecB) (p : Nat) :
    Backend.step (.vec v) (.seek p) =
      match v.seek p with
      | some v' => .ok (.ok, .vec v')
      | none => .ok (.err, .vec v) := rfl

theorem Backend.step_smallvec_seek (v : SmallVecB) (p : Nat) :
    Backend.step (.smallvec v) (.seek p) =
      match v.seek p with
      | some v' => .ok (.ok, .smallvec v')
      | none => .ok (.err, .smallvec v) := rfl

theorem Backend.step_iterF_readQ (r : FallibleIter) :
    Backend.step (.iterF r) .readQ =
      match (r.read).1 with
      | .ok o => .ok (.word o, .iterF (r.read).2)
      | .error _ => .ok (.readErr, .iterF (r.read).2) := rfl

theorem Backend.step_cbF_write (cb : Callback) (w : Nat) :
    Backend.step (.cbF cb) (.write w) =
      if (cb.write w).1 then .ok (.ok, .cbF (cb.write w).2) else .ok (.cbErr, .cbF (cb.write w).2) :=
  rfl

theorem Backend.run_cons_ok {b b' : Backend} {op : Op} {o : Out} (h : Backend.step b op = .ok (o, b'))
    (ops : List Op) :
    Backend.run b (op :: ops) = (o :: (Backend.run b' ops).1, (Backend.run b' ops).2) := by
  rw [Backend.run, h]

theorem Backend.run_append (a : List Op) : ∀ (b : Backend) (c : List Op),
    Backend.run b (a ++ c) =
      match (Backend.run b a).2 with
      | .ok b' => ((Backend.run b a).1 ++ (Backend.run b' c).1, (Backend.run b' c).2)
      | .error f => ((Backend.run b a).1, .error f) := by
  induction a with
  | nil => intro b c; rfl
  | cons op a ih =>
    intro b c
    rw [List.cons_append, Backend.run, Backend.run]
    cases Backend.step b op with
    | error f => rfl
    | ok p =>
      simp only [ih p.2 c]
      cases (Backend.run p.2 a).2 <;> rfl

theorem Backend.run_cur (wr : Bool) (ops : List Op) : ∀ s : Cur,
    Backend.run (.cur wr s) ops =
      ((Cur.run wr s ops).1,
        match (Cur.run wr s ops).2 with
        | .ok s' => .ok (.cur wr s')
        | .error f => .error f) := by
  induction ops with
  | nil => intro s; rfl
  | cons op ops ih =>
    intro s
    rw [Backend.run, Backend.step_cur, Cur.run]
    cases Cur.step wr s op with
    | error f => rfl
    | ok p => simp only [ih p.2]

/-! ## `Vec` -/

theorem VecB.read_write (v : VecB) (w : Nat) : (v.write w).read = (some w, v) := by
  simp [VecB.write, VecB.read]

theorem VecB.read_nil : (VecB.mk []).read = (none, ⟨[]⟩) := rfl

theorem Backend.run_vec_writes (ws : List Nat) : ∀ d : List Nat,
    Backend.run (.vec ⟨d⟩) (ws.map Op.write) =
      (List.replicate ws.length Out.ok, .ok (.vec ⟨d ++ ws⟩)) := by
  induction ws with
  | nil => intro d; simp [Backend.run]
  | cons w ws ih =>
    intro d
    rw [List.map_cons, Backend.run_cons_ok (Backend.step_vec_write _ w), VecB.write, ih]
    simp [List.replicate_succ]

theorem Backend.run_vec_reads (ys : List Nat) : ∀ d : List Nat,
    Backend.run (.vec ⟨d ++ ys.reverse⟩) (List.replicate ys.length Op.readS) =
      (ys.map (fun w => Out.word (some w)), .ok (.vec ⟨d⟩)) := by
  induction ys with
  | nil => intro d; simp [Backend.run]
  | cons y ys ih =>
    intro d
    have h : VecB.mk (d ++ (y :: ys).reverse) = (VecB.mk (d ++ ys.reverse)).write y := by
      simp [VecB.write]
    rw [h, List.length_cons, List.replicate_succ, Backend.run_cons_ok (Backend.step_vec_readS _),
      VecB.read_write, ih]
    rfl

theorem Backend.run_vec_empty (m : Nat) :
    Backend.run (.vec ⟨[]⟩) (List.replicate m Op.readS) =
      (List.replicate m (Out.word none), .ok (.vec ⟨[]⟩)) := by
  induction m with
  | zero => rfl
  | succ m ih =>
    rw [List.replicate_succ, Backend.run_cons_ok (Backend.step_vec_readS _), VecB.read_nil, ih]
    rfl

theorem VecB.read_none (v : VecB) (h : (v.read).1 = none) : (v.read).2 = v ∧ v.data = [] := by
  cases v with
  | mk d =>
    cases hd : d.getLast? with
    | none => simp [VecB.read, hd]; simpa using hd
    | some w => simp [VecB.read, hd] at h

theorem VecB.seek_pos (v : VecB) : v.seek v.pos = some v := by
  simp [VecB.seek, VecB.pos]

theorem VecB.seek_none_iff (v : VecB) (p : Nat) : v.seek p = none ↔ p > v.data.length := by
  unfold VecB.seek
  by_cases h : p ≤ v.data.length
  · simp [h]
  · simp [h]
    omega

theorem VecB.seek_some (v : VecB) (p : Nat) (h : p ≤ v.data.length) :
    v.seek p = some ⟨v.data.take p⟩ ∧ (VecB.mk (v.data.take p)).pos = p := by
  simp [VecB.seek, h, VecB.pos, Nat.min_eq_left h]

theorem VecB.is_exhausted_iff (v : VecB) :
    v.isExhausted = true ↔ v.remaining = 0 := by
  simp [VecB.isExhausted]

theorem VecB.maybe_exhausted_iff (v : VecB) : v.maybeExhausted = v.isExhausted := by
  cases v with
  | mk d => cases d <;> rfl

theorem VecB.seek_back_after_writes (v : VecB) (ws : List Nat) :
    (VecB.mk (v.data ++ ws)).seek v.pos = some v := by
  simp [VecB.seek, VecB.pos]

/-- by design (`Vec::seek` truncates, reads pop): after a successful read the old position is
    *beyond* the end and `seek` refuses it -/
theorem VecB.seek_forward_refused (v : VecB) (h : v.data ≠ []) :
    ((v.read).2).seek v.pos = none := by
  cases v with
  | mk d =>
    rcases List.eq_nil_or_concat d with rfl | ⟨d', w, rfl⟩
    · exact absurd rfl h
    · simp [VecB.read, VecB.seek, VecB.pos]

/-! ## `SmallVec` behaves as `Vec` (the `spilled` flag is only visible in `raw`) -/

theorem SmallVecB.read_toVec (v : SmallVecB) :
    (v.read).1 = (v.toVec.read).1 ∧ (v.read).2.toVec = (v.toVec.read).2 := by
  simp only [SmallVecB.read, VecB.read, SmallVecB.toVec]
  cases v.data.getLast? <;> exact ⟨rfl, rfl⟩

theorem SmallVecB.seek_toVec (v : SmallVecB) (p : Nat) :
    v.toVec.seek p = (v.seek p).map SmallVecB.toVec := by
  by_cases h : p ≤ v.data.length <;> simp [SmallVecB.seek, VecB.seek, SmallVecB.toVec, h]

/-- every other method is the same expression on `data`, so `toVec` commutes with it by `rfl` -/
theorem SmallVecB.step_refines_vec (v : SmallVecB) (op : Op) (hraw : op ≠ .raw) :
    ∃ o v', Backend.step (.smallvec v) op = .ok (o, .smallvec v') ∧
      Backend.step (.vec v.toVec) op = .ok (o, .vec v'.toVec) := by
  cases op with
  | raw => exact absurd rfl hraw
  | readS =>
    refine ⟨_, _, rfl, ?_⟩
    rw [(SmallVecB.read_toVec v).1, (SmallVecB.read_toVec v).2]
    rfl
  | seek p =>
    have h := SmallVecB.seek_toVec v p
    rw [Backend.step_smallvec_seek, Backend.step_vec_seek, h]
    cases v.seek p <;> exact ⟨_, _, rfl, rfl⟩
  | _ => exact ⟨_, _, rfl, rfl⟩

/-! ## iterator adapters -/

def itemOutF : Item → Out
  | .word w => .word (some w)
  | .err => .readErr

def itemOutI (i : Item) : Out := .item (some i)

/-- the adapters implement `ReadWords` for every `Semantics` by the same code -/
theorem Backend.iterF_readS_eq_readQ (r : FallibleIter) :
    Backend.step (.iterF r) .readS = Backend.step (.iterF r) .readQ := rfl
theorem Backend.iterI_readS_eq_readQ (r : InfallibleIter) :
    Backend.step (.iterI r) .readS = Backend.step (.iterI r) .readQ := rfl

theorem Fuse.honestLen_eq_pending {α : Type} (s : List (Option α)) :
    Fuse.honestLen s = (Fuse.pending s).length := by
  induction s with
  | nil => rfl
  | cons a s ih =>
    cases a with
    | none => rfl
    | some a => exact congrArg (· + 1) ih

theorem FallibleIter.remaining_live (s : List (Option Item)) :
    (FallibleIter.mk ⟨s, false⟩).remaining = (Fuse.pending s).length :=
  Fuse.honestLen_eq_pending s

theorem FallibleIter.remaining_done (s : List (Option Item)) :
    (FallibleIter.mk ⟨s, true⟩).remaining = 0 := rfl

/-- the wrapped iterator answers `None` (end of the script or a hole), which marks the `Fuse` done -/
theorem Fuse.next_end {α : Type} (s : List (Option α)) (h : Fuse.pending s = []) :
    ∃ s', (Fuse.mk s false).next = (none, ⟨s', true⟩) := by
  cases s with
  | nil => exact ⟨_, rfl⟩
  | cons a s =>
    cases a with
    | none => exact ⟨_, rfl⟩
    | some i => cases h

def nextOutF : Option Item → Out
  | none => .word none
  | some i => itemOutF i

theorem Backend.iterF_read (f : Fuse Item) :
    Backend.step (.iterF ⟨f⟩) .readQ = .ok (nextOutF (f.next).1, .iterF ⟨(f.next).2⟩) := by
  rw [Backend.step_iterF_readQ, FallibleIter.read]
  generalize f.next = p
  obtain ⟨_ | _ | _, f'⟩ := p <;> rfl

/-! Both adapters are `k (f : Fuse Item)` with a read that shows `g` of `f.next`'s answer and
keeps `k` of the advanced `Fuse` (`hk`; for `iterI` it holds by `rfl` with `g = Out.item`). -/
section
variable (k : Fuse Item → Backend) (g : Option Item → Out)
  (hk : ∀ f, Backend.step (k f) .readQ = .ok (g (f.next).1, k (f.next).2))
include hk

theorem Backend.iter_done_outs (s : List (Option Item)) (m : Nat) :
    (Backend.run (k ⟨s, true⟩) (List.replicate m Op.readQ)).1 = List.replicate m (g none) := by
  have h : Backend.step (k ⟨s, true⟩) .readQ = .ok (g none, k ⟨s, true⟩) := hk _
  induction m with
  | zero => rfl
  | succ m ih => rw [List.replicate_succ, Backend.run_cons_ok h, ih]; rfl

theorem Backend.iter_end_outs (s : List (Option Item)) (h : Fuse.pending s = []) (m : Nat) :
    (Backend.run (k ⟨s, false⟩) (List.replicate m Op.readQ)).1 = List.replicate m (g none) := by
  obtain ⟨s', hs'⟩ := Fuse.next_end s h
  have h : Backend.step (k ⟨s, false⟩) .readQ = .ok (g none, k ⟨s', true⟩) := by rw [hk, hs']
  cases m with
  | zero => rfl
  | succ m => rw [List.replicate_succ, Backend.run_cons_ok h, Backend.iter_done_outs k g hk]; rfl

/-- `s` may contain holes: what the wrapped (non-fused) iterator would yield after its first
    `None` is never looked at -/
theorem Backend.iter_outs (s : List (Option Item)) (m : Nat) :
    (Backend.run (k ⟨s, false⟩) (List.replicate ((Fuse.pending s).length + m) Op.readQ)).1 =
      (Fuse.pending s).map (fun i => g (some i)) ++ List.replicate m (g none) := by
  induction s with
  | nil =>
    rw [show Fuse.pending ([] : List (Option Item)) = [] from rfl, List.length_nil, Nat.zero_add]
    exact Backend.iter_end_outs k g hk [] rfl m
  | cons a s ih =>
    cases a with
    | none =>
      rw [show Fuse.pending (none :: s) = [] from rfl, List.length_nil, Nat.zero_add]
      exact Backend.iter_end_outs k g hk (none :: s) rfl m
    | some i =>
      have h : Backend.step (k ⟨some i :: s, false⟩) .readQ = .ok (g (some i), k ⟨s, false⟩) := hk _
      rw [show Fuse.pending (some i :: s) = i :: Fuse.pending s from rfl, List.length_cons,
        Nat.add_right_comm, List.replicate_succ, Backend.run_cons_ok h, ih]
      rfl

end

theorem FallibleIter.read_none_done (r : FallibleIter) (h : (r.read).1 = .ok none) :
    (r.read).2.inner.done = true := by
  obtain ⟨⟨s, d⟩⟩ := r
  cases d with
  | true => rfl
  | false =>
    cases s with
    | nil => rfl
    | cons a s =>
      cases a with
      | none => rfl
      | some i => cases i <;> cases h

/-! ## callback adapters -/

theorem Callback.write_ok_iff (cb : Callback) (w : Nat) :
    (cb.write w).1 = true ↔ cb.failAt.contains cb.calls = false := by
  unfold Callback.write
  cases h : cb.failAt.contains cb.calls <;> simp

theorem Callback.write_ok (cb : Callback) (w : Nat) (h : cb.failAt.contains cb.calls = false) :
    cb.write w = (true, { cb with log := cb.log ++ [w], calls := cb.calls + 1 }) := by
  unfold Callback.write
  rw [h]
  rfl

theorem Callback.write_fail (cb : Callback) (w : Nat) (h : cb.failAt.contains cb.calls = true) :
    cb.write w = (false, { cb with calls := cb.calls + 1 }) := by
  unfold Callback.write
  rw [h]
  rfl

def Callback.fed (cb : Callback) (ws : List Nat) : Callback :=
  { cb with log := cb.log ++ ws, calls := cb.calls + ws.length }

def Callback.OkFor (cb : Callback) (n : Nat) : Prop :=
  ∀ i, i < n → cb.failAt.contains (cb.calls + i) = false

theorem Callback.fed_eq (cb : Callback) (ws : List Nat) :
    cb.fed ws = { cb with log := cb.log ++ ws, calls := cb.calls + ws.length } := rfl

theorem Callback.okFor_iff (cb : Callback) (n : Nat) :
    cb.OkFor n ↔ ∀ i, i < n → cb.failAt.contains (cb.calls + i) = false := Iff.rfl

theorem Callback.fed_cons (cb : Callback) (w : Nat) (ws : List Nat) :
    (cb.fed [w]).fed ws = cb.fed (w :: ws) := by
  simp [Callback.fed, Nat.add_assoc, Nat.add_comm 1]

theorem Callback.OkFor.cons {cb : Callback} {n : Nat} (h : cb.OkFor (n + 1)) (w : Nat) :
    cb.write w = (true, cb.fed [w]) ∧ (cb.fed [w]).OkFor n := by
  refine ⟨Callback.write_ok cb w (by simpa using h 0 (Nat.succ_pos n)), fun i hi => ?_⟩
  have := h (i + 1) (Nat.succ_lt_succ hi)
  simpa [Callback.fed, Nat.add_assoc, Nat.add_comm 1 i] using this

/-- `k` is the adapter: `cbF`, or `cbI`, whose `write` does not even look at the callback's answer -/
theorem Backend.cb_writes (k : Callback → Backend)
    (hk : ∀ cb w, (cb.write w).1 = true → Backend.step (k cb) (.write w) = .ok (.ok, k (cb.write w).2))
    (ws : List Nat) : ∀ (cb : Callback), cb.OkFor ws.length →
    Backend.run (k cb) (ws.map Op.write) = (List.replicate ws.length Out.ok, .ok (k (cb.fed ws))) := by
  induction ws with
  | nil => intro cb _; simp [Backend.run, Callback.fed]
  | cons w ws ih =>
    intro cb h
    obtain ⟨hw, h'⟩ := h.cons w
    have hs := hk cb w (by rw [hw])
    rw [hw] at hs
    rw [List.map_cons, Backend.run_cons_ok hs, ih _ h', Callback.fed_cons]
    rfl

theorem Callback.extend_append (pre : List Nat) : ∀ (cb : Callback) (rest : List Nat),
    cb.OkFor pre.length → cb.extend (pre ++ rest) = (cb.fed pre).extend rest := by
  induction pre with
  | nil => intro cb rest _; simp [Callback.fed]
  | cons a pre ih =>
    intro cb rest h
    obtain ⟨hw, h'⟩ := h.cons a
    rw [List.cons_append, Callback.extend, hw, if_pos rfl, ih _ rest h', Callback.fed_cons]

theorem Callback.extend_ok (ws : List Nat) (cb : Callback) (h : cb.OkFor ws.length) :
    cb.extend ws = (.ok, cb.fed ws) := by
  have := Callback.extend_append ws cb [] h
  rwa [List.append_nil] at this

/-- the failing word is consumed from the iterator and lost, the rest is left in it -/
theorem Callback.extend_fail_first (cb : Callback) (w : Nat) (ws : List Nat)
    (h : cb.failAt.contains cb.calls = true) :
    cb.extend (w :: ws) = (.extCbErr ws.length, { cb with calls := cb.calls + 1 }) := by
  simp [Callback.extend, Callback.write_fail cb w h]

end CV.Backend
