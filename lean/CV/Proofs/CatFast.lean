import CV.Proofs.CatUniform
/-!
# The symbol/cdf glue of the `…_fast` constructors (D13)

`fast_quantized_cdf` (component `quant`) yields one left cumulative per weight.  After the
repair no `…_fast` constructor returns a model if the symbols and the weights differ in number.
-/
namespace CV.Cat
open CV

theorem NcDec.fromSymbolsAndCdf_mismatch {Sym : Type} {B P : Nat} {syms : List Sym} {cdf : List Nat}
    (h : syms.length ≠ cdf.length) : NcDec.fromSymbolsAndCdf B P syms cdf = .ok none := by
  unfold NcDec.fromSymbolsAndCdf
  simp only [List.length_zip]
  rw [if_pos]
  rcases Nat.lt_or_gt_of_ne h with h | h
  · left; omega
  · right; omega

theorem NcDec.fromSymbolsAndCdf_match {Sym : Type} {B P : Nat} {syms : List Sym} {cdf : List Nat}
    (h : syms.length = cdf.length) (hne : cdf ≠ []) :
    ∃ last, NcDec.fromSymbolsAndCdf B P syms cdf =
      .ok (some { cdf := cdf.zip syms ++ [(wrappingPow2 B P, last)] }) := by
  unfold NcDec.fromSymbolsAndCdf
  simp only [List.length_zip]
  rw [if_neg (by omega)]
  obtain ⟨c, last, hl⟩ := getLast?_zip_some h.symm
    (h ▸ List.length_pos_iff.mpr hne)
  exact ⟨last, by rw [hl]⟩

theorem NcEnc.fromCdfLoop_some {Sym : Type} [DecidableEq Sym] {left : Nat} {cdf : List Nat}
    {syms rest : List Sym} {t t' : List (Sym × Nat × Nat)} {left' : Nat}
    (h : NcEnc.fromCdfLoop left cdf syms t = .ok (some (left', rest, t'))) :
    syms.length = cdf.length + rest.length := by
  induction cdf generalizing left syms t with
  | nil =>
    rw [NcEnc.fromCdfLoop] at h
    cases h
    exact (Nat.zero_add _).symm
  | cons r cdf ih =>
    cases syms with
    | nil => rw [NcEnc.fromCdfLoop] at h; cases h
    | cons s syms =>
      simp only [NcEnc.fromCdfLoop] at h
      cases hg : NcEnc.get t s with
      | some v => rw [hg] at h; cases h
      | none =>
        simp only [hg] at h
        unfold csub at h
        by_cases hle : left ≤ r
        · rw [if_pos hle] at h
          simp only at h
          by_cases hp : r - left = 0
          · rw [if_pos hp] at h; cases h
          · rw [if_neg hp] at h
            rw [List.length_cons, List.length_cons, ih h, Nat.add_right_comm]
        · rw [if_neg hle] at h; cases h

theorem NcEnc.fromSymbolsAndCdf_length_eq {Sym : Type} [DecidableEq Sym] {B P : Nat}
    {syms : List Sym} {cdf : List Nat} {m : NcEnc Sym}
    (h : NcEnc.fromSymbolsAndCdf B P syms cdf = .ok (some m)) : syms.length = cdf.length := by
  unfold NcEnc.fromSymbolsAndCdf at h
  cases cdf with
  | nil => cases h
  | cons left cdf =>
    simp only at h
    cases hl : NcEnc.fromCdfLoop left cdf syms [] with
    | error f => rw [hl] at h; cases h
    | ok o =>
      cases o with
      | none => rw [hl] at h; cases h
      | some x =>
        obtain ⟨left', rest, t⟩ := x
        simp only [hl] at h
        have hlen := NcEnc.fromCdfLoop_some hl
        cases rest with
        | nil => cases h
        | cons s rest =>
          simp only at h
          cases hi : NcEnc.insertNew t s left' (wsub B (wrappingPow2 B P) left') with
          | none => rw [hi] at h; cases h
          | some t' =>
            simp only [hi] at h
            cases rest with
            | nil => rw [hlen]; rfl
            | cons x rest => cases h

theorem NcLookup.fastLoop_some {Sym : Type} {B left : Nat} {cdf : List Nat}
    {syms rest : List Sym} {t t' : List (Sym × Nat × Nat)}
    (h : NcLookup.fastLoop B left cdf syms t = .ok (some (rest, t'))) :
    syms.length = cdf.length + rest.length := by
  induction cdf generalizing left syms t with
  | nil =>
    rw [NcLookup.fastLoop] at h
    cases h
    exact (Nat.zero_add _).symm
  | cons r cdf ih =>
    cases syms with
    | nil => rw [NcLookup.fastLoop] at h; cases h
    | cons s syms =>
      simp only [NcLookup.fastLoop] at h
      by_cases hp : wsub B r left = 0
      · rw [if_pos hp] at h; cases h
      · rw [if_neg hp] at h
        rw [List.length_cons, List.length_cons, ih h, Nat.add_right_comm]

theorem NcLookup.fromSymbolsAndCdf_length_eq {Sym : Type} {B P : Nat}
    {syms : List Sym} {cdf : List Nat} {m : NcLookup Sym}
    (h : NcLookup.fromSymbolsAndCdf B P syms cdf = .ok (some m)) : syms.length = cdf.length := by
  unfold NcLookup.fromSymbolsAndCdf at h
  cases cdf with
  | nil => cases h
  | cons left cdf =>
    simp only at h
    cases hl : NcLookup.fastLoop B left (cdf ++ [wrappingPow2 B P]) syms [] with
    | error f => rw [hl] at h; cases h
    | ok o =>
      cases o with
      | none => rw [hl] at h; cases h
      | some x =>
        obtain ⟨rest, t⟩ := x
        simp only [hl] at h
        have hlen := NcLookup.fastLoop_some hl
        cases rest with
        | nil => rw [hlen, List.length_append]; rfl
        | cons s rest => cases h

end CV.Cat
