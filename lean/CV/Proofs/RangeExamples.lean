import CV.Proofs.RangeMsg
/-!
# Concrete models and messages (non-vacuity witnesses, the tiny-width D3 counterexample)
-/
namespace CV.Range

/-- three-symbol model with boundaries `0 ≤ a ≤ b ≤ T`: symbol 0 owns `[0,a)`, symbol 1 owns
    `[a,b)`, symbol 2 owns `[b,T)`; empty regions are impossible symbols -/
def cutModel (a b T : Nat) : Model Nat where
  enc s :=
    match s with
    | 0 => if 0 < a then some (0, a) else none
    | 1 => if a < b then some (a, b - a) else none
    | 2 => if b < T then some (b, T - b) else none
    | _ => none
  dec q :=
    if q < a then (0, 0, a)
    else if q < b then (1, a, b - a)
    else (2, b, T - b)

theorem cutModel_wf {P a b : Nat} (h : a ≤ b ∧ b ≤ 2^P ∧ a < 2^P ∧ b - a < 2^P ∧ 0 < b) :
    (cutModel a b (2^P)).WellFormed P := by
  obtain ⟨hab, hb, h0, h1, h2⟩ := h
  have dlo : ∀ q, q < a → (cutModel a b (2^P)).dec q = (0, 0, a) := fun q h => if_pos h
  have dmid : ∀ q, a ≤ q → q < b → (cutModel a b (2^P)).dec q = (1, a, b - a) :=
    fun q h h' => (if_neg (Nat.not_lt.mpr h)).trans (if_pos h')
  have dhi : ∀ q, b ≤ q → (cutModel a b (2^P)).dec q = (2, b, 2^P - b) :=
    fun q h => (if_neg (Nat.not_lt.mpr (Nat.le_trans hab h))).trans (if_neg (Nat.not_lt.mpr h))
  have region : ∀ (s lo hi : Nat), lo ≤ hi → hi ≤ 2^P → hi - lo < 2^P →
      (∀ q, lo ≤ q → q < hi → (cutModel a b (2^P)).dec q = (s, lo, hi - lo)) → ∀ c p,
      (if lo < hi then some (lo, hi - lo) else none) = some (c, p) →
      0 < p ∧ c + p ≤ 2^P ∧ p < 2^P ∧ ∀ q, c ≤ q → q < c + p →
        (cutModel a b (2^P)).dec q = (s, c, p) := by
    intro s lo hi hle hhi hd hdec c p h
    split at h
    · next hlt =>
      cases h
      exact ⟨Nat.sub_pos_of_lt hlt, by rw [Nat.add_sub_cancel' hle]; exact hhi, hd,
        fun q h1 h2 => hdec q h1 (by rwa [Nat.add_sub_cancel' hle] at h2)⟩
    · cases h
  constructor
  · intro s c p h
    match s with
    | 0 => exact region 0 0 a (Nat.zero_le _) (Nat.le_of_lt h0) h0 (fun q _ => dlo q) c p h
    | 1 => exact region 1 a b hab hb h1 dmid c p h
    | 2 =>
      exact region 2 b (2^P) hb (Nat.le_refl _) (Nat.sub_lt (Nat.two_pow_pos P) h2)
        (fun q hq _ => dhi q hq) c p h
    | n + 3 => cases h
  · intro q hq
    by_cases hqa : q < a
    · rw [dlo q hqa]
      exact ⟨if_pos (Nat.lt_of_le_of_lt (Nat.zero_le _) hqa), Nat.zero_le _,
        by rw [Nat.zero_add]; exact hqa⟩
    · have hqa' := Nat.le_of_not_lt hqa
      by_cases hqb : q < b
      · rw [dmid q hqa' hqb]
        exact ⟨if_pos (Nat.lt_of_le_of_lt hqa' hqb), hqa',
          by rw [Nat.add_sub_cancel' hab]; exact hqb⟩
      · have hqb' := Nat.le_of_not_lt hqb
        rw [dhi q hqb']
        exact ⟨if_pos (Nat.lt_of_le_of_lt hqb' hq), hqb',
          by rw [Nat.add_sub_cancel' hb]; exact hq⟩

/-- `RangeEncoder<u8, u16>` with `u8` probabilities at `PRECISION = 8` (so `P = B = W`) -/
def exCfg : Cfg := { W := 8, S := 16, P := 8, B := 8 }

theorem exCfg_valid : RValid exCfg := by decide

/-- a message that sends the encoder through the inverted situation -/
def exMsg : List (MStep Nat) :=
  [ { B := 8, P := 8, model := cutModel 127 129 256, sym := 1 },
    { B := 8, P := 8, model := cutModel 100 200 256, sym := 1 },
    { B := 8, P := 4, model := cutModel 3 9 16, sym := 2 },
    { B := 8, P := 8, model := cutModel 1 255 256, sym := 0 },
    { B := 8, P := 1, model := cutModel 1 2 2, sym := 1 } ]

theorem exMsg_valid : ∀ x ∈ exMsg, x.Valid exCfg := by
  intro x hx
  simp only [exMsg, List.mem_cons, List.mem_nil_iff, or_false] at hx
  rcases hx with rfl | rfl | rfl | rfl | rfl
  · exact ⟨by decide, cutModel_wf (P := 8) (by decide), by decide⟩
  · exact ⟨by decide, cutModel_wf (P := 8) (by decide), by decide⟩
  · exact ⟨by decide, cutModel_wf (P := 4) (by decide), by decide⟩
  · exact ⟨by decide, cutModel_wf (P := 8) (by decide), by decide⟩
  · exact ⟨by decide, cutModel_wf (P := 1) (by decide), by decide⟩

/-- the encoder after the first two symbols of `exMsg`: one word is held back -/
def exInverted : Encoder :=
  { bulk := [], lower := 58624, range := 25600, situation := .inverted 1 126 }

theorem exInverted_inv : Inv exCfg exInverted := by
  refine ⟨?_, by decide, by decide, by decide, ?_⟩
  · intro w hw; cases hw
  · show 1 ≤ 1 ∧ 126 + 1 < 2^8 ∧ 2^16 ≤ 58624 + 25600
    decide

def decodedSyms {Sym : Type} (c : Cfg) (ws : List Nat) (msg : List (MStep Sym)) :
    Option (List Sym) :=
  match Decoder.fromCompressed c ws with
  | .error _ => none
  | .ok d0 =>
    match decodeMsg c d0 msg with
    | .error _ => none
    | .ok (ss, _) => some ss

def sealedWords {Sym : Type} (c : Cfg) (msg : List (MStep Sym)) : Option (List Nat) :=
  match encodeMsg c (Encoder.empty c) msg with
  | .error _ => none
  | .ok e =>
    match intoCompressed c e with
    | .error _ => none
    | .ok ws => some ws

theorem ex_prefix : encodeMsg exCfg (Encoder.empty exCfg) (exMsg.take 2) = .ok exInverted := rfl

/-- the held-back word 126 is resolved with a carry: the stream starts with 127 -/
theorem ex_sealed : sealedWords exCfg exMsg = some [127, 29, 86] := by decide

theorem ex_decoded : decodedSyms exCfg [127, 29, 86] exMsg = some [1, 1, 2, 0, 1] := by decide

/-! ### the tiny-width counterexample for `State > 2·Word` (defect D3) -/

/-- `Word` = 2 bits, `State` = 6 bits, `PRECISION` = 2 -/
def d3Cfg : Cfg := { W := 2, S := 6, P := 2, B := 2 }

theorem d3Cfg_valid : RValid d3Cfg := by decide

def d3Msg : List (MStep Nat) :=
  [ { B := 2, P := 2, model := cutModel 0 3 4, sym := 1 },
    { B := 2, P := 2, model := cutModel 1 4 4, sym := 1 },
    { B := 2, P := 2, model := cutModel 1 3 4, sym := 1 } ]

theorem d3Msg_valid : ∀ x ∈ d3Msg, x.Valid d3Cfg := by
  intro x hx
  simp only [d3Msg, List.mem_cons, List.mem_nil_iff, or_false] at hx
  rcases hx with rfl | rfl | rfl <;>
    exact ⟨by decide, cutModel_wf (P := 2) (by decide), by decide⟩

theorem d3_sealed : sealedWords d3Cfg d3Msg = some [2, 0] := by decide

theorem d3_plain : decodedSyms d3Cfg [2, 0] d3Msg = some [1, 1, 1] := by decide

/-- with an all-ones suffix the last symbol comes out wrong -/
theorem d3_suffix : decodedSyms d3Cfg ([2, 0] ++ [3, 3, 3]) d3Msg = some [1, 1, 2] := by decide

end CV.Range
