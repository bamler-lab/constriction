import CV.Proofs.ChainExample
/-!
# C13 — Chain coder: decoding then re-encoding restores the original data exactly

All statements are about the Impl model `CV.Chain` (`CV/Model/Chain.lean`), for every
`Cfg` the crate allows.  `CValid c` (`1 ≤ P ≤ B ≤ W`, `W + P ≤ S`) is what the chain coder's own
static assertions and trait bounds require; it is implied by `Cfg.Valid` (`CValid.of_valid`),
so every theorem below holds in particular for all `c.Valid`.  `PrecOk W S q` is the part that
does not involve an entropy model.  Stacks are lists with the top of the stack first.
-/
namespace CV.Chain.C13
open CV CV.Chain

variable {Sym : Type}

/-- Every `Cfg.Valid` configuration is one the theorems of this file cover. -/
theorem covers_all_valid {c : Cfg} (h : c.Valid) : CValid c ∧ PrecOk c.W c.S c.P :=
  ⟨CValid.of_valid h, (CValid.of_valid h).precOk⟩

/-- **Head invariants are preserved** by every operation: the three constructors establish
    them on any word list, `decode`, `encode` and `change_precision` preserve them. -/
theorem head_invariants_preserved {c : Cfg} (hc : c.Valid) :
    (∀ data x, Words c.W data → fromBinary c data = some x → Inv c x) ∧
    (∀ data x, Words c.W data → fromCompressed c data = some x → Inv c x) ∧
    (∀ data x, Words c.W data → fromRemainders c data = some x → Inv c x) ∧
    (∀ (m : Model Sym) x s y, m.WellFormed c.P → Inv c x → decode c m x = .ok (s, y) → Inv c y) ∧
    (∀ (m : Model Sym) x s y, m.WellFormed c.P → Inv c x → encode c m s x = .ok y → Inv c y) ∧
    (∀ q x y, PrecOk c.W c.S q → Inv c x → changePrecision c q x = .ok y → Inv (withP c q) y) := by
  have hv := CValid.of_valid hc
  have hP := hv.precOk
  refine ⟨fun data x hd => (constructors_inv hP hd).1 x,
    fun data x hd => (constructors_inv hP hd).2.1 x, fun data x hd => (constructors_inv hP hd).2.2 x,
    fun m x s y hm hx hd => (decode_ok hv hm hx hd).1,
    fun m x s y hm hx he => (encode_ok hv hm hx he).1,
    fun q x y hq hx hcp => (changePrecision_ok hP hq hx hcp).1⟩

/-- **`enc_dec_step`**: decoding a symbol and encoding it back with the same model restores the
    coder exactly – heads and both stacks. -/
theorem enc_dec_step {c : Cfg} (hc : c.Valid) {m : Model Sym} (hm : m.WellFormed c.P)
    {x : Coder} (hx : Inv c x) {s : Sym} {y : Coder} (h : decode c m x = .ok (s, y)) :
    Inv c y ∧ encode c m s y = .ok x := by
  obtain ⟨hy, D, hD, henc⟩ := decode_ok (CValid.of_valid hc) hm hx h
  refine ⟨hy, ?_⟩
  have := henc y.compressed []
  simpa [← hD] using this

theorem dec_enc_step {c : Cfg} (hc : c.Valid) {m : Model Sym} (hm : m.WellFormed c.P)
    {x : Coder} (hx : Inv c x) {s : Sym} {y : Coder} (h : encode c m s x = .ok y) :
    Inv c y ∧ decode c m y = .ok (s, x) :=
  encode_ok (CValid.of_valid hc) hm hx h

/-- **`precision_inverse`**: a successful `change_precision::<q>()` followed by
    `change_precision::<P>()` is the identity (all four threshold cases: flush ↔ refill,
    nothing ↔ nothing, in both directions), and the intermediate coder satisfies the invariant
    of precision `q`. -/
theorem precision_inverse {c : Cfg} {q : Nat} (hP : PrecOk c.W c.S c.P) (hQ : PrecOk c.W c.S q)
    {x : Coder} (hx : Inv c x) {y : Coder} (h : changePrecision c q x = .ok y) :
    Inv (withP c q) y ∧ changePrecision (withP c q) c.P y = .ok x := by
  obtain ⟨hy, hcomp, hback⟩ := changePrecision_ok hP hQ hx h
  refine ⟨hy, ?_⟩
  have e : ({ compressed := y.compressed, remainders := x.remainders, heads := x.heads } : Coder)
      = x := by rw [hcomp]
  have := hback y.compressed []
  rwa [List.append_nil, List.append_nil, e] at this

/-- **`remainders_export_import`**: `from_remainders(into_remainders(x).suffix)` has the heads
    and the remainders stack of `x` (and an empty compressed stack); the same holds with the
    unused prefix – or any other words `T` – below the suffix, which then stay below the
    remainders stack untouched: the refill loop stops after exactly the flushed words. -/
theorem remainders_export_import {c : Cfg} (hP : PrecOk c.W c.S c.P) {x : Coder} (hx : Inv c x) :
    ∃ suf, intoRemainders c x = .ok (x.compressed, suf) ∧
      ∀ T, fromRemainders c (suf ++ T)
        = some { compressed := [], remainders := x.remainders ++ T, heads := x.heads } := by
  obtain ⟨F, h1, h2⟩ := intoRemainders_spec hP hx
  refine ⟨_, h1, fun T => ?_⟩
  have := h2 T
  simpa using this

/-- **History-level inverse**: after any schedule, undoing the log in reverse restores the heads,
    gives the compressed stack back exactly the consumed words `D` and takes exactly the
    flushed words off the remainders stack – for every content `K`, `T` below. -/
theorem undo_restores (steps : List (Step Sym)) (c : Cfg) (x : Coder)
    (hP : PrecOk c.W c.S c.P) (hs : StepsOk c steps) (hx : Inv c x)
    (log : List (Done Sym)) (c' : Cfg) (y : Coder) (hrun : runDec c steps x = some (log, c', y)) :
    Inv c' y ∧ ∃ D, x.compressed = D ++ y.compressed ∧
      ∀ K T, runUndo c' log.reverse
          { compressed := K, remainders := y.remainders ++ T, heads := y.heads }
        = some (c, { compressed := D ++ K, remainders := x.remainders ++ T, heads := x.heads }) := by
  obtain ⟨h1, _, _, D, h2, h3⟩ := CV.Chain.undo_restores steps c x hP hs hx log c' y hrun
  exact ⟨h1, D, h2, h3⟩

/-- **`restore_binary`**: arbitrary data (zero words included), any schedule of decode steps and
    precision changes, all three documented ways of re-importing the remainders, undone in
    reverse, `into_binary` ⇒ the original words. -/
theorem restore_binary {c : Cfg} (hc : c.Valid) {data : List Nat}
    (hd : Words c.W data) {x0 : Coder} (h0 : fromBinary c data = some x0)
    {steps : List (Step Sym)} (hs : StepsOk c steps) {log : List (Done Sym)} {c' : Cfg} {y : Coder}
    (hrun : runDec c steps x0 = some (log, c', y)) :
    RestoresAll intoBinary c c' log y data :=
  CV.Chain.restore_binary (CValid.of_valid hc).precOk hd h0 hs hrun

/-- **`restore_compressed`**: the same for data accepted by `from_compressed` (last word
    non-zero) and `into_compressed`. -/
theorem restore_compressed {c : Cfg} (hc : c.Valid) {data : List Nat}
    (hd : Words c.W data) {x0 : Coder} (h0 : fromCompressed c data = some x0)
    {steps : List (Step Sym)} (hs : StepsOk c steps) {log : List (Done Sym)} {c' : Cfg} {y : Coder}
    (hrun : runDec c steps x0 = some (log, c', y)) :
    RestoresAll intoCompressed c c' log y data :=
  CV.Chain.restore_compressed (CValid.of_valid hc).precOk hd h0 hs hrun

/-- `from_compressed` rejects a zero word on top and the empty list (so that
    `restore_compressed` speaks about exactly the documented inputs). -/
theorem fromCompressed_rejects (c : Cfg) (rest : List Nat) :
    fromCompressed c [] = none ∧ fromCompressed c (0 :: rest) = none := by
  simp [fromCompressed, headsNew]

/-- **`errors_not_garbage`** (single step): on a coder satisfying the invariant, with
    well-formed models, each operation either succeeds or reports exactly its documented
    error, raised before anything was changed (the model is functional: the caller still holds
    `x`) and for the documented reason – never a fault, never a wrong result:
    * `decode`: `OutOfCompressedData`, iff a word was needed and the compressed stack is empty;
    * `encode` of an in-support symbol: `OutOfRemainders`, iff a refill was needed and the
      remainders stack is empty;
    * `change_precision`: `OutOfRemainders`, only when decreasing with an empty stack. -/
theorem errors_not_garbage {c : Cfg} (hc : c.Valid) {m : Model Sym} (hm : m.WellFormed c.P)
    {x : Coder} (hx : Inv c x) :
    (∀ e, decode c m x = .error e →
        e = .outOfData ∧ x.compressed = [] ∧ (c.P = c.W ∨ x.heads.compressed < 2^c.P)) ∧
    (∀ s cum p e, m.enc s = some (cum, p) → encode c m s x = .error e →
        e = .outOfRemainders ∧ x.remainders = [] ∧
          x.heads.remainders < p * 2^(c.S - c.W - c.P)) ∧
    (∀ q e, PrecOk c.W c.S q → changePrecision c q x = .error e →
        e = .outOfRemainders ∧ x.remainders = [] ∧ q < c.P) := by
  have hv := CValid.of_valid hc
  exact ⟨fun e he => decode_error hv hm hx he, fun s cum p e hs he => encode_error hv hm hx hs he,
    fun q e hq he => changePrecision_error hv.precOk hq hx he⟩

/-- **`errors_not_garbage`** (history level).  If a schedule does not run to completion, some
    prefix of it ran correctly and the next step reported one of the two documented errors, for
    the documented reason – never a fault. -/
theorem errors_not_garbage_history (steps : List (Step Sym)) (c : Cfg) (x : Coder)
    (hP : PrecOk c.W c.S c.P) (hs : StepsOk c steps) (hx : Inv c x)
    (h : runDec c steps x = none) :
    ∃ pre st post log c1 y1, steps = pre ++ st :: post ∧
      runDec c pre x = some (log, c1, y1) ∧ Inv c1 y1 ∧
      ((∃ B m, st = .dec B m ∧ decode (withB c1 B) m y1 = .error .outOfData ∧
          y1.compressed = []) ∨
       (∃ q, st = .prec q ∧ changePrecision c1 q y1 = .error .outOfRemainders ∧
          y1.remainders = [] ∧ q < c1.P)) := by
  induction steps generalizing c x with
  | nil => simp [runDec] at h
  | cons st rest ih =>
    cases st with
    | dec B m =>
      obtain ⟨hv, hm, hrest⟩ := hs
      rcases decode_spec hv hm hx with ⟨herr, hnil, _⟩ | ⟨s, y1, word, hdec, hstep⟩
      · exact ⟨[], .dec B m, rest, [], c, x, rfl, rfl, hx, Or.inl ⟨B, m, rfl, herr, hnil⟩⟩
      · simp only [runDec, hdec] at h
        rcases hrd : runDec c rest y1 with _ | ⟨l, c1, z⟩
        · obtain ⟨pre, st, post, log, c1, z, hsplit, hpre, hI, hcase⟩ :=
            ih c y1 hP hrest hstep.inv hrd
          refine ⟨.dec B m :: pre, st, post, .dec B m s :: log, c1, z, by rw [hsplit]; rfl, ?_, hI, hcase⟩
          simp [runDec, hdec, hpre]
        · simp [hrd] at h
    | prec q =>
      obtain ⟨hq, hrest⟩ := hs
      rcases changePrecision_spec hP hq hx with ⟨herr, hnil, hlt⟩ | ⟨y1, hcp, hy1, _⟩
      · exact ⟨[], .prec q, rest, [], c, x, rfl, rfl, hx, Or.inr ⟨q, rfl, herr, hnil, hlt⟩⟩
      · simp only [runDec, hcp] at h
        rcases hrd : runDec (withP c q) rest y1 with _ | ⟨l, c1, z⟩
        · obtain ⟨pre, st, post, log, c1, z, hsplit, hpre, hI, hcase⟩ :=
            ih (withP c q) y1 hq hrest hy1 hrd
          refine ⟨.prec q :: pre, st, post, .prec c.P :: log, c1, z, by rw [hsplit]; rfl, ?_, hI, hcase⟩
          simp [runDec, hcp, hpre]
        · simp [hrd] at h

/-- the exporters never fault on a coder satisfying the invariant (loops terminate, the
    subtraction and the `debug_assert!` in `into_binary` never fire) -/
theorem exporters_no_fault {c : Cfg} (hP : PrecOk c.W c.S c.P) {x : Coder} (hx : Inv c x) :
    (∃ r, intoRemainders c x = .ok r) ∧
    (intoCompressed c x = .error .notWhole ∨ ∃ r, intoCompressed c x = .ok r) ∧
    (intoBinary c x = .error .notWhole ∨ ∃ r, intoBinary c x = .ok r) := by
  have hW := hP.W_pos
  have hr := hx.rem_ne_zero
  exact ⟨intoRemainders_no_fault hW x, intoCompressed_no_fault hW x, intoBinary_no_fault hW hr⟩

/-! ## non-vacuity: concrete instances satisfying the hypotheses -/

/-- a valid configuration, data with zero words, a schedule with precision changes
    3 → 5 → 2 → 8 and models with probabilities of 1 and `2^P - 1` quanta, `P = B = W = 8` at
    the end: `from_binary` succeeds and the schedule runs to completion … -/
example : ∃ x0 log c' y, exCfg.Valid ∧ Words exCfg.W exData ∧ StepsOk exCfg exSteps ∧
    fromBinary exCfg exData = some x0 ∧ runDec exCfg exSteps x0 = some (log, c', y) := by
  obtain ⟨x0, log, c', y, h1, h2, _⟩ := exRun_binary
  exact ⟨x0, log, c', y, exCfg_valid, exData_words, exSteps_ok, h1, h2⟩

/-- … hence `restore_binary` applies to it -/
example : ∃ x0 log c' y, fromBinary exCfg exData = some x0 ∧
    runDec exCfg exSteps x0 = some (log, c', y) ∧ RestoresAll intoBinary exCfg c' log y exData := by
  obtain ⟨x0, log, c', y, h1, h2, _⟩ := exRun_binary
  exact ⟨x0, log, c', y, h1, h2, restore_binary exCfg_valid exData_words h1 exSteps_ok h2⟩

example : ∃ x0 log c' y, fromCompressed exCfg exData = some x0 ∧
    runDec exCfg exSteps x0 = some (log, c', y) ∧
    RestoresAll intoCompressed exCfg c' log y exData := by
  obtain ⟨x0, log, c', y, h1, h2, _⟩ := exRun_compressed
  exact ⟨x0, log, c', y, h1, h2, restore_compressed exCfg_valid exData_words h1 exSteps_ok h2⟩

/-- a coder with both heads exactly on their thresholds satisfies the invariant, and a model
    with a one-quantum symbol is well-formed -/
example : Inv exCfg exCoder ∧ (tableModel [0, 1, 8]).WellFormed exCfg.P :=
  ⟨exCoder_inv, wf_two (by decide) (by decide)⟩

/-- hypotheses of `enc_dec_step` / `dec_enc_step`: the example coder decodes (its compressed
    head is exactly `2^P`, so the buffer branch is taken) and encodes (refill branch, since its
    remainders head is exactly `2^(S-W-P)`) -/
example : (∃ s y, decode exCfg (tableModel [0, 1, 8]) exCoder = .ok (s, y)) ∧
    (∃ y, encode exCfg (tableModel [0, 1, 8]) 1 exCoder = .ok y) :=
  ⟨⟨_, _, rfl⟩, ⟨_, rfl⟩⟩

/-- hypotheses of `precision_inverse`, increasing (3 → 8) and decreasing (3 → 1, with refill) -/
example : PrecOk exCfg.W exCfg.S 8 ∧ PrecOk exCfg.W exCfg.S 1 ∧
    (∃ y, changePrecision exCfg 8 exCoder = .ok y) ∧
    (∃ y, changePrecision exCfg 1 exCoder = .ok y ∧ y.remainders = []) :=
  ⟨by decide, by decide, ⟨_, rfl⟩, ⟨_, rfl, rfl⟩⟩

/-- `errors_not_garbage` is not vacuous either: an exhausted coder reports `outOfData`, a
    coder without remainders refuses to decrease the precision -/
example : decode exCfg (tableModel [0, 1, 8])
      { compressed := [], remainders := [], heads := { compressed := 1, remainders := 32 } }
      = .error .outOfData ∧
    changePrecision exCfg 1
      { compressed := [], remainders := [], heads := { compressed := 1, remainders := 32 } }
      = .error .outOfRemainders :=
  ⟨rfl, rfl⟩

example : ({ W := 8, S := 16, P := 8, B := 8 } : Cfg).Valid := by decide
example : ({ W := 64, S := 128, P := 32, B := 32 } : Cfg).Valid := by decide

end CV.Chain.C13

#print axioms CV.Chain.C13.covers_all_valid
#print axioms CV.Chain.C13.head_invariants_preserved
#print axioms CV.Chain.C13.enc_dec_step
#print axioms CV.Chain.C13.dec_enc_step
#print axioms CV.Chain.C13.precision_inverse
#print axioms CV.Chain.C13.remainders_export_import
#print axioms CV.Chain.C13.undo_restores
#print axioms CV.Chain.C13.restore_binary
#print axioms CV.Chain.C13.restore_compressed
#print axioms CV.Chain.C13.fromCompressed_rejects
#print axioms CV.Chain.C13.errors_not_garbage
#print axioms CV.Chain.C13.errors_not_garbage_history
#print axioms CV.Chain.C13.exporters_no_fault
