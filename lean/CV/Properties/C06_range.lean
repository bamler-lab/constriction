import CV.Proofs.RangeExamples
/-!
# C06 — The range encoder's output is the reference coder's output (component `range`)

`RangeSpec.words` (lean/CV/Spec/RangeSpec.lean, import-free) is the arbitrary-precision
description of range coding with the documented word order, renormalisation threshold and
sealing rule; it knows nothing about `bulk`, `situation`, carries or wrapping arithmetic.
-/
namespace CV.Range

/-- **C06**: for every message, `into_compressed` returns exactly `RangeSpec.words`. -/
theorem C06_range_words_eq_spec {Sym : Type} {c : Cfg} (hc : RValid c) (msg : List (MStep Sym))
    (hn : MsgFits c msg.length) (hv : ∀ x ∈ msg, x.Valid c) :
    ∃ e, encodeMsg c (Encoder.empty c) msg = .ok e ∧
      intoCompressed c e = .ok (RangeSpec.words c.W c.S (msg.map MStep.spec)) := by
  obtain ⟨e, he, _, _, hw⟩ := words_eq_spec hc msg hn hv
  exact ⟨e, he, hw⟩

/-- sealing any state that satisfies the invariant (reachable or not, also while words are
    held back) yields the reference's sealed words for the abstract state -/
theorem C06_range_seal_conforms {c : Cfg} (hc : RValid c) {e : Encoder} (hI : Inv c e)
    (hne : e.range ≠ maxState c) :
    intoCompressed c e = .ok (RangeSpec.sealWords c.W c.S (absE c e)) := by
  rw [intoCompressed_eq hc hI, seal_conforms hc hI hne]

theorem C06_range_run_refines {Sym : Type} {c : Cfg} (hc : RValid c) (msg : List (MStep Sym))
    (hn : MsgFits c msg.length) (hv : ∀ x ∈ msg, x.Valid c) :
    ∃ e, encodeMsg c (Encoder.empty c) msg = .ok e ∧
      absE c e = RangeSpec.run c.W c.S (RangeSpec.init c.S) (msg.map MStep.spec) := by
  obtain ⟨e, he, _, _, habs, _⟩ :=
    encodeMsg_ok 0 msg (Encoder.empty c) (inv_empty hc) (fits_empty hn) hv
  exact ⟨e, he, by rw [habs, absE_empty]⟩

example : RValid exCfg := exCfg_valid
example : MsgFits exCfg exMsg.length := by decide
example : ∀ x ∈ exMsg, x.Valid exCfg := exMsg_valid
example : RangeSpec.words 8 16 (exMsg.map MStep.spec) = [127, 29, 86] := by decide
example : Inv exCfg exInverted ∧ exInverted.range ≠ maxState exCfg := ⟨exInverted_inv, by decide⟩

end CV.Range

#print axioms CV.Range.C06_range_words_eq_spec
#print axioms CV.Range.C06_range_seal_conforms
#print axioms CV.Range.C06_range_run_refines
