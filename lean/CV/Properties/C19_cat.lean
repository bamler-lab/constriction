import CV.Proofs.CatComplete
/-!
# C19 (component `cat`): constructors of the integer entropy models reject invalid input

Everything is about the Impl model of the *repaired* code (D6/D7/D15: at least two symbols;
D8: `infer_last_probability` at `P = B`; D13: symbol/weight counts).  `B = Probability::BITS`,
`P = PRECISION`, for all `1 ≤ P ≤ B`; tables are lists of `Probability` values (`< 2^B`).

**Distinct symbols.**  `C19_ncenc` / `C19_acceptance_iff` show that the hash-table encoder is
accepted only for pairwise distinct symbols (`Nodup`).  `C19_ncdec`, `C19_nclookup` and the
decoder clause of `C19_acceptance_iff` deliberately do **not** mention `Nodup`: the decoder
constructors accept repeated symbols (their symbol type is only `Clone`).  For such input they
return a valid *decoder*, but "a model that satisfies C03" with one interval per symbol is not
shown — the open known finding (see `C05_cat.lean`).
-/
namespace CV.Cat
open CV

/-- **Validator, all constructors at once**: whatever closure and symbol iterator a
    constructor passes to `accumulate_nonzero_probabilities`, `Ok` implies that the table
    (plus the inferred entry) is valid; in particular no entry has probability one and the
    total does not wrap. -/
theorem C19_validator_accepts_only_valid {σ Sym : Type} {B P : Nat}
    {op : σ → Sym → Nat → Nat → Option σ} {syms rest : SymIter Sym} {probs : List Nat}
    {st st' : σ} {infer : Bool} (hP1 : 1 ≤ P) (hP : P ≤ B) (hprobs : ∀ p ∈ probs, p < 2 ^ B)
    (h : accumulate B P op syms probs st infer = some (rest, st')) :
    let qs := if infer then probs ++ [2 ^ P - probs.sum] else probs
    2 ≤ qs.length ∧ (∀ q ∈ qs, 0 < q ∧ q < 2 ^ P) ∧ qs.sum = 2 ^ P := by
  -- `qs` is `fullTable P probs infer` spelled out
  have hv := ((accumulate_eq_some_iff hP1 hP hprobs).mp h).1
  exact ⟨hv.1, fun q hq => ⟨hv.2.1 q hq, hv.lt q hq⟩, hv.2.2⟩

/-- a single symbol carrying the whole mass is never accepted (D6, D7, D15) -/
theorem C19_single_symbol_rejected {σ Sym : Type} {B P : Nat}
    {op : σ → Sym → Nat → Nat → Option σ} {syms : SymIter Sym} {probs : List Nat}
    {st : σ} {infer : Bool} (hP1 : 1 ≤ P) (hP : P ≤ B) (hprobs : ∀ p ∈ probs, p < 2 ^ B)
    (hone : probs.length + (if infer then 1 else 0) < 2) :
    accumulate B P op syms probs st infer = none := by
  cases h : accumulate B P op syms probs st infer with
  | none => rfl
  | some r =>
    obtain ⟨rest, st'⟩ := r
    -- an accepted full table has at least two entries
    have hlen := ((accumulate_eq_some_iff hP1 hP hprobs).mp h).1.1
    cases infer with
    | false => exact absurd hlen (Nat.not_le.mpr hone)
    | true =>
      rw [fullTable, if_pos rfl, List.length_append] at hlen
      exact absurd hlen (Nat.not_le.mpr hone)

/-- a zero entry, an entry `≥ 2^P`, a total other than `2^P` (so also one that wraps), or
    nothing left to infer: rejected -/
theorem C19_listed_rejections {σ Sym : Type} {B P : Nat}
    {op : σ → Sym → Nat → Nat → Option σ} {syms : SymIter Sym} {probs : List Nat}
    {st : σ} {infer : Bool} (hP1 : 1 ≤ P) (hP : P ≤ B) (hprobs : ∀ p ∈ probs, p < 2 ^ B)
    (hbad : (0 ∈ probs) ∨ (∃ p ∈ probs, 2 ^ P ≤ p) ∨ (infer = false ∧ probs.sum ≠ 2 ^ P) ∨
      (infer = true ∧ 2 ^ P ≤ probs.sum)) :
    accumulate B P op syms probs st infer = none := by
  cases h : accumulate B P op syms probs st infer with
  | none => rfl
  | some r =>
    obtain ⟨rest, st'⟩ := r
    exfalso
    obtain ⟨_, h2, h3⟩ := C19_validator_accepts_only_valid hP1 hP hprobs h
    have hmem : ∀ p ∈ probs, p ∈ (if infer then probs ++ [2 ^ P - probs.sum] else probs) := by
      intro p hp; cases infer <;> simp [hp]
    rcases hbad with h0 | ⟨p, hp, hbig⟩ | ⟨hi, hs⟩ | ⟨hi, hs⟩
    · have := (h2 0 (hmem 0 h0)).1; omega
    · have := (h2 p (hmem p hp)).2; omega
    · subst hi; simp at h3; exact hs h3
    · subst hi
      have := (h2 (2 ^ P - probs.sum) (by simp)).1
      omega

/-- **Contiguous model** -/
theorem C19_contiguous_iff {B P : Nat} {probs : List Nat} {m : Contiguous}
    (hP1 : 1 ≤ P) (hP : P ≤ B) (hprobs : ∀ p ∈ probs, p < 2 ^ B) :
    Contiguous.fromNonzeroFixedPoint B P probs false = some m ↔
      ValidProbs P probs ∧ m.cdf = wrapCdf B P (extOf probs) :=
  Contiguous.fromNonzeroFixedPoint_eq_some_iff hP1 hP hprobs

/-- **`infer_last_probability` works at every precision** (D8), and only for valid tables -/
theorem C19_contiguous_infer_iff {B P : Nat} {init : List Nat} {m : Contiguous}
    (hP1 : 1 ≤ P) (hP : P ≤ B) (hprobs : ∀ p ∈ init, p < 2 ^ B) :
    Contiguous.fromNonzeroFixedPoint B P init true = some m ↔
      ValidProbs P (init ++ [2 ^ P - init.sum]) ∧
        m.cdf = wrapCdf B P (extOf (init ++ [2 ^ P - init.sum])) :=
  Contiguous.fromNonzeroFixedPoint_eq_some_iff hP1 hP hprobs

theorem C19_contiguous_valid {B P : Nat} {probs : List Nat} {infer : Bool} {m : Contiguous}
    (hP1 : 1 ≤ P) (hP : P ≤ B) (hprobs : ∀ p ∈ probs, p < 2 ^ B)
    (h : Contiguous.fromNonzeroFixedPoint B P probs infer = some m) : ValidCdf B P m.cdf :=
  Contiguous.fromNonzeroFixedPoint_valid hP1 hP hprobs h

/-- **Non-contiguous decoder model**: never panics -/
theorem C19_ncdec {Sym : Type} {B P : Nat} {syms : List Sym} {probs : List Nat} {infer : Bool}
    (hP1 : 1 ≤ P) (hP : P ≤ B) (hprobs : ∀ p ∈ probs, p < 2 ^ B) :
    (NcDec.fromSymbolsAndNonzeroFixedPoint B P syms probs infer = .ok none) ∨
    ∃ m qs last, NcDec.fromSymbolsAndNonzeroFixedPoint B P syms probs infer = .ok (some m) ∧
      ValidProbs P qs ∧ qs = (if infer then probs ++ [2 ^ P - probs.sum] else probs) ∧
      syms.length = qs.length ∧ m.cdf = ncCdf B P syms (extOf qs) last ∧
      ValidCdf B P (m.cdf.map (·.1)) := by
  rcases NcDec.fromFixed_some (syms := syms) (infer := infer) hP1 hP hprobs with
    h | ⟨m, last, h1, h2, h4, h5⟩
  · exact Or.inl h
  · refine Or.inr ⟨m, _, last, h1, h2, rfl, h4, h5, ?_⟩
    rw [h5]
    exact (ncCdf_valid (extOf_valid h2) (by rw [extOf_length]; exact congrArg (· + 1) h4)).1

/-- **Hash-table encoder model** -/
theorem C19_ncenc {Sym : Type} [DecidableEq Sym] [Inhabited Sym] {B P : Nat}
    {syms : List Sym} {probs : List Nat} {infer : Bool} {m : NcEnc Sym}
    (hP1 : 1 ≤ P) (hP : P ≤ B) (hprobs : ∀ p ∈ probs, p < 2 ^ B)
    (h : NcEnc.fromSymbolsAndNonzeroFixedPoint B P syms probs infer = some m) :
    ∃ qs, ValidProbs P qs ∧ qs = (if infer then probs ++ [2 ^ P - probs.sum] else probs) ∧
      syms.length = qs.length ∧ syms.Nodup ∧
      m.tbl = specTable (fun i => syms.getD i default) (extOf qs) :=
  have ⟨hv, hlen, hnd, htbl⟩ := NcEnc.fromFixed_some hP1 hP hprobs h
  ⟨_, hv, rfl, hlen, hnd, htbl⟩

/-- **Contiguous lookup model** -/
theorem C19_lookup {B P : Nat} {probs : List Nat} {infer : Bool} {m : Lookup}
    (hP1 : 1 ≤ P) (hP : P ≤ B) (hprobs : ∀ p ∈ probs, p < 2 ^ B)
    (h : Lookup.fromNonzeroFixedPoint B P probs infer = some m) :
    ∃ qs, ValidProbs P qs ∧ qs = (if infer then probs ++ [2 ^ P - probs.sum] else probs) ∧
      m.cdf = wrapCdf B P (extOf qs) ∧ ValidCdf B P m.cdf ∧ LookupOK P (unwrap P m.cdf) m.tbl :=
  have ⟨hv, hcdf, hvalid, hok⟩ := Lookup.fromFixed_some hP1 hP hprobs h
  ⟨_, hv, rfl, hcdf, hvalid, hok⟩

/-- **Non-contiguous lookup model**: never panics -/
theorem C19_nclookup {Sym : Type} [Inhabited Sym] {B P : Nat} {syms : List Sym}
    {probs : List Nat} {infer : Bool} (hP1 : 1 ≤ P) (hP : P ≤ B) (hprobs : ∀ p ∈ probs, p < 2 ^ B) :
    (NcLookup.fromSymbolsAndNonzeroFixedPoint B P syms probs infer = .ok none) ∨
    ∃ m qs last, NcLookup.fromSymbolsAndNonzeroFixedPoint B P syms probs infer = .ok (some m) ∧
      ValidProbs P qs ∧ qs = (if infer then probs ++ [2 ^ P - probs.sum] else probs) ∧
      syms.length = qs.length ∧ m.cdf = ncCdf B P syms (extOf qs) last ∧
      LookupOK P (extOf qs) m.tbl :=
  (NcLookup.fromFixed_some hP1 hP hprobs).imp_right
    fun ⟨m, last, h1, hv, hlen, hcdf, hok⟩ => ⟨m, _, last, h1, hv, rfl, hlen, hcdf, hok⟩

/-- **acceptance criteria, both directions**, for the remaining fixed-point constructors
    (counts: D13).  In particular `infer_last_probability` works at `P = B` for all of
    them (D8). -/
theorem C19_acceptance_iff {Sym : Type} [DecidableEq Sym] [Inhabited Sym] {B P : Nat}
    {syms : List Sym} {probs : List Nat} {infer : Bool}
    (hP1 : 1 ≤ P) (hP : P ≤ B) (hprobs : ∀ p ∈ probs, p < 2 ^ B) :
    ((∃ m, NcEnc.fromSymbolsAndNonzeroFixedPoint B P syms probs infer = some m) ↔
      ValidProbs P (fullTable P probs infer) ∧ syms.length = (fullTable P probs infer).length ∧
        syms.Nodup) ∧
    ((∃ m, NcDec.fromSymbolsAndNonzeroFixedPoint B P syms probs infer = .ok (some m)) ↔
      ValidProbs P (fullTable P probs infer) ∧ syms.length = (fullTable P probs infer).length) ∧
    ((∃ m, Lookup.fromNonzeroFixedPoint B P probs infer = some m) ↔
      ValidProbs P (fullTable P probs infer)) :=
  ⟨NcEnc.fromFixed_iff hP1 hP hprobs, NcDec.fromFixed_iff hP1 hP hprobs,
   Lookup.fromFixed_iff hP1 hP hprobs⟩

/-- mismatched symbol / weight counts in the `…_fast` constructors (D13) never give a model -/
theorem C19_fast_counts {Sym : Type} [DecidableEq Sym] {B P : Nat} {syms : List Sym}
    {cdf : List Nat} (h : syms.length ≠ cdf.length) :
    NcDec.fromSymbolsAndCdf B P syms cdf = .ok none ∧
    (∀ m, NcEnc.fromSymbolsAndCdf B P syms cdf ≠ .ok (some m)) ∧
    (∀ m, NcLookup.fromSymbolsAndCdf B P syms cdf ≠ .ok (some m)) :=
  ⟨NcDec.fromSymbolsAndCdf_mismatch h,
   fun _ hm => h (NcEnc.fromSymbolsAndCdf_length_eq hm),
   fun _ hm => h (NcLookup.fromSymbolsAndCdf_length_eq hm)⟩

/-- **`UniformModel::new`**, `P = B` included; panics (never UB) otherwise -/
theorem C19_uniform {B P range : Nat} (hP1 : 1 ≤ P) (hP : P ≤ B) (hPU : P ≤ U)
    (hr : range < 2 ^ U) :
    (2 ≤ range ∧ range ≤ 2 ^ P →
      Uniform.new B P range = .ok { ppb := 2 ^ P / range, last := range - 1 }) ∧
    (¬ (2 ≤ range ∧ range ≤ 2 ^ P) → ∃ site, Uniform.new B P range = .error (.panic site)) :=
  ⟨fun h => Uniform.new_ok hP1 hP hPU hr h.1 h.2, Uniform.new_panics hP1 hP⟩

/-! non-vacuity: concrete instances (`u8`, `P = B = 8`) -/

example : Contiguous.fromNonzeroFixedPoint 8 8 [100, 100] true = some { cdf := [0, 100, 200, 0] } := by
  decide
example : Contiguous.fromNonzeroFixedPoint 8 8 [100, 100, 56] false = some { cdf := [0, 100, 200, 0] } := by
  decide
/-- the D6 / D7 / D15 inputs -/
example : Contiguous.fromNonzeroFixedPoint 8 8 [0] false = none := by decide
example : Contiguous.fromNonzeroFixedPoint 8 3 [] true = none := by decide
example : Contiguous.fromNonzeroFixedPoint 8 3 [8] false = none := by decide
example : ValidProbs 8 [100, 100, 56] := ⟨by decide, by decide, by decide⟩
example : ValidProbs 8 (fullTable 8 [100, 100] true) := ⟨by decide, by decide, by decide⟩
example : Uniform.new 8 8 10 = .ok { ppb := 25, last := 9 } := by rfl

#print axioms C19_validator_accepts_only_valid
#print axioms C19_single_symbol_rejected
#print axioms C19_listed_rejections
#print axioms C19_contiguous_iff
#print axioms C19_contiguous_infer_iff
#print axioms C19_contiguous_valid
#print axioms C19_ncdec
#print axioms C19_ncenc
#print axioms C19_lookup
#print axioms C19_nclookup
#print axioms C19_acceptance_iff
#print axioms C19_fast_counts
#print axioms C19_uniform

end CV.Cat
