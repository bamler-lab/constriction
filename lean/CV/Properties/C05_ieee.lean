import CV.Properties.C03_ieee
import CV.Properties.C05_quant
/-!
# C05 (component `quant`): eager and lazy `…_fast` models are the same model — float layer inside the logic

`C05_eager_enc_eq_lazy_enc` compares the eager and the lazy encoder over *one* integer sequence
`h`; that the two constructors really produce the same sequence (the eager one sums the table
from `+0.0` inside `fast_quantized_cdf`, the lazy encoder with `iter().sum()`, i.e. from `-0.0`)
is, for the hardware floats, run-time evidence only (`mono=` certificate, `d4_hL_eq_hE` by
evaluation).  On the software IEEE model it is a theorem for every table, normalisation, format,
`B`, `P`: `hL i = hE i` for every index, hence the eager encoder (over `hE`) and the lazy encoder
(over `hL`) return the same answer for every symbol and neither faults, with no float hypothesis.

(The lazy *decoder*'s float-only skip phase, TB-F2, stays a hypothesis: `C05_lazy_dec_eq_spec`.)
-/
namespace CV.Quant
open CV

/-- **both constructors hand the same integers to the fixed-point layer** -/
theorem C05_ieee_same_sequence (f : Fmt) {B P : Nat} {probs : List SF} {norm : Option SF}
    {ctx : FastCtx SF} (h : fastSetup f.ops B P probs norm = some ctx) (i : Nat) :
    ctx.hL f.ops B i = ctx.hE f.ops B i :=
  soft_hL_eq_hE f h i

/-- **C05, eager.enc = lazy.enc on IEEE floats, unconditionally** -/
theorem C05_ieee_eager_enc_eq_lazy_enc (f : Fmt) (hp : 1 ≤ f.p) {B P : Nat} {probs : List SF}
    {norm : Option SF} {ctx : FastCtx SF} (hP1 : 1 ≤ P) (hPB : P ≤ B) (hB : B ≤ 64)
    (hacc : fastSetup f.ops B P probs norm = some ctx) :
    ∃ cdf, fastCdf B P ctx.n ctx.free (ctx.hE f.ops B) = .ok cdf ∧
      ∀ s, eagerEnc B cdf s = lazyEnc B P ctx.n ctx.free (ctx.hL f.ops B) s ∧
        ∃ r, lazyEnc B P ctx.n ctx.free (ctx.hL f.ops B) s = .ok r := by
  obtain ⟨hlen, _, hn, hfree, _, _⟩ := fastSetup_some f.ops hacc
  rw [funext (soft_hL_eq_hE f hacc), hn, hfree]
  exact C05_eager_enc_eq_lazy_enc hP1 hPB hB hlen (hn ▸ soft_tbf1 f hp hacc)

/-- non-vacuity: the D4 `f32` table is accepted by the software model (`d4soft_accepted`) -/
example : ∃ ctx, fastSetup sf32Ops 32 24
    ([0x428d2ec2, 0x3ee93b54, 0x42466cd6, 0x3ee98848, 0].map binary32.ofBits) none = some ctx ∧
    ∀ i, ctx.hL sf32Ops 32 i = ctx.hE sf32Ops 32 i := by
  obtain ⟨ctx, hctx⟩ := Option.isSome_iff_exists.1 d4soft_accepted
  exact ⟨ctx, hctx, C05_ieee_same_sequence binary32 hctx⟩

end CV.Quant

#print axioms CV.Quant.C05_ieee_same_sequence
#print axioms CV.Quant.C05_ieee_eager_enc_eq_lazy_enc
