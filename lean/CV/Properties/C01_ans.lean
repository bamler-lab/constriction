import CV.Proofs.AnsExport
import CV.Proofs.AnsAtomic
import CV.Proofs.RangeTableModel
/-!
# C01 — the ANS coder is a lossless stack under any history

About the Impl model `CV.Ans`, for all widths and precisions admitted by the crate (`Cfg.Valid`),
all coders satisfying the documented invariant `Inv`, all well-formed entropy models.
-/
namespace CV.Ans.C01
open CV CV.Ans

variable {Sym : Type}

/-- Push then pop: `encode` succeeds (no fault, no truncation) and a following `decode` with the
    same model returns the pushed symbol and **exactly** the previous coder. -/
theorem decode_encode {c : Cfg} (hc : c.Valid) {m : Model Sym} (hm : m.WellFormed c.P)
    {x : Coder} (hx : Inv c x) (hcap : x.cap = none) {s : Sym} {cp : Nat × Nat}
    (henc : m.enc s = some cp) :
    ∃ y, encode c m s x = .ok y ∧ Inv c y ∧ y.cap = none ∧ decode c m y = .ok (s, x) := by
  obtain ⟨cum, p⟩ := cp
  have hinv := encArith_inv hc hx (hm.cpok henc)
  exact ⟨_, encode_spec hc hm hx hcap henc, hinv, (cap_encArith ..).trans hcap,
    (decode_spec hc hm hinv).trans (congrArg _ (decArith_encArith hc hm hx henc))⟩

/-- Export then re-import is the identity on coders (hence on all later behaviour). -/
theorem import_export {c : Cfg} (hc : c.Valid) {x : Coder} (hx : Inv c x) (hcap : x.cap = none) :
    ∃ ws, intoCompressed c x = some ws ∧ fromCompressed c ws = some x := by
  rcases intoCompressed_cases hc hx hcap with ⟨h0, hb, h'⟩ | ⟨n, top, rfl, _, hpos, hlt, h'⟩
  · exact ⟨_, h', congrArg some (Coder.ext3 hb.symm h0.symm hcap.symm)⟩
  · refine ⟨_, h', ?_⟩
    simp only [fromCompressed, if_neg (Nat.ne_of_gt hpos)]
    cases n with
    | zero =>
      -- a single chunk: state < 2^W, hence bulk = []
      rw [Nat.zero_mul, Nat.pow_zero, Nat.div_one] at hlt ⊢
      have hb := hx.bulk_nil (Nat.lt_of_lt_of_le hlt hc.pow_W_le)
      rw [digitsBE_zero, hb]
      exact congrArg some (Coder.ext3 hb.symm rfl hcap.symm)
    | succ n =>
      rw [readInitialLoop_digits hc hx.1 x.bulk hx.2.2 n]
      exact congrArg some (Coder.ext3 rfl rfl hcap.symm)

/-- `into_compressed` never returns data with a trailing zero word. -/
theorem no_trailing_zero {c : Cfg} (hc : c.Valid) {x : Coder} (hx : Inv c x) (hcap : x.cap = none)
    {w : Nat} {rest : List Nat} (h : intoCompressed c x = some (w :: rest)) : w ≠ 0 := by
  rcases intoCompressed_cases hc hx hcap with ⟨_, _, h'⟩ | ⟨n, top, _, _, hpos, _, h'⟩
  · rw [h'] at h; cases h
  · rw [h'] at h; cases h; exact Nat.ne_of_gt hpos

/-! ## Histories -/

structure Entry (Sym : Type) where
  P : Nat
  B : Nat
  m : Model Sym
  s : Sym

def Entry.cfg (W S : Nat) (e : Entry Sym) : Cfg := { W := W, S := S, P := e.P, B := e.B }

def Entry.OK (W S : Nat) (e : Entry Sym) : Prop :=
  (e.cfg W S).Valid ∧ e.m.WellFormed e.P ∧ ∃ cp, e.m.enc e.s = some cp

inductive Op (Sym : Type) where
  /-- `encode_symbol(e.s, e.m)` at precision `e.P` -/
  | push (e : Entry Sym)
  /-- `decode_symbol` with the model of the most recent not-yet-popped push (no-op if none) -/
  | pop
  /-- `decode_symbol(e.m)` while nothing pushed is left: moves the base (no-op otherwise) -/
  | popBelow (e : Entry Sym)
  /-- `into_compressed` followed by `from_compressed` -/
  | reload
  /-- continue with a clone -/
  | clone

def Op.OK (W S : Nat) : Op Sym → Prop
  | .push e => e.OK W S
  | .popBelow e => (e.cfg W S).Valid ∧ e.m.WellFormed e.P
  | _ => True

structure RunState (Sym : Type) where
  coder : Coder
  /-- ghost: the coder as it was when the oldest not-yet-popped push was made -/
  base : Coder
  /-- ghost: not-yet-popped pushes, most recent first -/
  ghost : List (Entry Sym)
  /-- symbols returned by `pop`, most recent first -/
  outs : List Sym

inductive RunErr where
  | enc (e : EncErr)
  | fault (f : Fault)
  | importFailed

def step (W S : Nat) (st : RunState Sym) : Op Sym → Except RunErr (RunState Sym)
  | .push e =>
    match encode (e.cfg W S) e.m e.s st.coder with
    | .ok y => .ok { st with coder := y, ghost := e :: st.ghost }
    | .error err => .error (.enc err)
  | .pop =>
    match st.ghost with
    | [] => .ok st
    | e :: g =>
      match decode (e.cfg W S) e.m st.coder with
      | .ok (s, y) => .ok { st with coder := y, ghost := g, outs := s :: st.outs }
      | .error f => .error (.fault f)
  | .popBelow e =>
    match st.ghost with
    | [] =>
      match decode (e.cfg W S) e.m st.coder with
      | .ok (_, y) => .ok { st with coder := y, base := y }
      | .error f => .error (.fault f)
    | _ :: _ => .ok st
  | .reload =>
    match intoCompressed { W := W, S := S, P := 1, B := 1 } st.coder with
    | some ws =>
      match fromCompressed { W := W, S := S, P := 1, B := 1 } ws with
      | some y => .ok { st with coder := y }
      | none => .error .importFailed
    | none => .error .importFailed
  | .clone => .ok st

def run (W S : Nat) : RunState Sym → List (Op Sym) → Except RunErr (RunState Sym)
  | st, [] => .ok st
  | st, op :: ops =>
    match step W S st op with
    | .ok st' => run W S st' ops
    | .error e => .error e

/-- the specification: a plain stack of symbols -/
def specRun : List Sym → List (Op Sym) → List Sym → List Sym × List Sym
  | g, [], outs => (g, outs)
  | g, .push e :: ops, outs => specRun (e.s :: g) ops outs
  | s :: g, .pop :: ops, outs => specRun g ops (s :: outs)
  | [], .pop :: ops, outs => specRun [] ops outs
  | g, _ :: ops, outs => specRun g ops outs

/-- the coder obtained from `base` by pushing the entries of `g` (most recent first) -/
def replay (W S : Nat) (base : Coder) : List (Entry Sym) → Coder
  | [] => base
  | e :: g =>
    match e.m.enc e.s with
    | some (cum, p) => encArith (e.cfg W S) (replay W S base g) cum p
    | none => replay W S base g

theorem encArith_cap (c : Cfg) (x : Coder) (cum p : Nat) : (encArith c x cum p).cap = x.cap :=
  cap_encArith c x cum p

theorem decArith_cap (c : Cfg) (m : Model Sym) (x : Coder) : (decArith c m x).2.cap = x.cap :=
  cap_decArith c m x

theorem inv_congr {c c' : Cfg} (hW : c.W = c'.W) (hS : c.S = c'.S) {x : Coder} (h : Inv c x) :
    Inv c' x :=
  h.congr hW hS

theorem replay_inv {W S : Nat} {base : Coder} (hb : ∀ c : Cfg, c.W = W → c.S = S → Inv c base)
    (hcap : base.cap = none) (g : List (Entry Sym)) (hg : ∀ e ∈ g, e.OK W S) :
    (∀ c : Cfg, c.W = W → c.S = S → Inv c (replay W S base g)) ∧ (replay W S base g).cap = none := by
  induction g with
  | nil => exact ⟨hb, hcap⟩
  | cons e g ih =>
    have ⟨ih1, ih2⟩ := ih (fun e he => hg e (List.mem_cons_of_mem _ he))
    obtain ⟨hv, hm, ⟨cum, p⟩, henc⟩ := hg e List.mem_cons_self
    simp only [replay, henc]
    exact ⟨fun c hW hS => (encArith_inv hv (ih1 (e.cfg W S) rfl rfl) (hm.cpok henc)).congr hW.symm hS.symm,
      (cap_encArith ..).trans ih2⟩

/-- what a history maintains: the coder is the base plus the un-popped pushes -/
def Good (W S : Nat) (st : RunState Sym) : Prop :=
  Inv { W := W, S := S, P := 1, B := 1 } st.base ∧ st.base.cap = none ∧
    (∀ e ∈ st.ghost, e.OK W S) ∧ st.coder = replay W S st.base st.ghost

theorem step_refines {W S : Nat} (hWS : 1 ≤ W ∧ 2 * W ≤ S) (op : Op Sym) (hop : op.OK W S)
    (st : RunState Sym) (hst : Good W S st) :
    ∃ st', step W S st op = .ok st' ∧ Good W S st' ∧
      ∀ ops, specRun (st.ghost.map (·.s)) (op :: ops) st.outs
        = specRun (st'.ghost.map (·.s)) ops st'.outs := by
  have ⟨hbase, hcap, hghost, hcoder⟩ := hst
  have hbase' : ∀ c : Cfg, c.W = W → c.S = S → Inv c st.base :=
    fun c hW hS => hbase.congr hW.symm hS.symm
  have ⟨hinv, hcap'⟩ := replay_inv hbase' hcap _ hghost
  rw [← hcoder] at hinv hcap'
  cases op with
  | push e =>
    obtain ⟨hv, hm, ⟨cum, p⟩, henc⟩ := hop
    refine ⟨{ st with coder := encArith (e.cfg W S) st.coder cum p, ghost := e :: st.ghost }, ?_,
      ⟨hbase, hcap, List.forall_mem_cons.2 ⟨⟨hv, hm, _, henc⟩, hghost⟩, ?_⟩, fun _ => rfl⟩
    · simp only [step, encode_spec hv hm (hinv _ rfl rfl) hcap' henc]
    · simp only [replay, henc, hcoder]
  | pop =>
    cases hg : st.ghost with
    | nil => exact ⟨st, by simp only [step, hg], hst, fun _ => by rw [hg]; rfl⟩
    | cons e g =>
      rw [hg] at hghost hcoder
      obtain ⟨⟨hv, hm, ⟨cum, p⟩, henc⟩, hgOK⟩ := List.forall_mem_cons.1 hghost
      have ⟨hinvg, _⟩ := replay_inv hbase' hcap g hgOK
      -- the coder is `encArith` of the coder below, so decoding returns that coder
      have hdec : decode (e.cfg W S) e.m st.coder = .ok (e.s, replay W S st.base g) := by
        rw [decode_spec hv hm (hinv _ rfl rfl), hcoder]
        simp only [replay, henc]
        rw [decArith_encArith hv hm (hinvg _ rfl rfl) henc]
      exact ⟨{ st with coder := replay W S st.base g, ghost := g, outs := e.s :: st.outs },
        by simp only [step, hg, hdec], ⟨hbase, hcap, hgOK, rfl⟩, fun _ => rfl⟩
  | popBelow e =>
    cases hg : st.ghost with
    | nil =>
      obtain ⟨hv, hm⟩ := hop
      have hinvc : Inv (e.cfg W S) st.coder := hinv _ rfl rfl
      obtain ⟨_, _, _, _, hi, _⟩ := encArith_decArith hv hm hinvc
      exact ⟨{ st with coder := (decArith (e.cfg W S) e.m st.coder).2,
                       base := (decArith (e.cfg W S) e.m st.coder).2 },
        by simp only [step, hg, decode_spec hv hm hinvc],
        ⟨hi.congr rfl rfl, (cap_decArith ..).trans hcap', hg ▸ hghost, by simp only [hg]; rfl⟩,
        fun _ => by rw [hg]; rfl⟩
    | cons e' g =>
      exact ⟨st, by simp only [step, hg], hst, fun _ => by rw [hg]; rfl⟩
  | reload =>
    obtain ⟨ws, hw1, hw2⟩ := import_export (valid_base hWS) (hinv _ rfl rfl) hcap'
    exact ⟨st, by simp only [step, hw1, hw2], hst, fun _ => rfl⟩
  | clone => exact ⟨st, rfl, hst, fun _ => rfl⟩

/-- **C01 (history form).** In every finite history of pushes, pops, pops below the base,
    export/re-import round trips and clones, with any per-symbol precision and model, nothing
    faults, every `pop` returns the symbol of the most recent not-yet-popped push, and once
    everything pushed has been popped the coder *is* the base coder again. -/
theorem run_refines_stack {W S : Nat} (hWS : 1 ≤ W ∧ 2 * W ≤ S)
    (ops : List (Op Sym)) (hops : ∀ op ∈ ops, op.OK W S)
    (st : RunState Sym)
    (hbase : Inv { W := W, S := S, P := 1, B := 1 } st.base) (hcap : st.base.cap = none)
    (hghost : ∀ e ∈ st.ghost, e.OK W S)
    (hcoder : st.coder = replay W S st.base st.ghost) :
    ∃ fin, run W S st ops = .ok fin ∧
      Inv { W := W, S := S, P := 1, B := 1 } fin.coder ∧
      fin.coder = replay W S fin.base fin.ghost ∧
      (fin.ghost.map (·.s), fin.outs) = specRun (st.ghost.map (·.s)) ops st.outs ∧
      (fin.ghost = [] → fin.coder = fin.base) := by
  induction ops generalizing st with
  | nil =>
    refine ⟨st, rfl, ?_, hcoder, rfl, fun h => by rw [hcoder, h]; rfl⟩
    rw [hcoder]
    exact (replay_inv (fun c hW hS => hbase.congr hW.symm hS.symm) hcap _ hghost).1 _ rfl rfl
  | cons op ops ih =>
    obtain ⟨hop, hrest⟩ := List.forall_mem_cons.1 hops
    obtain ⟨st', hstep, ⟨hb', hc', hg', hco'⟩, hspec⟩ :=
      step_refines hWS op hop st ⟨hbase, hcap, hghost, hcoder⟩
    obtain ⟨fin, h1, h2, h3, h4, h5⟩ := ih hrest st' hb' hc' hg' hco'
    exact ⟨fin, by simp only [run, hstep]; exact h1, h2, h3, (hspec ops).symm ▸ h4, h5⟩

/-! ## Batch / reverse / fallible-iterator forms

`Model/Ans.lean` transcribes the default trait methods (`encode_symbols`, `try_encode_symbols`,
`encode_iid_symbols`, the `_reverse` helpers) as the loop they are, over items that may be `Err`
(`none`).  That the *real* batch methods equal these loops is what the correspondence and the
twin-coder oracle check. -/

/-- the caller's per-symbol loop: call `encode_symbol` for each pair, stop at the first error -/
def perSymbolLoop (c : Cfg) : Coder → List (Sym × Model Sym) → Coder × Except EncErr Unit
  | x, [] => (x, .ok ())
  | x, (s, m) :: rest =>
    match encodeSymbolM c m s x with
    | (y, .ok ()) => perSymbolLoop c y rest
    | (y, .error e) => (y, .error e)

/-- **batch form = per-symbol loop**, also where a symbol is impossible or the backend fills up -/
theorem encodeSymbols_eq_perSymbolLoop (c : Cfg) (items : List (Sym × Model Sym)) (x : Coder) :
    encodeSymbols c x (items.map some) =
      ((perSymbolLoop c x items).1,
        match (perSymbolLoop c x items).2 with
        | .ok () => .ok ()
        | .error e => .error (.coding e)) := by
  induction items generalizing x with
  | nil => rfl
  | cons a rest ih =>
    obtain ⟨s, m⟩ := a
    simp only [List.map_cons, encodeSymbols, perSymbolLoop]
    cases h : encodeSymbolM c m s x with
    | mk y r =>
      cases r with
      | ok u => cases u; simp only; exact ih y
      | error e => rfl

theorem encodeSymbols_step_ok (c : Cfg) (x y : Coder) (s : Sym) (m : Model Sym)
    (rest : List (Option (Sym × Model Sym))) (h : encode c m s x = .ok y) :
    encodeSymbols c x (some (s, m) :: rest) = encodeSymbols c y rest := by
  have := encodeSymbolM_spec c m s x
  rw [h] at this
  simp only [encodeSymbols, show encodeSymbolM c m s x = (y, .ok ()) from this]

theorem encodeSymbolsReverse_def {c : Cfg} (x : Coder) (items : List (Option (Sym × Model Sym))) :
    encodeSymbolsReverse c x items = encodeSymbols c x items.reverse := rfl

/-- an `Err` item (fallible forms) stops the loop with the coder as the prefix left it -/
theorem tryEncode_stops_at_err {c : Cfg} (x : Coder) (rest : List (Option (Sym × Model Sym))) :
    encodeSymbols c x (none :: rest) = (x, .error .model) := rfl

/-! ## Non-vacuity: the hypotheses are satisfiable by non-trivial instances -/

/-- `AnsCoder<u8,u16>`, non-empty bulk, state exactly on the normalisation threshold -/
example : Inv { W := 8, S := 16, P := 8, B := 8 } { bulk := [0x3f, 0], state := 256 } := by
  refine ⟨by decide, ?_, fun _ => by decide⟩
  intro w hw; simp at hw; rcases hw with h | h <;> subst h <;> decide

example : ({ W := 8, S := 16, P := 8, B := 8 } : Cfg).Valid := by decide
/-- `P = W = B` with a 128-bit state is admitted -/
example : ({ W := 32, S := 128, P := 32, B := 32 } : Cfg).Valid := by decide

/-- the harness's table model with a symbol of one quantum and one of `2^P - 1` quanta -/
example : (tableModel [0, 255, 256]).WellFormed 8 :=
  CV.tableModel_wf (CV.strictCdf_of_check (by decide))

/-- the hypotheses of `run_refines_stack` hold for a concrete history on `AnsCoder<u8,u16>` -/
example : ∀ op ∈ ([.push ⟨8, 8, tableModel [0, 255, 256], 1⟩, .push ⟨8, 8, tableModel [0, 255, 256], 0⟩,
      .reload, .pop, .pop] : List (Op Nat)), op.OK 8 16 := by
  have hwf : (tableModel [0, 255, 256]).WellFormed 8 :=
    CV.tableModel_wf (CV.strictCdf_of_check (by decide))
  intro op hop
  simp only [List.mem_cons, List.mem_nil_iff, or_false] at hop
  rcases hop with h | h | h | h | h <;> subst h
  · exact ⟨by decide, hwf, (255, 1), by decide⟩
  · exact ⟨by decide, hwf, (0, 255), by decide⟩
  · trivial
  · trivial
  · trivial

end CV.Ans.C01

#print axioms CV.Ans.C01.decode_encode
#print axioms CV.Ans.C01.import_export
#print axioms CV.Ans.C01.no_trailing_zero
#print axioms CV.Ans.C01.run_refines_stack
#print axioms CV.Ans.C01.encArith_cap
#print axioms CV.Ans.C01.decArith_cap
#print axioms CV.Ans.C01.replay_inv
#print axioms CV.Ans.C01.inv_congr
#print axioms CV.Ans.C01.encodeSymbols_eq_perSymbolLoop
#print axioms CV.Ans.C01.encodeSymbols_step_ok
#print axioms CV.Ans.C01.encodeSymbolsReverse_def
#print axioms CV.Ans.C01.tryEncode_stops_at_err
