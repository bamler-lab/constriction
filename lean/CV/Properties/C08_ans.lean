import CV.Proofs.AnsExport
import CV.Proofs.AnsBinary
/-!
# C08 (ANS part) — inspecting a coder never changes what it will output
-/
namespace CV.Ans.C08
open CV CV.Ans

/-- The `get_compressed()` guard shows what `into_compressed()` would return at that moment, and
    after it is dropped the coder is *identical* to what it was — also on an empty coder and
    directly after a word boundary: there is no side condition. -/
theorem get_compressed_noop (c : Cfg) {x : Coder} (hcap : x.cap = none) :
    getCompressedThenDrop c x = some x ∧
    ∃ ws, intoCompressed c x = some ws ∧ iterCompressed c x = ws.reverse := by
  refine ⟨getCompressed_guard hcap, _, intoCompressed_none hcap, ?_⟩
  exact iterCompressed_eq c x

/-- The raw-binary view: the words `get_binary()` shows are those the consuming `into_binary()`
    returns, and dropping the guard restores the coder exactly. -/
theorem get_binary_noop (c : Cfg) (hc : c.Valid) {x : Coder} (hcap : x.cap = none) {k v : Nat}
    (hst : x.state = 2^(k * c.W) + v) (hv : v < 2^(k * c.W)) :
    ∃ ws, getBinary c x = .ok ws ∧ intoBinary c x = .ok ws ∧ getBinaryThenDrop c x = some x := by
  refine ⟨_, getBinary_marker hc hcap hst hv, intoBinary_marker hc hcap hst hv, ?_⟩
  exact getBinary_guard hcap (getBinary_marker hc hcap hst hv)

/-- Bounded backends (`Cursor` of any capacity): whenever the guard can be created, dropping it
    restores the coder exactly. When it cannot (backend full), the repaired code (`fix:` D21)
    pops what it had written, which the model expresses by not producing a new coder at all;
    the correspondence check exercises exactly this path (`ansc … | getc`). -/
theorem get_compressed_noop_bounded (c : Cfg) {x y : Coder} (h : getCompressedThenDrop c x = some y) :
    y = x := by
  unfold getCompressedThenDrop at h
  split at h
  · next z hz => cases h; exact dropReads_pushAll _ hz
  · cases h

/-- whenever `get_binary()` succeeds, dropping its guard restores the coder exactly -/
theorem get_binary_fail_noop (c : Cfg) {x : Coder} (hcap : x.cap = none) {ws : List Nat}
    (h : getBinary c x = .ok ws) : getBinaryThenDrop c x = some x :=
  getBinary_guard hcap h

/-- `n` times in a row: open the `get_compressed()` guard and drop it again -/
def inspectN (c : Cfg) : Nat → Coder → Coder
  | 0, y => y
  | n + 1, y => inspectN c n ((getCompressedThenDrop c y).getD y)

/-- Size and emptiness queries, `iter_compressed`, `clone`, `pos` return no new coder in the
    model, so the only inspections that touch the coder are the two guards above; any number of
    guard open/close pairs at one point leaves the coder unchanged. -/
theorem inspect_erasure (c : Cfg) {x : Coder} (hcap : x.cap = none) (n : Nat) :
    inspectN c n x = x := by
  induction n with
  | zero => rfl
  | succ n ih =>
    simp only [inspectN, getCompressed_guard hcap, Option.getD_some]
    exact ih

end CV.Ans.C08

#print axioms CV.Ans.C08.get_compressed_noop
#print axioms CV.Ans.C08.get_binary_noop
#print axioms CV.Ans.C08.get_compressed_noop_bounded
#print axioms CV.Ans.C08.get_binary_fail_noop
#print axioms CV.Ans.C08.inspect_erasure
