import CV.Proofs.QuantExamples
import CV.Proofs.QuantCatLink
import CV.Proofs.QuantNoUb
import CV.Proofs.QuantPerfect
/-!
# C20 (component `quant`): no unsafe precondition of the float-derived models is reachable

After D25 (symbol-table iterator) and D27 (`quantile_function`) every conversion to `NonZero` in
`quantize.rs` is the checked `into_nonzero().expect(..)`; the pre-repair code reached
`NonZero::new_unchecked(0)` from safe code in both places (reproducers in `corpus/quant/repro.txt`).
A `Distribution` is a safe trait and may return anything, so the statements come in two forms:

* for arbitrary distributions (non-monotone, outside `[0, 1]`, NaN …; any hint, any fuel): never a
  `Fault.ub`; what a broken CDF can reach are the documented panics;
* for valid distributions (`GOk`) and for the categorical models under TB-F1/TB-F2: no `Fault` of
  any kind.  The remaining unsafe sites on these paths are in `contiguous.rs` (`get_unchecked`,
  `into_nonzero_unchecked` of the eager encoder: `contiguous.enc.*`, discharged by
  `C20_eager_enc_no_fault` and by `cat`'s theorems from `ValidCdf`) and the
  `pmf.get_unchecked(..symbol)` of the lazy encoder, which is guarded by `pmf.get(symbol)?`
  (the model returns `.ok none` first: `C09_lazy_out_of_support`).

Label: **partial** by nature (DESIGN §6 C20): model-level obligations proved; memory behaviour
validated by the checked build (the invalid-CDF generator/oracle class runs under it).
-/
namespace CV.Quant
open CV

/-- **C20, the leaky quantizer has no reachable UB for any distribution** (no `GOk`): neither
    `left_cumulative_and_probability`, nor `quantile_function`, nor `symbol_table()` ends in a
    `Fault.ub` — only `.ok`, a panic fault, a missing recorded value or exhausted fuel -/
theorem C20_leaky_no_ub_for_any_distribution (m : LQ) (gl gr : Ext) :
    (∀ s site, m.enc gl gr s ≠ .error (.fault (.ub site))) ∧
    (∀ fuel hint q site, m.dec gl gr fuel hint q ≠ .error (.fault (.ub site))) ∧
    (∀ fuel s left site, m.table gl fuel s left ≠ .error (.fault (.ub site))) := by
  refine ⟨fun s site h => ?_, fun fuel hint q site h => ?_, fun fuel s left site h => ?_⟩
  · have := noUb_enc (m := m) (gl := gl) (gr := gr) s _ h; simp [SErr.isUb] at this
  · have := noUb_dec (m := m) (gl := gl) (gr := gr) fuel hint q _ h; simp [SErr.isUb] at this
  · have := noUb_table (m := m) (gl := gl) fuel s left _ h; simp [SErr.isUb] at this

/-- the D27 shape: a CDF that returns `2.0` at `min + 0.5` (`u8` symbols, `u8` probabilities,
    `P = 8`) makes `quantile_function` panic — it used to reach `NonZero::new_unchecked(0)` -/
example : (⟨⟨8, false⟩, 8, 8, 0, 3, 252⟩ : LQ).dec (fun _ => some 255) (fun _ => some 255) 40 0 5
    = .error (.fault (.panic "quant.dec.expect")) := by rfl

/-- **C20, `quantile_function`**: total, for every hint, no `Fault` (in particular the `expect`
    of the `NonZero` conversion cannot fail and `symbol ± step` never overflows), and it stays inside
    the support -/
theorem C20_leaky_dec_no_fault {m : LQ} {g : Int → Nat} (ok : m.Ok) (gk : GOk m g) {q : Nat}
    (hq : q < 2 ^ m.P) (hint : Int) :
    ∃ a c p, m.dec (extL g) (extR g) (searchFuel m.t) hint q = .ok (a, c, p) ∧
      m.min ≤ a ∧ a ≤ m.max ∧ 0 < p := by
  obtain ⟨a, ha, hd⟩ := dec_correct ok gk hq hint (Nat.le_refl _)
  exact ⟨a, _, _, hd, ha.1, ha.2.1, (widthQ_bounds ok gk ha.1 ha.2.1).1⟩

example := C20_leaky_dec_no_fault (m := exLQwide) (g := fun _ => 0) (q := 4000) exLQwide_ok
  ⟨fun _ _ _ => Nat.le_refl _, fun _ _ _ => Nat.zero_le _⟩ (by decide) (-128)

/-- **C20, symbol-table iterator**: no `expect` of a `NonZero` conversion fails, `symbol + 1`
    never overflows -/
theorem C20_leaky_table_no_fault {m : LQ} {g : Int → Nat} (ok : m.Ok) (gk : GOk m g) :
    ∃ tbl, m.table (extL g) ((m.max - m.min).toNat + 1) m.min 0 = .ok tbl ∧
      ∀ e ∈ tbl, 0 < e.2.2 := by
  refine ⟨_, table_eq ok gk, ?_⟩
  intro e he
  obtain ⟨h1, h2, _, h4⟩ := tableSpec_mem he
  have hlt := ok.hlt
  rw [h4]
  exact (widthQ_bounds ok gk h1 (by omega)).1

example : ∃ tbl, exLQ.table (extL exG) 7 (-3) 0 = .ok tbl ∧ ∀ e ∈ tbl, 0 < e.2.2 :=
  C20_leaky_table_no_fault exLQ_ok exG_ok

/-- **C20, encoder of the leakily quantised model**: the `expect` cannot fail -/
theorem C20_leaky_enc_no_fault {m : LQ} {g : Int → Nat} (ok : m.Ok) (gk : GOk m g) (s : Int) :
    ∃ r, m.enc (extL g) (extR g) s = .ok r := ⟨_, enc_eq ok gk s⟩

/-- **C20, eager `…_fast` model**: the constructor's plain `+` does not overflow and the
    encoder's `get_unchecked` / `into_nonzero_unchecked` are sound -/
theorem C20_eager_enc_no_fault {B P n : Nat} {h : Nat → Nat} (hP1 : 1 ≤ P) (hPB : P ≤ B)
    (hB : B ≤ 64) (hlen : lenOk P n = true) (tb : TBF1Fast h n) :
    ∃ cdf, fastCdf B P n (freeWeight B P n) h = .ok cdf ∧ ∀ s, ∃ r, eagerEnc B cdf s = .ok r := by
  obtain ⟨ok, hf⟩ := FastOk.of_guards hP1 hPB hB hlen
  exact ⟨_, fastCdf_eq ok hf, fun s => ⟨_, eagerEnc_eq ok hf tb.mono s⟩⟩

/-- **C20, lazy model**: neither `expect` can fail, no `+` overflows, for every skip count
    allowed by TB-F2 -/
theorem C20_lazy_no_fault {B P n : Nat} {h : Nat → Nat} {k0 : Nat → Nat} (hP1 : 1 ≤ P)
    (hPB : P ≤ B) (hB : B ≤ 64) (hlen : lenOk P n = true) (tb : TBF1Fast h n)
    (t2 : TBF2 P n (freeWeight B P n) h k0) :
    (∀ s, ∃ r, lazyEnc B P n (freeWeight B P n) h s = .ok r) ∧
    (∀ q, q < 2 ^ P → ∃ s c p, lazyDec B P n (freeWeight B P n) h (k0 q) q = .ok (s, c, p) ∧
      s < n ∧ 0 < p) := by
  obtain ⟨ok, hf⟩ := FastOk.of_guards hP1 hPB hB hlen
  refine ⟨fun s => ⟨_, lazyEnc_eq ok hf tb.mono s⟩, ?_⟩
  intro q hq
  obtain ⟨h1, h2, h3⟩ := t2 q hq
  obtain ⟨s, hs, hd⟩ := lazyDec_spec ok hf tb.mono hq h1 h2 h3
  exact ⟨s, _, _, hd, hs.1, width_pos ok hf tb.mono hs.1⟩

example := C20_lazy_no_fault (B := 16) (P := 12) (n := 4) (h := exH) (k0 := fun _ => 1)
  (by decide) (by decide) (by decide) (by decide) exTBF1 (by rw [exFree]; exact exTBF2)

/-- **C20, `…_perfect` constructors, first pass**: for every table of at most `2^P` entries, of any
    float type and semantics, never an overflow of `current_free_weight + 1` or of the subtraction
    from the remaining free weight -/
theorem C20_perfect_first_pass_no_fault {F : Type} (o : FOps F) (toF64 : F → Float) {B P : Nat}
    (hPB : P ≤ B) (probs : List F) (hn : probs.length ≤ 2 ^ P) :
    perfectPre o toF64 B P probs = .rejected ∨ perfectPre o toF64 B P probs = .proceeds :=
  perfectPre_no_fault o toF64 hPB probs hn

example : perfectPre f64Ops id 16 12 ([0x3ff0000000000000, 0x4000000000000000].map f64Ops.ofBits)
    = .rejected ∨ perfectPre f64Ops id 16 12 ([0x3ff0000000000000, 0x4000000000000000].map f64Ops.ofBits) = .proceeds :=
  C20_perfect_first_pass_no_fault f64Ops id (by decide) _ (by decide)

end CV.Quant

#print axioms CV.Quant.C20_perfect_first_pass_no_fault
#print axioms CV.Quant.C20_leaky_no_ub_for_any_distribution
#print axioms CV.Quant.C20_leaky_dec_no_fault
#print axioms CV.Quant.C20_leaky_table_no_fault
#print axioms CV.Quant.C20_leaky_enc_no_fault
#print axioms CV.Quant.C20_eager_enc_no_fault
#print axioms CV.Quant.C20_lazy_no_fault
