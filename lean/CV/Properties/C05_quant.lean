import CV.Proofs.QuantExamples
import CV.Proofs.QuantCatLink
import CV.Proofs.QuantFloatInstances
/-!
# C05 (component `quant`): all representations of one float-derived model are the same model

* eager vs lazy `…_fast`: both are `cdf i = min (h i) free + i` over the *same* integer sequence
  `h` (that the two float pipelines produce the same `h` is checked bit-for-bit by the native
  replicas: the `mono=` certificate compares `hE` and `hL`; `d4_hL_eq_hE` proves it by `decide`
  on the D4 table), so the encoders coincide and the lazy decoder returns what `cat`'s
  specification decoder returns on the eager table (the eager binary search is `cat`'s
  `Contiguous.dec_eq`) — under TB-F2 for the skip phase;
* the five `…_fast` representations are built over the same `fast_quantized_cdf` items and have
  the same symbol table;
* leakily quantised model: the symbol-table iterator lists exactly the encoder's answers, in
  order, for `min, …, max` — false before D1; the generic conversions (`to_generic_*`) consume
  this table and are component `cat`'s.

Label: **partial** only in the lazy decoder's skip phase (TB-F2).
-/
namespace CV.Quant
open CV

/-- **C05, eager.enc = lazy.enc** (no `Fault` on either side) -/
theorem C05_eager_enc_eq_lazy_enc {B P n : Nat} {h : Nat → Nat} (hP1 : 1 ≤ P) (hPB : P ≤ B)
    (hB : B ≤ 64) (hlen : lenOk P n = true) (tb : TBF1Fast h n) :
    ∃ cdf, fastCdf B P n (freeWeight B P n) h = .ok cdf ∧
      ∀ s, eagerEnc B cdf s = lazyEnc B P n (freeWeight B P n) h s ∧
        ∃ r, lazyEnc B P n (freeWeight B P n) h s = .ok r := by
  obtain ⟨ok, hf⟩ := FastOk.of_guards hP1 hPB hB hlen
  exact ⟨_, fastCdf_eq ok hf, fun s =>
    ⟨eager_enc_eq_lazy_enc ok hf tb.mono s, _, lazyEnc_eq ok hf tb.mono s⟩⟩

example := C05_eager_enc_eq_lazy_enc (B := 16) (P := 12) (n := 4) (h := exH)
  (by decide) (by decide) (by decide) (by decide) exTBF1

/-- **C05, lazy.dec = the specification decoder on the eager table** (which is what the eager
    model's binary search computes: `Cat.Contiguous.dec_eq`) -/
theorem C05_lazy_dec_eq_spec {B P n : Nat} {h : Nat → Nat} {k0 : Nat → Nat} (hP1 : 1 ≤ P)
    (hPB : P ≤ B) (hB : B ≤ 64) (hlen : lenOk P n = true) (tb : TBF1Fast h n)
    (t2 : TBF2 P n (freeWeight B P n) h k0) {q : Nat} (hq : q < 2 ^ P) :
    lazyDec B P n (freeWeight B P n) h (k0 q) q
      = .ok (Cat.specDec (Cat.unwrap P (cdfList B P n (freeWeight B P n) h)) q) := by
  obtain ⟨ok, hf⟩ := FastOk.of_guards hP1 hPB hB hlen
  obtain ⟨h1, h2, h3⟩ := t2 q hq
  obtain ⟨s, hs, hd⟩ := lazyDec_spec ok hf tb.mono hq h1 h2 h3
  rw [hd, unwrap_cdfList]
  have hv := (cdfList_valid (h := h) ok hf tb).2
  rw [unwrap_cdfList] at hv
  have hsn : s < n := hs.1
  have e0 := extList_getD (P := P) (free := freeWeight B P n) (h := h) (Nat.le_of_lt hsn)
  have e1 := extList_getD (P := P) (free := freeWeight B P n) (h := h) (i := s + 1) hsn
  have hbin : Cat.InBin (extList P n (freeWeight B P n) h) s q :=
    ⟨by rw [extList_length]; exact Nat.succ_lt_succ hsn, by rw [e0]; exact hs.2.1,
      by rw [e1]; exact hs.2.2⟩
  have hidx : Cat.specIdx (extList P n (freeWeight B P n) h) q = s :=
    Cat.InBin.unique hv.2.2.2 (Cat.specIdx_inBin hv hq) hbin
  unfold Cat.specDec
  rw [hidx, e0, e1]
  rfl

/-- real `f32` instance (`u8`, `P = 6`, the skip phase skips up to five symbols): for every
    quantile the lazy decoder equals the specification decoder on the eager table -/
example (q : Nat) (hq : q < 2 ^ 6) :
    lazyDec 8 6 6 (freeWeight 8 6 6) (lz.hE f32Ops 8) (lz.k0 f32Ops 8 q) q
      = .ok (Cat.specDec (Cat.unwrap 6 (cdfList 8 6 6 (freeWeight 8 6 6) (lz.hE f32Ops 8))) q) :=
  C05_lazy_dec_eq_spec (by decide) (by decide) (by decide) (by decide) lz_tbf1 lz_tbf2 hq

/-- **C05, all `…_fast` representations hold the same symbol table**: the contiguous model's,
    the non-contiguous decoder's and the non-contiguous lookup decoder's `symbol_table()` are the
    specification table of the same unwrapped cdf (with the given labels), and the hash table of
    the non-contiguous encoder holds exactly these rows -/
theorem C05_fast_same_table {Sym : Type} [DecidableEq Sym] [Inhabited Sym] {B P n : Nat}
    {h : Nat → Nat} (hP1 : 1 ≤ P) (hPB : P ≤ B) (hB : B ≤ 64) (hlen : lenOk P n = true)
    (tb : TBF1Fast h n) {syms : List Sym} (hs : syms.length = n) (hnd : syms.Nodup) :
    let free := freeWeight B P n
    let ext := extList P n free h
    let tbl := Cat.specTable (fun i => syms.getD i default) ext
    (Cat.Contiguous.table B ⟨cdfList B P n free h⟩ = .ok (Cat.specTable id ext)) ∧
    (∃ m, Cat.NcDec.fromSymbolsAndCdf B P syms (innerList P n free h) = .ok (some m) ∧
      m.table B = .ok tbl) ∧
    (∃ m, Cat.NcLookup.fromSymbolsAndCdf B P syms (innerList P n free h) = .ok (some m) ∧
      m.table B = .ok tbl) ∧
    (∃ m, Cat.NcEnc.fromSymbolsAndCdf B P syms (innerList P n free h) = .ok (some m) ∧
      m.tbl = tbl) := by
  intro free ext tbl
  obtain ⟨ok, hf⟩ := FastOk.of_guards hP1 hPB hB hlen
  have hv := extList_valid (h := h) ok hf tb
  have hcv := cdfList_valid (h := h) ok hf tb
  have hl : syms.length + 1 = ext.length := by show _ = (extList P n free h).length; rw [extList_length]; omega
  refine ⟨?_, ?_, ?_, ?_⟩
  · have := Cat.Contiguous.table_eq (m := ⟨cdfList B P n free h⟩) hcv hPB
    rw [unwrap_cdfList] at this; exact this
  · obtain ⟨last, hm⟩ := ncdec_fast (free := free) (h := h) ok hs
    exact ⟨_, hm, Cat.NcDec.table_canon hv hl hPB⟩
  · obtain ⟨t, last, hm, _⟩ := nclookup_fast (h := h) ok hf tb hs
    exact ⟨_, hm, Cat.NcLookup.table_canon hv hl hPB⟩
  · obtain ⟨m, h1, h2, _⟩ := ncenc_fast ok hf tb hs hnd
    exact ⟨m, h1, h2⟩

example := C05_fast_same_table (B := 32) (P := 24) (n := 5) (h := d4.hE f32Ops 32)
  (syms := [7, 3, 9, 1, 4]) (by decide) (by decide) (by decide) (by decide) (d4_n ▸ d4_tbf1) rfl
  (by decide)

/-- **C05, leakily quantised model: iterated symbol table = direct queries** (D1) -/
theorem C05_leaky_table {m : LQ} {g : Int → Nat} (ok : m.Ok) (gk : GOk m g) :
    ∃ tbl, m.table (extL g) ((m.max - m.min).toNat + 1) m.min 0 = .ok tbl ∧
      tbl = tableSpec m g ((m.max - m.min).toNat + 1) m.min ∧
      tbl.length = (m.max - m.min).toNat + 1 ∧
      (∀ e ∈ tbl, m.enc (extL g) (extR g) e.1 = .ok (some (e.2.1, e.2.2))) ∧
      (∀ i (hi : i < tbl.length), (tbl[i]).1 = m.min + i) := by
  refine ⟨_, table_eq ok gk, rfl, ?_, fun e he => table_entries_enc ok gk he, fun i hi => ?_⟩
  · rw [tableSpec_eq_map, List.length_map, List.length_range]
  · simp only [tableSpec_eq_map, List.getElem_map, List.getElem_range]

example : ∃ tbl, exLQ.table (extL exG) 7 (-3) 0 = .ok tbl ∧ tbl.length = 7 := by
  obtain ⟨tbl, h1, _, h3, _⟩ := C05_leaky_table exLQ_ok exG_ok
  exact ⟨tbl, h1, h3⟩

/-- the obligation fails for the code before D1: the old iterator's first entry on this instance
    is `(-3, 0, 1)` while the encoder answers `(0, 601)` for `-3` -/
theorem C05_D1_counterexample :
    exG (-3) + slack exLQ.t exLQ.B (-3 + 1) exLQ.min = 1 ∧
    exLQ.enc (extL exG) (extR exG) (-3) = .ok (some (0, 601)) := D1_counterexample

end CV.Quant

#print axioms CV.Quant.C05_eager_enc_eq_lazy_enc
#print axioms CV.Quant.C05_lazy_dec_eq_spec
#print axioms CV.Quant.C05_fast_same_table
#print axioms CV.Quant.C05_leaky_table
#print axioms CV.Quant.C05_D1_counterexample
