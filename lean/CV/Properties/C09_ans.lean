import CV.Properties.C01_ans
import CV.Proofs.AnsAtomic
/-!
# C09 (ANS part) — impossible symbols are rejected, a failed encode leaves the coder intact
-/
namespace CV.Ans.C09
open CV CV.Ans

variable {Sym : Type}

/-- A symbol the model gives probability zero is rejected with `ImpossibleSymbol`. `encode` is
    functional: "the coder is left intact" here means that no new coder is produced (the
    correspondence check inspects the raw parts of the real coder after every failed call). -/
theorem impossible_rejected (c : Cfg) (m : Model Sym) (s : Sym) (x : Coder) (h : m.enc s = none) :
    encode c m s x = .error .impossible := by
  simp only [encode, h]

/-- With a bounded backend (`cap = some n`) a write that does not fit is reported as a backend
    error before any part of the coder changed; otherwise the encode succeeds — never a fault. -/
theorem bounded_backend_error_or_ok {c : Cfg} (hc : c.Valid) {x : Coder} (hx : Inv c x)
    {cum p : Nat} (hcp : CPok c.P cum p) :
    (encodeCP c x cum p = .error .backendFull ∧ flushCond c x p ∧ canWrite x = false) ∨
    (∃ y, encodeCP c x cum p = .ok y ∧ y = { encArith c { x with cap := none } cum p with cap := x.cap }) := by
  rw [encodeCP_eq hc hx hcp]
  by_cases h : flushCond c x p ∧ canWrite x = false
  · exact Or.inl ⟨if_pos h, h⟩
  · refine Or.inr ⟨_, if_neg h, ?_⟩
    -- the arithmetic step neither reads nor changes `cap`
    have hf : flushCond c { x with cap := none } p ↔ flushCond c x p := Iff.rfl
    simp only [encArith, afterFlush, hf]
    split <;> rfl

/-! ## Atomicity on the statement-by-statement transcription

`encode` returns no coder on failure, so it cannot express a partially mutated coder.
`encodeSymbolM` (Model/Ans.lean) returns the coder as the real code leaves it; these are the
statements C09 means.  The driver answers every `enc` / `encnone` / batch line through it. -/

theorem impossible_leaves_coder_intact (c : Cfg) (m : Model Sym) (s : Sym) (x : Coder)
    (h : m.enc s = none) : encodeSymbolM c m s x = (x, .error .impossible) :=
  encodeSymbolM_impossible c m s x h

/-- `bulk.write(..)?` precedes every mutation of `state` -/
theorem backend_full_leaves_coder_intact (c : Cfg) (m : Model Sym) (s : Sym) (x : Coder)
    (h : encode c m s x = .error .backendFull) :
    encodeSymbolM c m s x = (x, .error .backendFull) := by
  have := encodeSymbolM_spec c m s x
  rw [h] at this; exact this

/-- an attempt to encode, the caller keeping the coder whatever the outcome -/
def attempt (x : Coder) (a : Cfg × Model Sym × Sym) : Coder := (encodeSymbolM a.1 a.2.1 a.2.2 x).1

/-- **Impossible symbols inserted at any points of any encode history can be erased** (hence, by
    C01, everything encoded before and after still decodes). -/
theorem attempts_erasure (l : List (Cfg × Model Sym × Sym)) (x : Coder) :
    l.foldl attempt x = (l.filter (fun a => (a.2.1.enc a.2.2).isSome)).foldl attempt x := by
  induction l generalizing x with
  | nil => rfl
  | cons a l ih =>
    cases h : a.2.1.enc a.2.2 with
    | none =>
      have hx : attempt x a = x := by
        unfold attempt; rw [encodeSymbolM_impossible a.1 a.2.1 a.2.2 x h]
      simp only [List.foldl_cons, List.filter_cons, h, Option.isSome_none, hx]
      exact ih x
    | some cp =>
      simp only [List.foldl_cons, List.filter_cons, h, Option.isSome_some, if_true]
      exact ih _

/-- At any run state of a C01 history an impossible symbol is rejected, and (the caller still
    holding the same state) every continuation runs as `C01.run_refines_stack` says. -/
theorem history_with_failures {W S : Nat} (hWS : 1 ≤ W ∧ 2 * W ≤ S)
    (ops : List (C01.Op Sym)) (hops : ∀ op ∈ ops, op.OK W S)
    (st : C01.RunState Sym)
    (hbase : Inv { W := W, S := S, P := 1, B := 1 } st.base) (hcap : st.base.cap = none)
    (hghost : ∀ e ∈ st.ghost, e.OK W S)
    (hcoder : st.coder = C01.replay W S st.base st.ghost)
    (e : C01.Entry Sym) (hbad : e.m.enc e.s = none) :
    encode (e.cfg W S) e.m e.s st.coder = .error .impossible ∧
    ∃ fin, C01.run W S st ops = .ok fin ∧
      (fin.ghost.map (·.s), fin.outs) = C01.specRun (st.ghost.map (·.s)) ops st.outs :=
  ⟨impossible_rejected _ _ _ _ hbad,
   let ⟨fin, h1, _, _, h4, _⟩ := C01.run_refines_stack hWS ops hops st hbase hcap hghost hcoder
   ⟨fin, h1, h4⟩⟩

end CV.Ans.C09

#print axioms CV.Ans.C09.impossible_rejected
#print axioms CV.Ans.C09.bounded_backend_error_or_ok
#print axioms CV.Ans.C09.history_with_failures
#print axioms CV.Ans.C09.impossible_leaves_coder_intact
#print axioms CV.Ans.C09.backend_full_leaves_coder_intact
#print axioms CV.Ans.C09.attempts_erasure
