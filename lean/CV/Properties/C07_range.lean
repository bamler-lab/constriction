import CV.Proofs.RangeExamples
import CV.Proofs.RangeMsg
/-!
# C07 — Random access for the range coder (component `range`)
-/
namespace CV.Range

/-- **C07**: take the encoder's `pos()` after `pre'` (also while words are held back: `pos` counts
    them), finish and seal.  *Any* decoder over the sealed words, whatever its position and
    however often it has sought before, that seeks to the snapshot decodes exactly `post`.
    `post = []` is "seeking to the final position". -/
theorem C07_range_seek_resumes {Sym : Type} {c : Cfg} (hc : RValid c)
    (pre' post : List (MStep Sym)) (hn : MsgFits c (pre' ++ post).length)
    (hv : ∀ x ∈ pre' ++ post, x.Valid c) :
    ∃ ei e ws snap, encodeMsg c (Encoder.empty c) pre' = .ok ei ∧ ei.pos = .ok snap ∧
      encodeMsg c ei post = .ok e ∧ intoCompressed c e = .ok ws ∧
      ∀ d : Decoder, d.data = ws →
        ∃ d' d'', d.seek c snap.1 snap.2.1 snap.2.2 = .ok d' ∧
          decodeMsg c d' post = .ok (post.map (·.sym), d'') ∧
          d''.maybeExhausted c = .ok true := by
  obtain ⟨hvpre, hvpost⟩ := List.forall_mem_append.mp hv
  rw [List.length_append] at hn
  obtain ⟨ei, hei, hIi, hfi, habsi, hnei⟩ := encodeMsg_ok post.length pre' (Encoder.empty c)
    (inv_empty hc) (fits_empty hn) hvpre
  obtain ⟨e, he, hI, _, habs, hne⟩ := encodeMsg_ok 0 post ei hIi hfi hvpost
  rw [absE_empty] at habsi
  refine ⟨ei, e, _, _, hei, pos_eq hc (hfi.mono (Nat.zero_le _)), he, intoCompressed_eq hc hI, ?_⟩
  intro d hd
  by_cases hnil : pre' = [] ∧ post = []
  · obtain ⟨rfl, rfl⟩ := hnil
    cases hei
    cases he
    have hd : d.data = [] := by rw [hd]; simp [sealP, Encoder.empty]
    obtain ⟨d', hd', hrel⟩ := seek_eq (c := c) hc (ws := []) WordsOK.nil hd
      (st := RangeSpec.init c.S) (lower := 0) (Nat.zero_le _) (Nat.zero_mod _).symm
    exact ⟨d', d', hd', rfl, exhausted_init hc hrel⟩
  · have hmax : e.range ≠ maxState c := by
      rcases Classical.not_and_iff_not_or_not.mp hnil with h | h
      · exact hne (.inr (hnei (.inl h)))
      · exact hne (.inl h)
    rw [seal_conforms hc hI hmax, habs] at hd
    have hIi' : SpecInv c (absE c ei) := habsi ▸ specInv_run _ _ (specInv_init hc) hvpre
    have hlen := (sealWords_spec_length c (RangeSpec.run c.W c.S (absE c ei) (post.map MStep.spec))).1
    have hmle := (run_m_le c.W c.S (absE c ei) (post.map MStep.spec)).1
    obtain ⟨d', hd', hrel⟩ := seek_eq hc (sealWords_spec_wordsOK c _) hd (st := absE c ei)
      (Nat.le_trans hmle (Nat.le_of_succ_le hlen)) (absE_lower hIi)
    obtain ⟨d'', hd'', hex⟩ := decode_sealed hc hIi' post hvpost hrel
    exact ⟨d', d'', hd', hd'', hex⟩

/-- positions beyond the data are rejected (and, the function being pure, nothing changes) -/
theorem C07_range_seek_beyond_rejected {c : Cfg} {d : Decoder} {pos lower range : Nat}
    (h : d.data.length < pos) : d.seek c pos lower range = .error .rejected := by
  unfold Decoder.seek
  rw [if_pos h]

/-- `seek` constructs exactly the state a sequential decoder has there -/
theorem C07_range_seek_eq_sequential {c : Cfg} (hc : RValid c) {ws : List Nat}
    (hw : WordsOK c ws) {d : Decoder} (hd : d.data = ws) {st : RangeSpec.St}
    {pos lower range : Nat} (hpos : pos ≤ ws.length) (hm : st.m = pos)
    (hl : lower = st.Lo % 2^c.S) (hr : range = st.R) :
    ∃ d', d.seek c pos lower range = .ok d' ∧ DRel c st ws d' := by
  subst hm hr
  exact seek_eq hc hw hd hpos hl

/-! non-vacuity: the snapshot after two symbols of `exMsg` is taken in the inverted situation -/
example : ∀ x ∈ exMsg.take 2 ++ exMsg.drop 2, x.Valid exCfg := by
  rw [List.take_append_drop]; exact exMsg_valid
example : encodeMsg exCfg (Encoder.empty exCfg) (exMsg.take 2) = .ok exInverted := ex_prefix
example : exInverted.pos = .ok (1, 58624, 25600) := rfl
example : MsgFits exCfg (exMsg.take 2 ++ exMsg.drop 2).length := by decide

/-! ## Sinks that write back to front: open finding D33

`C07_range_seek_resumes` is about a sink whose position grows (the model's `bulk` list; `Vec`,
`SmallVec`, `Cursor`).  `Reverse<Cursor>` over a buffer of `L` words stores the `j`-th written word
at index `L - 1 - j` and reports the position `L - k` after `k` writes; a reversed decoder at
position `p` reads the word that was written `(L - p)`-th next.  So the forward position
`bulk.len() + held` of the theorem corresponds to the reversed position `L - (bulk.len() + held)`,
whereas `RangeEncoder::pos` computes `bulk.pos() + held = (L - bulk.len()) + held`. -/

/-- what `RangeEncoder::pos` reports over `Reverse<Cursor>` with a buffer of `L` words -/
def Encoder.posReverseSink (L : Nat) (e : Encoder) : Nat := (L - e.bulk.length) + e.situation.held

/-- the reversed position that corresponds to the forward snapshot of `C07_range_seek_resumes` -/
def Encoder.correctReversePos (L : Nat) (e : Encoder) : Nat := L - (e.bulk.length + e.situation.held)

/-- **D33**: the reported position is right iff no word is held back; otherwise it is off by twice
    the number of held words -/
theorem D33_reverse_sink_pos (L : Nat) (e : Encoder) (h : e.bulk.length + e.situation.held ≤ L) :
    e.posReverseSink L = e.correctReversePos L + 2 * e.situation.held ∧
    (e.posReverseSink L = e.correctReversePos L ↔ e.situation.held = 0) := by
  unfold Encoder.posReverseSink Encoder.correctReversePos
  constructor <;> omega

/-- the inverted example: a buffer of 4 words, nothing written yet, one word held — the encoder
    reports position 5, beyond the buffer (the reversed decoder rejects the seek); 3 is correct -/
example : exInverted.posReverseSink 4 = 5 ∧ exInverted.correctReversePos 4 = 3 := by decide

end CV.Range

#print axioms CV.Range.D33_reverse_sink_pos
#print axioms CV.Range.C07_range_seek_resumes
#print axioms CV.Range.C07_range_seek_beyond_rejected
#print axioms CV.Range.C07_range_seek_eq_sequential
