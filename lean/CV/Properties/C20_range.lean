import CV.Proofs.RangeExamples
import CV.Proofs.RangeInspect
import CV.Properties.C10_range
/-!
# C20 — No safe call sequence on the range coder reaches an unchecked precondition or a panic
(component `range`)

`src/stream/queue.rs` contains two `unsafe` blocks.  Each is a `Fault.ub` branch of the Impl
model; every plain `* + - << >> /`, `expect`, and `debug_assert!` is a checked operation
returning another `Fault`:

| source (queue.rs)                                            | model site (`CV.Range`)                    |
|--------------------------------------------------------------|--------------------------------------------|
| 612–618 `(range << Word::BITS).into_nonzero_unchecked()` in `encode_symbol` | `renorm`: `Fault.ub "range.enc.nonzero"` |
| 951–957 `(range << Word::BITS).into_nonzero_unchecked()` in `decode_symbol` | `decodeStep`: `Fault.ub "range.dec.nonzero"` |
| 570 `range >> PRECISION`, 603/620/621 shifts                 | `shr`/`shl` sites `range.enc.*` (`Fault.shift`) |
| 572, 578 `scale * probability`, `scale * left_cumulative`    | `cmul "range.enc.scale*p"`, `"range.enc.scale*cum"` (`Fault.overflow`) |
| 340, 587 `first_inverted_lower_word + Word::one()`           | `cadd "range.first+1"` (`Fault.overflow`)  |
| 334, 373 `(1 << (S−W)) − 1`                                  | `shl "range.seal.one"`, `csub "range.seal.one-1"` |
| 516 `debug_assert!(word.is_some())` in `unseal`              | `Fault.panic "range.unseal.debug_assert"`  |
| 924 `(point − lower) / scale`                                | `cdiv "range.dec.div"` (`Fault.panic`)     |
| 936–939 `scale * cum`, `scale * p`, `.expect("TODO")`        | `cmul "range.dec.scale*cum"`, `"range.dec.scale*p"`, `Fault.panic "range.dec.expect"` |
| 784, 794 shifts in `read_point`                              | `shl "range.readpoint.shl"`, `"range.readpoint.pad"`, `csub "range.readpoint.sub"` |

The theorems below say that none of these is reachable: through the safe API an encoder is
always in a state satisfying `Inv` (`new`, `with_backend`, and `Inv` is preserved), a decoder
over any words satisfies `DReg` (`from_compressed`, preserved by `decode`), and on such
states every operation, `seek` included, returns a value or one of the documented errors, never
a `Fault`.
(`from_raw_parts` can build encoder states outside `Inv`; there the checked build panics with
an arithmetic overflow in some cases — a panic, which C20 permits — and the correspondence
runs and the oracle's malformed campaign cover those under std's UB precondition checks.)

`usize` counters (64 bit, `usizeBits`) are checked operations as well:

| source (queue.rs)                                            | model site (`CV.Range`)                    |
|--------------------------------------------------------------|--------------------------------------------|
| 198 `self.bulk.pos() + num_inverted` (`pos`)                 | `cadd "range.pos.len+n"`                   |
| 381 `count += num_inverted.get()` (`num_seal_words`)         | `cadd "range.nsw.count+n"`                 |
| 406 `remaining() + num_seal_words()` (`num_words`)           | `cadd "range.nw.remaining+seal"`           |
| 421 `Word::BITS * self.num_words()` (`num_bits`)             | `cmul "range.nb.W*nw"`                     |
| 625–626 `NonZeroUsize::new(n.wrapping_add(1)).expect(..)`    | `Fault.panic "range.enc.num_inverted"`     |

They are unreachable under `Fits c e k` (`Word::BITS · (bulk.len() + num_inverted + k + 2) <
2^64`, room for `k` more symbols), which holds along every history from `new()` of fewer than
`2^64 / Word::BITS − 2` symbols (`MsgFits`); the hypothesis is necessary (`from_raw_parts` with
`num_inverted = usize::MAX`: `pos()` and `num_words()` panic with an overflow — a panic, not UB).
-/
namespace CV.Range

/-- the SAFETY argument of the first block (queue.rs 612–618), for *every* register content:
    `range ≠ 0` (which `State::NonZero` guarantees) suffices; `Fault.ub "range.enc.nonzero"` is
    unreachable whatever the situation and the backend contents -/
theorem C20_range_enc_nonzero_safe {c : Cfg} (hc : RValid c) (bulk : List Nat) (sit : Situation)
    {lower range : Nat} (hl : lower < 2^c.S) (hr : 0 < range)
    (hn : sit.held + 1 < 2^usizeBits) :
    ∃ e', renorm c bulk sit lower range = .ok e' :=
  ⟨_, renorm_eq hc hl hr hn⟩

/-- `encode_symbol` with any symbol (in the support or not): a new encoder satisfying the
    invariant, or `ImpossibleSymbol` — no UB site, no overflow, no shift, no panic -/
theorem C20_range_encode_no_fault {Sym : Type} {c : Cfg} (hc : RValid c) {m : Model Sym}
    (hm : m.WellFormed c.P) {e : Encoder} (hI : Inv c e) (hf : Fits c e 1) (s : Sym) :
    (∃ e', encode c m s e = .ok e' ∧ Inv c e') ∨ encode c m s e = .error .impossible :=
  encode_no_fault hc hm hI hf s

theorem C20_range_encode_ub_unreachable {Sym : Type} {c : Cfg} (hc : RValid c) {m : Model Sym}
    (hm : m.WellFormed c.P) {e : Encoder} (hI : Inv c e) (hf : Fits c e 1) (s : Sym)
    (f : Fault) :
    encode c m s e ≠ .error (.fault f) := by
  intro h
  rcases encode_no_fault hc hm hI hf s with ⟨e', he', _⟩ | he'
  · rw [he'] at h; cases h
  · rw [he'] at h; cases h

/-- `decode_symbol` over **arbitrary words** (second block, queue.rs 951–957, and every other
    checked operation of the function): the documented invariant, or `InvalidData` -/
theorem C20_range_decode_no_fault {Sym : Type} {c : Cfg} (hc : RValid c) {m : Model Sym}
    (hm : m.WellFormed c.P) {d : Decoder} (hI : DReg c d) :
    (∃ s d', decode c m d = .ok (s, d') ∧ DInv c d') ∨ decode c m d = .error .invalidData :=
  decode_no_fault hc hm hI

theorem C20_range_decode_ub_unreachable {Sym : Type} {c : Cfg} (hc : RValid c) {m : Model Sym}
    (hm : m.WellFormed c.P) {d : Decoder} (hI : DReg c d) (f : Fault) :
    decode c m d ≠ .error (.fault f) := by
  intro h
  rcases decode_no_fault hc hm hI with ⟨s, d', hd, _⟩ | hd
  · rw [hd] at h; cases h
  · rw [hd] at h; cases h

/-- any number of `decode_symbol` calls with any well-formed models on any words -/
theorem C20_range_decode_many_no_fault {Sym : Type} {c : Cfg} (hc : RValid c) {ws : List Nat}
    (hw : WordsOK c ws) (msg : List (MStep Sym)) (hv : ∀ x ∈ msg, x.DecValid c) :
    ∃ d0, Decoder.fromCompressed c ws = .ok d0 ∧
      ((∃ ss d', decodeMsg c d0 msg = .ok (ss, d') ∧ DReg c d') ∨
       decodeMsg c d0 msg = .error .invalidData) := by
  obtain ⟨d0, hd0, h⟩ := C10_range_decode_many_total hc hw msg hv
  exact ⟨d0, hd0, h.imp (fun ⟨ss, d', h1, h2, _⟩ => ⟨ss, d', h1, h2⟩) id⟩

/-- whole histories: `encode_symbol`, `get_compressed` (seal, view, `unseal` with its
    `debug_assert!`), `decoder()`, `num_words`, `num_bits`, `is_empty`, `pos`, `clone` in any
    order never fault -/
theorem C20_range_history_no_fault {Sym : Type} {c : Cfg} (hc : RValid c) (ops : List (Op Sym))
    (hn : MsgFits c (encSteps ops).length) (hv : ∀ x ∈ encSteps ops, x.Valid c) :
    ∃ e, runOps c (Encoder.empty c) ops = .ok e ∧ Inv c e := by
  rw [inspect_erasure hc ops _ (inv_empty hc) (fits_empty hn) hv]
  obtain ⟨e, he, hI, _⟩ :=
    encodeMsg_ok 0 (encSteps ops) (Encoder.empty c) (inv_empty hc) (fits_empty hn) hv
  exact ⟨e, he, hI⟩

/-- sealing / exporting and the size queries on any state satisfying the invariant -/
theorem C20_range_seal_no_fault {c : Cfg} (hc : RValid c) {e : Encoder} (hI : Inv c e)
    (hf : Fits c e 0) :
    (∃ ws, intoCompressed c e = .ok ws) ∧ (∃ v, getCompressed c e = .ok v) ∧
    (∃ k, numWords c e = .ok k) ∧ (∃ k, numBits c e = .ok k) ∧ (∃ p, e.pos = .ok p) ∧
    (∃ d, intoDecoder c e = .ok d) := by
  refine ⟨⟨_, intoCompressed_eq hc hI⟩, ⟨_, getCompressed_eq hc hI hf⟩,
    ⟨_, numWords_eq hc hI hf⟩, ⟨_, numBits_eq hc hI hf⟩, ⟨_, pos_eq hc hf⟩, ?_⟩
  obtain ⟨d, _, hfc⟩ := tempDecoder_eq hc hI hf
  refine ⟨d, ?_⟩
  unfold intoDecoder
  rw [intoCompressed_eq hc hI]
  exact hfc

/-- constructing, seeking and querying a decoder over any words -/
theorem C20_range_decoder_glue_no_fault {c : Cfg} (hc : RValid c) {ws : List Nat}
    (hw : WordsOK c ws) :
    (∃ d, Decoder.fromCompressed c ws = .ok d ∧ DReg c d) ∧
    (∀ d : Decoder, d.data = ws → ∀ pos lower range,
      (∃ d', d.seek c pos lower range = .ok d') ∨ d.seek c pos lower range = .error .rejected) ∧
    (∀ d : Decoder, ∃ b, d.maybeExhausted c = .ok b) := by
  refine ⟨fromCompressed_total hc hw, ?_, fun d => ⟨_, maybeExhausted_eq hc d⟩⟩
  intro d hd pos lower range
  exact seek_no_fault hc (by rw [hd]; exact hw) pos lower range

example : Inv exCfg exInverted := exInverted_inv
example : Fits exCfg exInverted 1 := by decide
example : RValid exCfg := exCfg_valid
example : (cutModel 1 255 256).WellFormed 8 :=
  cutModel_wf (P := 8) (by decide)
example : WordsOK exCfg [255, 255, 255, 0, 17] := wordsOK_of_all (by decide)

end CV.Range

#print axioms CV.Range.C20_range_enc_nonzero_safe
#print axioms CV.Range.C20_range_encode_no_fault
#print axioms CV.Range.C20_range_encode_ub_unreachable
#print axioms CV.Range.C20_range_decode_no_fault
#print axioms CV.Range.C20_range_decode_ub_unreachable
#print axioms CV.Range.C20_range_decode_many_no_fault
#print axioms CV.Range.C20_range_history_no_fault
#print axioms CV.Range.C20_range_seal_no_fault
#print axioms CV.Range.C20_range_decoder_glue_no_fault
