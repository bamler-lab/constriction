import CV.Proofs.RangeExamples
import CV.Proofs.RangeSize
/-!
# C12 — Compressed size of the range encoder (component `range`)

Stated multiplicatively on naturals (`k_i = S − W − P_i`):

  `2^num_bits · ∏ p_i · ∏ 2^k_i  ≤  2^(2W) · ∏ 2^P_i · ∏ (2^k_i + 1)`

which is `num_bits ≤ Σ log2(2^P_i/p_i) + Σ log2(1 + 2^-k_i) + 2W` after taking `log2`
(a constant of `2W`, below the `S + 2W` the property allows).  The conversion to real
logarithms is done in `C12_rangelog.lean` (`C12_range_size_bound_log`).

`MsgFits c n` (`Word::BITS · (n + 2) < 2^64`): the message is short enough for `num_bits()`,
a `usize`, not to overflow — without it `num_bits` panics, so the hypothesis is necessary.
-/
namespace CV.Range

/-- **C12**: after encoding any message from an empty encoder `num_bits = W · num_words`,
    `num_words ≤ n + 2`, and `2^num_bits · ∏ p_i 2^k_i ≤ 2^(2W) · ∏ 2^P_i (2^k_i + 1)` -/
theorem C12_range_size_bound {Sym : Type} {c : Cfg} (hc : RValid c) (msg : List (MStep Sym))
    (hn : MsgFits c msg.length) (hv : ∀ x ∈ msg, x.Valid c) :
    ∃ e nw, encodeMsg c (Encoder.empty c) msg = .ok e ∧
      numWords c e = .ok nw ∧ numBits c e = .ok (c.W * nw) ∧
      nw ≤ msg.length + 2 ∧
      2^(c.W * nw) * sizeA c (msg.map MStep.spec)
        ≤ 2^(2 * c.W) * sizeB c (msg.map MStep.spec) := by
  obtain ⟨e, he, hI, hf, hws⟩ := words_eq_spec hc msg hn hv
  rw [intoCompressed_eq hc hI] at hws
  have hIn := specInv_run msg (RangeSpec.init c.S) (specInv_init hc) hv
  have hpot := pot_run msg (RangeSpec.init c.S) 1 1 (specInv_init hc) hv
    (by simp [Pot, RangeSpec.init])
  have hmle := (run_m_le c.W c.S (RangeSpec.init c.S) (msg.map MStep.spec)).2
  simp only [Nat.one_mul] at hpot
  rw [show (RangeSpec.init c.S).m = 0 from rfl, Nat.zero_add, List.length_map] at hmle
  have hwl : (e.bulk ++ sealP c e).length
      ≤ (RangeSpec.run c.W c.S (RangeSpec.init c.S) (msg.map MStep.spec)).m + 2 := by
    rw [Except.ok.inj hws]
    cases msg with
    | nil => exact Nat.zero_le _
    | cons x xs => exact (sealWords_spec_length c _).2
  exact ⟨e, _, he, numWords_eq hc hI hf, numBits_eq hc hI hf, by omega,
    pot_final hc hpot hIn.2.1 hwl⟩

/-- the form with the constant `S + 2W` named in the property -/
theorem C12_range_size_bound_S {Sym : Type} {c : Cfg} (hc : RValid c) (msg : List (MStep Sym))
    (hn : MsgFits c msg.length) (hv : ∀ x ∈ msg, x.Valid c) :
    ∃ e nb, encodeMsg c (Encoder.empty c) msg = .ok e ∧ numBits c e = .ok nb ∧
      2^nb * sizeA c (msg.map MStep.spec)
        ≤ 2^(c.S + 2 * c.W) * sizeB c (msg.map MStep.spec) := by
  obtain ⟨e, nw, he, _, hnb, _, hle⟩ := C12_range_size_bound hc msg hn hv
  refine ⟨e, _, he, hnb, Nat.le_trans hle (Nat.mul_le_mul_right _ ?_)⟩
  exact Nat.pow_le_pow_right (by omega) (by omega)

/-- the per-symbol rounding loss: `R·2^k ≤ ⌊R/2^P⌋·2^P·(2^k + 1)` (finite also at `k = 0`) -/
theorem C12_range_step_loss {c : Cfg} (hc : RValid c) {R : Nat} (hr : 2^(c.S - c.W) ≤ R) :
    R * 2^(c.S - c.W - c.P) ≤ R / 2^c.P * (2^c.P * (2^(c.S - c.W - c.P) + 1)) :=
  step_loss hc hr

example : ∀ x ∈ exMsg, x.Valid exCfg := exMsg_valid
example : MsgFits exCfg exMsg.length := by decide
example : sizeA exCfg (exMsg.map MStep.spec) = 2 * 100 * (7 * 16) * 1 * (1 * 128) := by decide
example : RValid { W := 16, S := 32, P := 16, B := 16 } := by decide  -- k = 0

end CV.Range

#print axioms CV.Range.C12_range_size_bound
#print axioms CV.Range.C12_range_size_bound_S
#print axioms CV.Range.C12_range_step_loss
