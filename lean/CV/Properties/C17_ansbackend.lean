import CV.Proofs.BackendAns
import CV.Proofs.BackendAnsStep
/-!
# C17 ∘ C01/C07/C09 — the ANS model's abstract backend is a faithful image of the backends

`CV.Ans.Coder` (`Model/Ans.lean`) keeps its backend as `bulk` (top first) and `cap`.  These
theorems tie that abstraction to the backend Impl models of `Model/Backend.lean`, so the ANS
theorems (C01 stack discipline, C07 seek, C09 failed encode on a full backend) speak about
`AnsCoder<_, _, Vec<_>>`, `AnsCoder<_, _, Cursor<_, _>>` and the `Reverse<Cursor>` decoders
through proved simulations instead of prose:

* `absVec v st` : `bulk = v.data.reverse`, `cap = none`
* `absCur c st` : `bulk = (c.buf.take c.pos).reverse`, `cap = some c.buf.length` (needs `pos ≤ len`)
* `absRev r st` : `bulk = r.inner.buf.drop r.inner.pos` (`from_reversed_compressed`)

`ansWrite x w = Ans.pushAll x [w]` and `ansRead x = (x.bulk.head?, Ans.dropReads x 1)` are the
ANS model's own backend write / stack read.
-/
namespace CV.Backend.AnsAbs.C17

/-! ## `Vec` -/

theorem C17_ans_vec_write (v : VecB) (st w : Nat) :
    ansWrite (absVec v st) w = some (absVec (v.write w) st) := vec_write v st w

theorem C17_ans_vec_read (v : VecB) (st : Nat) :
    ((v.read).1, absVec (v.read).2 st) = ansRead (absVec v st) := vec_read v st

theorem C17_ans_vec_seek (v : VecB) (st p st' : Nat) :
    Ans.seek (absVec v st) (p, st') = (v.seek p).map (fun v' => absVec v' st') :=
  vec_seek v st p st'

theorem C17_ans_vec_pos_remaining (v : VecB) (st : Nat) :
    (Ans.pos (absVec v st)).1 = v.pos ∧ (absVec v st).bulk.length = v.remaining :=
  ⟨vec_pos v st, vec_remaining v st⟩

/-- lifted to every history over {write, stack read, seek, pos, remaining} -/
theorem C17_ans_vec_run (ops : List Op) (v : VecB) (st : Nat) (h : ∀ op ∈ ops, AnsOp op = true) :
    ∃ v', Backend.run (.vec v) ops = ((absRunVec (absVec v st) ops).1, .ok (.vec v')) ∧
      absVec v' st = (absRunVec (absVec v st) ops).2 := by
  induction ops generalizing v with
  | nil => exact ⟨v, rfl, rfl⟩
  | cons op ops ih =>
    obtain ⟨v1, h1, h2⟩ := vec_step_sim v st op (h op List.mem_cons_self)
    obtain ⟨v2, h3, h4⟩ := ih v1 (fun o ho => h o (List.mem_cons_of_mem _ ho))
    rw [Backend.run_cons_ok h1, h3, absRunVec, ← h2]
    exact ⟨v2, rfl, h4⟩

example := C17_ans_vec_run [.write 5, .readS, .seek 1, .pos, .remS, .readS, .readS] ⟨[1, 2]⟩ 77
  (by decide)

/-! ## `Cursor` used as a stack (`AnsCoder<_, _, Cursor<_, _>>`), under `pos ≤ len` -/

/-- a write succeeds iff `Ans.canWrite`, and then the new abstraction is `w :: bulk` -/
theorem C17_ans_cursor_write (c : Cursor) (hI : c.Inv) (st w : Nat) :
    (Ans.canWrite (absCur c st) = true ↔ ∃ c', c.write w = .ok c') ∧
    ansWrite (absCur c st) w =
      (match c.write w with
       | .ok c' => some (absCur c' st)
       | .error _ => none) ∧
    ansWrite (absCur c st) w =
      (if Ans.canWrite (absCur c st) then some { absCur c st with bulk := w :: (absCur c st).bulk }
       else none) := by
  refine ⟨sim_cursor.canWrite_iff c hI st w, ?_, ansWrite_eq _ w⟩
  cases hw : c.write w with
  | ok c' => exact sim_cursor.ansWrite_ok hI st hw
  | error e => exact sim_cursor.ansWrite_err hI st hw

/-- a stack read returns the head of `bulk` and pops it; it never faults -/
theorem C17_ans_cursor_read (c : Cursor) (hI : c.Inv) (st : Nat) :
    ∃ c', c.readStack = .ok ((ansRead (absCur c st)).1, c') ∧
      absCur c' st = (ansRead (absCur c st)).2 ∧ c'.Inv :=
  sim_cursor.read c st hI

/-- `seek p` is allowed iff `p ≤ len` and yields `bulk = (buf.take p).reverse`
    (the rule of the driver's `ansd` lines, `Driver/Ans.lean`) -/
theorem C17_ans_cursor_seek (c : Cursor) (st p st' : Nat) :
    (c.seek p).map (fun c' => absCur c' st') =
      (if p ≤ c.buf.length then
        some { absCur c st with bulk := (c.buf.take p).reverse, state := st' }
       else none) ∧
    (∀ c', c.seek p = some c' → c'.Inv ∧ c'.buf = c.buf) := by
  by_cases h : p ≤ c.buf.length
  · rw [Cursor.seek_le c p h]
    exact ⟨by simp [absCur, h], fun c' hc => by cases hc; exact ⟨h, rfl⟩⟩
  · have : c.seek p = none := by simp [Cursor.seek, Nat.lt_of_not_le h]
    rw [this]
    exact ⟨by simp [h], nofun⟩

theorem C17_ans_cursor_pos_remaining (c : Cursor) (hI : c.Inv) (st : Nat) :
    c.getPos = (absCur c st).bulk.length ∧ c.remainingStack = (absCur c st).bulk.length :=
  cur_pos c hI st

/-- lifted to every history over {write, stack read, seek, pos, remaining}; the abstract side
    carries the buffer because `Cursor::seek` can move back up over written words -/
theorem C17_ans_cursor_run (ops : List Op) (c : Cursor) (st : Nat) (hI : c.Inv)
    (h : ∀ op ∈ ops, AnsOp op = true) :
    ∃ c', Cur.run true (.fwd c) ops = ((absRunCur (absCur c st) c.buf ops).1, .ok (.fwd c')) ∧
      c'.Inv ∧ absCur c' st = (absRunCur (absCur c st) c.buf ops).2.1 ∧
      c'.buf = (absRunCur (absCur c st) c.buf ops).2.2 := by
  induction ops generalizing c with
  | nil => exact ⟨c, rfl, hI, rfl, rfl⟩
  | cons op ops ih =>
    obtain ⟨c1, h1, hI1, h2, hb1⟩ := cur_step_sim c hI st op (h op List.mem_cons_self)
    obtain ⟨c2, h3, hI2, h4, hb2⟩ := ih c1 hI1 (fun o ho => h o (List.mem_cons_of_mem _ ho))
    rw [Cur.run_cons_ok h1, h3, absRunCur, ← h2, ← hb1]
    exact ⟨c2, rfl, hI2, h4, hb2⟩

example := C17_ans_cursor_run [.write 5, .write 6, .write 7, .readS, .seek 3, .readS, .pos, .remS]
  ⟨[1, 2, 3, 4], 2⟩ 77 (by simp [Cursor.Inv]) (by decide)

/-! ## `Reverse<Cursor>` as a stack source (`from_reversed_compressed`) -/

/-- stack reads consume the buffer front to back (holds in every state) -/
theorem C17_ans_rev_read (r : RevCursor) (st : Nat) :
    ((r.readStack).1, absRev (r.readStack).2 st) = ansRead (absRev r st) := by
  obtain ⟨c⟩ := r
  cases hb : c.buf[c.pos]? with
  | none =>
    have hd : c.buf.drop c.pos = [] := by
      rw [List.drop_eq_nil_iff]; exact List.getElem?_eq_none_iff.mp hb
    simp [RevCursor.readStack, Cursor.readQueue, hb, ansRead, absRev, Ans.dropReads, hd]
  | some w =>
    obtain ⟨hlt, hw⟩ := List.getElem?_eq_some_iff.mp hb
    have hd : c.buf.drop c.pos = w :: c.buf.drop (c.pos + 1) := by
      rw [List.drop_eq_getElem_cons hlt, hw]
    simp [RevCursor.readStack, Cursor.readQueue, hb, ansRead, absRev, Ans.dropReads, hd]

/-- `pos` counts consumed words; `remaining` is `bulk.length` -/
theorem C17_ans_rev_pos_remaining (r : RevCursor) (hI : r.inner.Inv) (st : Nat) :
    r.getPos = r.inner.buf.length - (absRev r st).bulk.length ∧
    r.remainingStack = .ok (absRev r st).bulk.length := by
  unfold Cursor.Inv at hI
  refine ⟨by simp [RevCursor.getPos, absRev]; omega, ?_⟩
  simp [RevCursor.remainingStack, Cursor.remainingQueue, csub, absRev, hI]

/-- `seek` passes through: `bulk = buf.drop p`, allowed iff `p ≤ len`
    (the rule of the driver's `ansr` lines) -/
theorem C17_ans_rev_seek (r : RevCursor) (st p st' : Nat) :
    (r.seek p).map (fun r' => absRev r' st') =
      if p ≤ r.inner.buf.length then
        some { absRev r st with bulk := r.inner.buf.drop p, state := st' }
      else none := by
  by_cases h : p ≤ r.inner.buf.length
  · simp [RevCursor.seek, Cursor.seek_le r.inner p h, absRev, h]
  · have : p > r.inner.buf.length := by omega
    simp [RevCursor.seek, Cursor.seek, absRev, h, this]

/-- a write to a `Reverse<Cursor>` is the abstract push with `cap = some len` too -/
theorem C17_ans_rev_write (r : RevCursor) (hI : r.inner.Inv) (st w : Nat) :
    ansWrite (absRev r st) w =
      match r.write w with
      | .ok r' => some (absRev r' st)
      | .error _ => none := by
  cases hw : r.write w with
  | ok r' => exact sim_revCursor.ansWrite_ok hI st hw
  | error e => exact sim_revCursor.ansWrite_err hI st hw

example : ansRead (absRev ⟨⟨[9, 8, 7], 1⟩⟩ 5) = (some 8, absRev ⟨⟨[9, 8, 7], 2⟩⟩ 5) :=
  (C17_ans_rev_read ⟨⟨[9, 8, 7], 1⟩⟩ 5).symm

/-! ## composition with the ANS theorems

`encodeCPOn`/`encodeOn`/`decodeOn` (`Model/BackendAns.lean`) are `encode_symbol` /
`decode_symbol` of `stack.rs` written over an explicit backend (`cursorOps`: `Cursor.write` /
`Cursor.readStack`; `revCursorOps`; `vecOps`).  They are the image of `Ans.encodeCP` /
`Ans.encode` / `Ans.decode` under the abstractions, so every theorem about `CV.Ans` is a
theorem about the coder running on the backend models. -/

/-- `encode_symbol` over a `Cursor` (`pos ≤ len`) = `Ans.encodeCP` on `absCur`; in particular
    `Err(backendFull)` ⇔ the cursor's write is refused, and then nothing has changed -/
theorem C17_ans_cursor_encode (c : Cfg) (cur : Cursor) (hI : cur.Inv) (st cum p : Nat) :
    Ans.encodeCP c (absCur cur st) cum p = liftEnc absCur (encodeCPOn cursorOps c cur st cum p) :=
  encodeCPOn_sim sim_cursor c cur hI st cum p

/-- `decode_symbol` over a `Cursor` = `Ans.decode` on `absCur` -/
theorem C17_ans_cursor_decode {Sym : Type} (c : Cfg) (m : Model Sym) (cur : Cursor) (hI : cur.Inv)
    (st : Nat) :
    Ans.decode c m (absCur cur st) = liftDec absCur (decodeOn cursorOps c m cur st) :=
  decodeOn_sim sim_cursor c cur hI st m

/-- the same for `Vec` and for `Reverse<Cursor>` -/
theorem C17_ans_vec_rev_steps {Sym : Type} (c : Cfg) (m : Model Sym) (v : VecB) (r : RevCursor)
    (hI : r.inner.Inv) (st cum p : Nat) :
    Ans.encodeCP c (absVec v st) cum p = liftEnc absVec (encodeCPOn vecOps c v st cum p) ∧
    Ans.decode c m (absVec v st) = liftDec absVec (decodeOn vecOps c m v st) ∧
    Ans.encodeCP c (absRev r st) cum p = liftEnc absRev (encodeCPOn revCursorOps c r st cum p) ∧
    Ans.decode c m (absRev r st) = liftDec absRev (decodeOn revCursorOps c m r st) :=
  ⟨encodeCPOn_sim sim_vec c v trivial st cum p, decodeOn_sim sim_vec c v trivial st m,
    encodeCPOn_sim sim_revCursor c r hI st cum p, decodeOn_sim sim_revCursor c r hI st m⟩

/-- a refused encode happens only when the cursor is full (`pos = len`) -/
theorem C17_ans_cursor_full_only_when_full (c : Cfg) (cur : Cursor) (hI : cur.Inv) (st cum p : Nat)
    (he : encodeCPOn cursorOps c cur st cum p = .error .backendFull) : cur.pos = cur.buf.length := by
  have h := sim_full_only_when_full sim_cursor c cur hI st cum p he
  have hI' : cur.pos ≤ cur.buf.length := hI
  simp [Ans.canWrite, absCur, Nat.min_eq_left hI'] at h
  omega

/-- the push-then-pop law of C01 over any backend simulated by the abstract one (`Vec`,
    `Reverse<Cursor>`, a bounded `Cursor`, …), whenever the encode succeeds -/
theorem C17_ans_sim_decode_encode {β Sym : Type} {B : BackendOps β} {good : β → Prop}
    {abs : β → Nat → Ans.Coder} (h : Sim B good abs) {c : Cfg} (hc : c.Valid)
    {m : Model Sym} (hm : m.WellFormed c.P) (b : β) (hg : good b) (st : Nat)
    (hx : Ans.Inv c (abs b st)) {s : Sym} {cp : Nat × Nat} (henc : m.enc s = some cp)
    (b' : β) (st' : Nat) (hok : encodeOn B c m s b st = .ok (b', st')) :
    good b' ∧ Ans.Inv c (abs b' st') ∧
    ∃ b'', decodeOn B c m b' st' = .ok (s, b'', st) ∧ good b'' ∧ abs b'' st = abs b st := by
  obtain ⟨cum, p⟩ := cp
  have hcp := hm.cpok henc
  rw [encodeOn_some henc] at hok
  have hg' : good b' := encodeCPOn_good h c b hg st cum p b' st' hok
  -- the abstract encode succeeded with `abs b' st'`, which is therefore `encArith` of `abs b st`
  have he : Ans.encodeCP c (abs b st) cum p = .ok (abs b' st') := by
    rw [encodeCPOn_sim h c b hg st, hok]; rfl
  rw [Ans.encodeCP_eq hc hx hcp] at he
  split at he
  · cases he
  have hy : Ans.encArith c (abs b st) cum p = abs b' st' := Except.ok.inj he
  have hy0 : Ans.Inv c (abs b' st') := hy ▸ Ans.encArith_inv hc hx hcp
  have hdec : Ans.decode c m (abs b' st') = .ok (s, abs b st) := by
    rw [Ans.decode_spec hc hm hy0, ← hy, Ans.decArith_encArith hc hm hx henc]
  rw [decodeOn_sim h c b' hg' st' m] at hdec
  cases hd : decodeOn B c m b' st' with
  | error f => rw [hd] at hdec; cases hdec
  | ok r =>
    obtain ⟨s1, b'', st''⟩ := r
    rw [hd] at hdec
    obtain ⟨rfl, habs⟩ := Prod.mk.inj (Except.ok.inj hdec)
    have hst : st'' = st := by
      have := congrArg Ans.Coder.state habs
      rwa [h.state_eq, h.state_eq] at this
    subst hst
    exact ⟨hg', hy0, b'', rfl, decodeOn_good h c b' hg' st' m s1 b'' st'' hd, habs⟩

/-- **`CV.Ans.C01.decode_encode` transported to the cursor-backed coder**
    (`AnsCoder<Word, State, Cursor<Word, Buf>>`, all valid `Cfg`, all well-formed models, all
    coder states satisfying the ANS invariant): with room for one word the encode succeeds;
    whenever it succeeds, the following decode with the same model returns the symbol and the
    old `state`, and the cursor is back at the old position with the same stack contents. -/
theorem C17_ans_cursor_decode_encode {Sym : Type} {c : Cfg} (hc : c.Valid) {m : Model Sym}
    (hm : m.WellFormed c.P) (cur : Cursor) (hI : cur.Inv) (st : Nat)
    (hx : Ans.Inv c (absCur cur st)) {s : Sym} {cp : Nat × Nat} (henc : m.enc s = some cp) :
    (cur.pos < cur.buf.length → ∃ cur' st', encodeOn cursorOps c m s cur st = .ok (cur', st')) ∧
    (∀ cur' st', encodeOn cursorOps c m s cur st = .ok (cur', st') →
      cur'.Inv ∧ Ans.Inv c (absCur cur' st') ∧
      ∃ cur'', decodeOn cursorOps c m cur' st' = .ok (s, cur'', st) ∧ cur''.Inv ∧
        absCur cur'' st = absCur cur st ∧ cur''.pos = cur.pos) := by
  have hI' : cur.pos ≤ cur.buf.length := hI
  refine ⟨fun hroom => ?_, fun cur' st' hok => ?_⟩
  · exact sim_encode_succeeds sim_cursor hc hm cur hI st hx henc
      (by simp [Ans.canWrite, absCur, Nat.min_eq_left hI']; exact hroom)
  · obtain ⟨h1, h2, cur'', h3, h4, h5⟩ := C17_ans_sim_decode_encode sim_cursor hc hm cur hI st hx henc cur' st' hok
    refine ⟨h1, h2, cur'', h3, h4, h5, ?_⟩
    have h4' : cur''.pos ≤ cur''.buf.length := h4
    have := congrArg (fun x => x.bulk.length) h5
    simpa [absCur, Nat.min_eq_left hI', Nat.min_eq_left h4'] using this

/-- an instance: `Word = u8`, `State = u16`, `P = 4`, a cursor over 4 words at position 1 holding
    a valid coder state; `encode_symbol` with `(cum, p) = (3, 2)` flushes a word and succeeds -/
example : (encodeCPOn cursorOps ⟨8, 16, 4, 8⟩ ⟨[0x12, 0, 0, 0], 1⟩ 0xf234 3 2).toOption.isSome = true := by
  decide

end CV.Backend.AnsAbs.C17

#print axioms CV.Backend.AnsAbs.C17.C17_ans_cursor_encode
#print axioms CV.Backend.AnsAbs.C17.C17_ans_cursor_decode
#print axioms CV.Backend.AnsAbs.C17.C17_ans_vec_rev_steps
#print axioms CV.Backend.AnsAbs.C17.C17_ans_cursor_full_only_when_full
#print axioms CV.Backend.AnsAbs.C17.C17_ans_cursor_decode_encode
#print axioms CV.Backend.AnsAbs.C17.C17_ans_sim_decode_encode
#print axioms CV.Backend.AnsAbs.C17.C17_ans_vec_write
#print axioms CV.Backend.AnsAbs.C17.C17_ans_vec_read
#print axioms CV.Backend.AnsAbs.C17.C17_ans_vec_seek
#print axioms CV.Backend.AnsAbs.C17.C17_ans_vec_pos_remaining
#print axioms CV.Backend.AnsAbs.C17.C17_ans_vec_run
#print axioms CV.Backend.AnsAbs.C17.C17_ans_cursor_write
#print axioms CV.Backend.AnsAbs.C17.C17_ans_cursor_read
#print axioms CV.Backend.AnsAbs.C17.C17_ans_cursor_seek
#print axioms CV.Backend.AnsAbs.C17.C17_ans_cursor_pos_remaining
#print axioms CV.Backend.AnsAbs.C17.C17_ans_cursor_run
#print axioms CV.Backend.AnsAbs.C17.C17_ans_rev_read
#print axioms CV.Backend.AnsAbs.C17.C17_ans_rev_pos_remaining
#print axioms CV.Backend.AnsAbs.C17.C17_ans_rev_seek
#print axioms CV.Backend.AnsAbs.C17.C17_ans_rev_write
