import CV.Proofs.RangeExamples
/-!
# C10 — Decoding arbitrary data with the range decoder is total (component `range`)
-/
namespace CV.Range

/-- `from_compressed` never fails, and its result satisfies what `decode_symbol` relies on -/
theorem C10_range_from_any_words {c : Cfg} (hc : RValid c) {ws : List Nat} (hw : WordsOK c ws) :
    ∃ d, Decoder.fromCompressed c ws = .ok d ∧ DReg c d :=
  fromCompressed_total hc hw

/-- **one `decode_symbol` on arbitrary data**: `InvalidData` exactly when the quantile is `≥ 2^P`
    (decided before anything is modified), or a symbol of the model's support and the documented
    invariant `point ⊖ lower < range`.  No `Fault`: `scale ≠ 0`, no multiplication overflows,
    `scale·p ≠ 0`, the unchecked non-zero shift is sound. -/
theorem C10_range_decode_total {Sym : Type} {c : Cfg} (hc : RValid c) {m : Model Sym}
    (hm : m.WellFormed c.P) {d : Decoder} (hI : DReg c d) :
    (decode c m d = .error .invalidData ∧ quantileOf c d ≥ 2^c.P) ∨
    (∃ s d', decode c m d = .ok (s, d') ∧ DInv c d' ∧ (m.enc s).isSome ∧
      quantileOf c d < 2^c.P) :=
  decode_total hc hm hI

/-- **any number of symbols with any sequence of well-formed models** (per-symbol
    `PRECISION`): a list of in-support symbols or `InvalidData`, never a `Fault`. -/
theorem C10_range_decode_many_total {Sym : Type} {c : Cfg} (hc : RValid c) {ws : List Nat}
    (hw : WordsOK c ws) (msg : List (MStep Sym)) (hv : ∀ x ∈ msg, x.DecValid c) :
    ∃ d0, Decoder.fromCompressed c ws = .ok d0 ∧
      ((∃ ss d', decodeMsg c d0 msg = .ok (ss, d') ∧ DReg c d' ∧ InSupport ss msg) ∨
       decodeMsg c d0 msg = .error .invalidData) := by
  obtain ⟨d0, hd0, hreg⟩ := fromCompressed_total hc hw
  exact ⟨d0, hd0, decodeMsg_total msg d0 hreg hv⟩

/-! non-vacuity: all-ones data (which violates `point ⊖ lower < range` initially) and garbage -/
example : RValid exCfg := exCfg_valid
example : WordsOK exCfg [255, 255, 255] := wordsOK_of_all (by decide)
example : ∀ x ∈ exMsg, x.DecValid exCfg := fun x hx => (exMsg_valid x hx).decValid
example : decodedSyms exCfg [255, 255, 255] exMsg = none := by decide
example : decodedSyms exCfg [18, 52, 86, 120] exMsg = some [0, 0, 1, 1, 0] := by decide

end CV.Range

#print axioms CV.Range.C10_range_from_any_words
#print axioms CV.Range.C10_range_decode_total
#print axioms CV.Range.C10_range_decode_many_total
