import CV.Model.QuantFloatReplica
import CV.Proofs.QuantExamples
import CV.Proofs.QuantCatLink
import CV.Proofs.QuantFloatInstances
/-!
# C03 (component `quant`): every float-derived entropy model is valid and exactly invertible

The theorems do not reason about IEEE arithmetic: it enters through the integer sequences it
produces, and what these must satisfy is stated as explicit, checkable **hypotheses**
(`TBF1Fast`, `TBF2`, `GOk` — see `CV.Proofs.QuantModels`; never axioms).  The driver evaluates
them on every sampled instance; the `example`s below take them from
`CV.Proofs.QuantFloatInstances` (by `decide` on realistic tables) and from synthetic instances.
Everything holds for all `1 ≤ P ≤ B ≤ 64` (`P = B` included) and every integer symbol type
(signed/unsigned, narrower/wider than `Probability`).

Label: **partial** in the lazy decoder's skip phase (TB-F2, certificate-checked per instance);
TB-F1 is a hypothesis here and a theorem for the software IEEE model (`C03_ieee`); the integer
layer and the search algorithm are full.  `perfectly_quantized_probabilities`: only its output
contract is modelled; validity of every `…_perfect` result comes from component `cat`'s
`C19_validator_accepts_only_valid` (the weights are passed through
`from_nonzero_fixed_point_probabilities`), not from `C03_perfect_contract` below, which merely
unfolds the contract the driver checks; termination is not claimed.
-/
namespace CV.Quant
open CV

/-- the contiguous model over a cdf table as the coders see it (component `cat`'s encoder lookup
    and binary-search decoder) -/
def contiguousModel (B : Nat) (cdf : List Nat) : Model Nat :=
  { enc := Cat.okEnc ((⟨cdf⟩ : Cat.Contiguous).enc B),
    dec := Cat.okDec ((⟨cdf⟩ : Cat.Contiguous).dec B) }

/-- **C03, eager `from_floating_point_probabilities_fast`** (all five constructors share
    `fast_quantized_cdf`) -/
theorem C03_fast_cdf_valid {B P n : Nat} {h : Nat → Nat} (hP1 : 1 ≤ P) (hPB : P ≤ B) (hB : B ≤ 64)
    (hlen : lenOk P n = true) (tb : TBF1Fast h n) :
    ∃ cdf, fastCdf B P n (freeWeight B P n) h = .ok cdf ∧ Cat.ValidCdf B P cdf ∧
      (contiguousModel B cdf).WellFormed P := by
  obtain ⟨ok, hf⟩ := FastOk.of_guards hP1 hPB hB hlen
  have hv := cdfList_valid (h := h) ok hf tb
  exact ⟨_, fastCdf_eq ok hf, hv,
    Cat.wellFormed_of_spec hv.2 (Cat.Contiguous.enc_eq (m := ⟨_⟩) hv hPB)
      (fun q hq => Cat.Contiguous.dec_eq (m := ⟨_⟩) hv hPB hq)⟩

example : ∃ cdf, fastCdf 16 12 4 (freeWeight 16 12 4) exH = .ok cdf ∧ Cat.ValidCdf 16 12 cdf ∧
    (contiguousModel 16 cdf).WellFormed 12 :=
  C03_fast_cdf_valid (by decide) (by decide) (by decide) (by decide) exTBF1

/-- the same on a real `f32` table: the D4 reproducer at `u32` / `P = 24`, hypotheses by `decide` -/
example : ∃ cdf, fastCdf 32 24 5 (freeWeight 32 24 5) (d4.hE f32Ops 32) = .ok cdf ∧
    Cat.ValidCdf 32 24 cdf ∧ (contiguousModel 32 cdf).WellFormed 24 :=
  C03_fast_cdf_valid (by decide) (by decide) (by decide) (by decide) (d4_n ▸ d4_tbf1)

/-- **C03, `LazyContiguousCategoricalEntropyModel`**; the out-of-support clause is stated on the
    model function itself (`.ok none`: a `Fault` does not count as "impossible symbol") -/
theorem C03_lazy_wellFormed {B P n : Nat} {h : Nat → Nat} {k0 : Nat → Nat} (hP1 : 1 ≤ P)
    (hPB : P ≤ B) (hB : B ≤ 64) (hlen : lenOk P n = true) (tb : TBF1Fast h n)
    (t2 : TBF2 P n (freeWeight B P n) h k0) :
    (lazyModel B P n (freeWeight B P n) h k0).WellFormed P ∧
    (∀ s, n ≤ s → lazyEnc B P n (freeWeight B P n) h s = .ok none) ∧
    (∀ s, s < n → ∃ c p, lazyEnc B P n (freeWeight B P n) h s = .ok (some (c, p)) ∧
      0 < p ∧ p < 2 ^ P) := by
  obtain ⟨ok, hf⟩ := FastOk.of_guards hP1 hPB hB hlen
  refine ⟨lazyModel_wellFormed ok hf tb t2, fun s hs => ?_, ?_⟩
  · rw [lazyEnc_eq ok hf tb.mono]; unfold encF; rw [if_neg (by omega)]
  intro s hs
  refine ⟨cumF P n (freeWeight B P n) h s, widthF P n (freeWeight B P n) h s, ?_,
    width_pos ok hf tb.mono hs, width_lt ok hf tb.mono hs⟩
  rw [lazyEnc_eq ok hf tb.mono]; unfold encF; rw [if_pos hs]

example : (lazyModel 16 12 4 (freeWeight 16 12 4) exH (fun _ => 1)).WellFormed 12 :=
  (C03_lazy_wellFormed (by decide) (by decide) (by decide) (by decide) exTBF1
    (by rw [exFree]; exact exTBF2)).1

/-- the same on a real `f32` model at `u8` / `P = 6` whose skip phase skips (`lz_skips`);
    TB-F1 and TB-F2 for *all* 64 quantiles by `decide` -/
example : (lazyModel 8 6 6 (freeWeight 8 6 6) (lz.hE f32Ops 8) (lz.k0 f32Ops 8)).WellFormed 6 :=
  (C03_lazy_wellFormed (by decide) (by decide) (by decide) (by decide) lz_tbf1 lz_tbf2).1

/-- **C03, `LeakilyQuantizedDistribution`: tiling, non-empty bins, none of probability one** -/
theorem C03_leaky_tiling {m : LQ} {g : Int → Nat} (ok : m.Ok) (gk : GOk m g) :
    leftQ m g m.min = 0 ∧ rightQ m g m.max = 2 ^ m.P ∧
    (∀ s, m.min ≤ s → s < m.max → rightQ m g s = leftQ m g (s + 1)) ∧
    (∀ s, m.min ≤ s → s ≤ m.max → 0 < widthQ m g s ∧ widthQ m g s < 2 ^ m.P) := by
  refine ⟨leftQ_min, rightQ_max, ?_, ?_⟩
  · intro s h1 h2; exact rightQ_eq_left_succ h1 h2
  · intro s h1 h2; exact widthQ_bounds ok gk h1 h2

example : leftQ exLQ exG exLQ.min = 0 ∧ rightQ exLQ exG exLQ.max = 2 ^ exLQ.P :=
  ⟨(C03_leaky_tiling exLQ_ok exG_ok).1, (C03_leaky_tiling exLQ_ok exG_ok).2.1⟩

/-- **C03, the search of `quantile_function` is correct for every hint value**, within
    `searchFuel t = 4 * bits + 8` probes — "the hint only seeds the search" -/
theorem C03_leaky_search_every_hint {m : LQ} {g : Int → Nat} (ok : m.Ok) (gk : GOk m g)
    {q : Nat} (hq : q < 2 ^ m.P) (hint : Int) {fuel : Nat} (hf : searchFuel m.t ≤ fuel) :
    ∃ a, (m.min ≤ a ∧ a ≤ m.max ∧ leftQ m g a ≤ q ∧ q < rightQ m g a) ∧
      (∀ b, Bin m g q b → b = a) ∧
      m.dec (extL g) (extR g) fuel hint q = .ok (a, leftQ m g a, widthQ m g a) := by
  obtain ⟨a, ha, hd⟩ := dec_correct ok gk hq hint hf
  exact ⟨a, ha, fun b hb => bin_unique_q ok gk hb ha, hd⟩

example : ∃ a, exLQ.dec (extL exG) (extR exG) (searchFuel exLQ.t) 1000000000 2000
    = .ok (a, leftQ exLQ exG a, widthQ exLQ exG a) := by
  obtain ⟨a, _, _, h⟩ := C03_leaky_search_every_hint exLQ_ok exG_ok (q := 2000) (by decide)
    1000000000 (Nat.le_refl (searchFuel exLQ.t))
  exact ⟨a, h⟩

/-- **C03, `LeakilyQuantizedDistribution` is `WellFormed` for every hint function** (any
    `Inverse::inverse`, however wrong), and the decoder does not depend on the hints -/
theorem C03_leaky_wellFormed {m : LQ} {g : Int → Nat} (ok : m.Ok) (gk : GOk m g)
    (hint : Nat → Int) :
    (leakyModel m g hint).WellFormed m.P ∧
    (∀ hint' q, q < 2 ^ m.P → (leakyModel m g hint).dec q = (leakyModel m g hint').dec q) ∧
    (∀ s, s < m.min ∨ m.max < s → m.enc (extL g) (extR g) s = .ok none) :=
  ⟨leakyModel_wellFormed ok gk, fun hint' _ hq => leakyModel_dec_hint_irrelevant ok gk hint hint' hq,
    fun s hs => by rw [enc_eq ok gk]; unfold encQ; rw [if_neg (by omega)]⟩

example : (leakyModel exLQ exG (fun _ => -100)).WellFormed 12 :=
  (C03_leaky_wellFormed exLQ_ok exG_ok _).1
example : (leakyModel exLQfull (fun _ => 0) (fun q => q)).WellFormed 8 :=
  (C03_leaky_wellFormed exLQfull_ok exGfull_ok _).1
/-- the real quantised standard Gaussian on `-5..=5` (`GOk` by `decide` from the recorded CDF) -/
example : (leakyModel gaussLQ gaussG (fun _ => 1000000)).WellFormed 24 :=
  (C03_leaky_wellFormed gaussLQ_ok gauss_gok _).1

/-- **C03, `NonContiguousCategoricalDecoderModel::…_fast`**, with as many (pairwise distinct)
    symbols as weights -/
theorem C03_ncdec_fast {Sym : Type} [DecidableEq Sym] [Inhabited Sym] {B P n : Nat} {h : Nat → Nat}
    (hP1 : 1 ≤ P) (hPB : P ≤ B) (hB : B ≤ 64) (hlen : lenOk P n = true) (tb : TBF1Fast h n)
    {syms : List Sym} (hs : syms.length = n) (hnd : syms.Nodup) :
    ∃ m, Cat.NcDec.fromSymbolsAndCdf B P syms (innerList P n (freeWeight B P n) h) = .ok (some m) ∧
      (∀ q, q < 2 ^ P → m.dec B q
        = .ok ((Cat.labelledModel syms (extList P n (freeWeight B P n) h)).dec q)) ∧
      (Cat.labelledModel syms (extList P n (freeWeight B P n) h)).WellFormed P := by
  obtain ⟨ok, hf⟩ := FastOk.of_guards hP1 hPB hB hlen
  have hv := extList_valid (h := h) ok hf tb
  have hl : syms.length + 1 = (extList P n (freeWeight B P n) h).length := by
    rw [extList_length]; omega
  obtain ⟨last, hm⟩ := ncdec_fast (free := freeWeight B P n) (h := h) ok hs
  exact ⟨_, hm, fun q hq => Cat.NcDec.dec_canon hv hl hPB hq, Cat.labelledModel_wellFormed hv hl hnd⟩

/-- **C03, `NonContiguousCategoricalEncoderModel::…_fast`** -/
theorem C03_ncenc_fast {Sym : Type} [DecidableEq Sym] [Inhabited Sym] {B P n : Nat} {h : Nat → Nat}
    (hP1 : 1 ≤ P) (hPB : P ≤ B) (hB : B ≤ 64) (hlen : lenOk P n = true) (tb : TBF1Fast h n)
    {syms : List Sym} (hs : syms.length = n) (hnd : syms.Nodup) :
    ∃ m, Cat.NcEnc.fromSymbolsAndCdf B P syms (innerList P n (freeWeight B P n) h) = .ok (some m) ∧
      ∀ s, m.enc s = (Cat.labelledModel syms (extList P n (freeWeight B P n) h)).enc s := by
  obtain ⟨ok, hf⟩ := FastOk.of_guards hP1 hPB hB hlen
  obtain ⟨m, h1, _, h3⟩ := ncenc_fast ok hf tb hs hnd
  exact ⟨m, h1, h3⟩

/-- **C03, `ContiguousLookupDecoderModel::…_fast`**: the lookup table is correct -/
theorem C03_lookup_fast {B P n : Nat} {h : Nat → Nat} (hP1 : 1 ≤ P) (hPB : P ≤ B) (hB : B ≤ 64)
    (hlen : lenOk P n = true) (tb : TBF1Fast h n) :
    ∃ lk, Cat.Lookup.fromContiguous B P ⟨cdfList B P n (freeWeight B P n) h⟩ = .ok lk ∧
      ∀ q, q < 2 ^ P → lk.dec B P q = .ok (Cat.specDec (extList P n (freeWeight B P n) h) q) := by
  obtain ⟨ok, hf⟩ := FastOk.of_guards hP1 hPB hB hlen
  obtain ⟨tbl, h1, h2⟩ := lookup_fast (h := h) ok hf tb
  refine ⟨_, h1, fun q hq => ?_⟩
  have hv := cdfList_valid (h := h) ok hf tb
  have := Cat.Lookup.dec_eq (m := { tbl := tbl, cdf := cdfList B P n (freeWeight B P n) h }) hv hPB
    (by rw [unwrap_cdfList]; exact h2) hq
  rw [unwrap_cdfList] at this; exact this

/-- **C03, `NonContiguousLookupDecoderModel::…_fast`** -/
theorem C03_nclookup_fast {Sym : Type} [DecidableEq Sym] [Inhabited Sym] {B P n : Nat}
    {h : Nat → Nat} (hP1 : 1 ≤ P) (hPB : P ≤ B) (hB : B ≤ 64) (hlen : lenOk P n = true)
    (tb : TBF1Fast h n) {syms : List Sym} (hs : syms.length = n) :
    ∃ m, Cat.NcLookup.fromSymbolsAndCdf B P syms (innerList P n (freeWeight B P n) h) = .ok (some m) ∧
      ∀ q, q < 2 ^ P → m.dec B P q
        = .ok ((Cat.labelledModel syms (extList P n (freeWeight B P n) h)).dec q) := by
  obtain ⟨ok, hf⟩ := FastOk.of_guards hP1 hPB hB hlen
  have hv := extList_valid (h := h) ok hf tb
  have hl : syms.length + 1 = (extList P n (freeWeight B P n) h).length := by
    rw [extList_length]; omega
  obtain ⟨tbl, last, hm, hok⟩ := nclookup_fast (h := h) ok hf tb hs
  exact ⟨_, hm, fun q hq => Cat.NcLookup.dec_canon hv hl hPB hok hq⟩

example := C03_ncdec_fast (B := 32) (P := 24) (n := 5) (h := d4.hE f32Ops 32)
  (syms := [10, 20, 30, 40, 50]) (by decide) (by decide) (by decide) (by decide)
  (d4_n ▸ d4_tbf1) rfl (by decide)

/-- **C03, `…_perfect` constructors** (output contract only — see the file header: validity of
    `…_perfect` results is `cat`'s `C19_validator_accepts_only_valid`): weights that satisfy the
    contract are non-zero and sum to `2^P` -/
theorem C03_perfect_contract {P n : Nat} {w : List Nat} (h : perfectContract P n w = true) :
    w.length = n ∧ (∀ x ∈ w, 0 < x) ∧ w.foldl (· + ·) 0 = 2 ^ P := by
  unfold perfectContract at h
  simp only [Bool.and_eq_true, beq_iff_eq, List.all_eq_true, decide_eq_true_eq] at h
  exact ⟨h.1.1, h.1.2, h.2⟩

example : perfectContract 3 3 [5, 1, 2] = true := by decide

/-- the obligation fails for the code before D4 (no clamp) -/
theorem C03_D4_counterexample :
    let h : Nat → Nat := fun i => i * 3
    Mono h 3 ∧ h 0 = 0 ∧ (List.range 3).map (fun i => h i + i) ++ [2 ^ 3] = [0, 4, 8, 8] :=
  D4_counterexample

/-- … and before D16 (`step << 1 != 0`): an `i8` step of 64 doubles to `-128` -/
theorem C03_D16_counterexample :
    (⟨8, true⟩ : SymTy).wrap (64 * 2) = -128 ∧ (⟨8, true⟩ : SymTy).wrap (64 * 2) ≠ 0 ∧
    exLQ.dbl 64 = 64 := D16_counterexample

end CV.Quant

#print axioms CV.Quant.C03_fast_cdf_valid
#print axioms CV.Quant.C03_lazy_wellFormed
#print axioms CV.Quant.C03_leaky_tiling
#print axioms CV.Quant.C03_leaky_search_every_hint
#print axioms CV.Quant.C03_leaky_wellFormed
#print axioms CV.Quant.C03_ncdec_fast
#print axioms CV.Quant.C03_ncenc_fast
#print axioms CV.Quant.C03_lookup_fast
#print axioms CV.Quant.C03_nclookup_fast
#print axioms CV.Quant.C03_perfect_contract
#print axioms CV.Quant.C03_D4_counterexample
#print axioms CV.Quant.C03_D16_counterexample
