import CV.Proofs.AnsSize
import CV.Proofs.LogBound
/-!
# C12 (ANS part) — compressed size stays within a proven overhead of the information content
-/
namespace CV.Ans.C12
open CV CV.Ans CV.LogBound

structure Step where
  P : Nat
  B : Nat
  cum : Nat
  p : Nat

def Step.cfg (W S : Nat) (e : Step) : Cfg := { W := W, S := S, P := e.P, B := e.B }
def Step.OK (W S : Nat) (e : Step) : Prop := (e.cfg W S).Valid ∧ CPok e.P e.cum e.p
/-- `(p, P, k)` with `k = S - W - P` -/
def Step.summary (W S : Nat) (e : Step) : ℕ × ℕ × ℕ := (e.p, e.P, S - W - e.P)

/-- the steps in arithmetic form (`encodeAllImpl_eq`: what the Impl model computes) -/
def encodeAll (W S : Nat) : Coder → List Step → Coder
  | x, [] => x
  | x, e :: l => encodeAll W S (encArith (e.cfg W S) x e.cum e.p) l

theorem inv_cfg {c c' : Cfg} (hW : c.W = c'.W) (hS : c.S = c'.S) {x : Coder} (h : Inv c x) : Inv c' x :=
  h.congr hW hS

theorem Q_cfg {c c' : Cfg} (hW : c.W = c'.W) (hS : c.S = c'.S) (x : Coder) : Q c x = Q c' x := by
  unfold Q; rw [hW, hS]

/-- **Multiplicative size bound** for any symbols encoded onto any coder:
    `Q_n · ∏ p_i · ∏ 2^k_i ≤ Q_0 · ∏ 2^P_i · ∏ (2^k_i + 1)`; at most one word per symbol. -/
theorem potential_seq {W S : Nat} (l : List Step) (hl : ∀ e ∈ l, e.OK W S) (x : Coder)
    (hx : Inv { W := W, S := S, P := 1, B := 1 } x) :
    let c0 : Cfg := { W := W, S := S, P := 1, B := 1 }
    Inv c0 (encodeAll W S x l) ∧
    Q c0 (encodeAll W S x l) * prodP (l.map (·.summary W S)) * prodK (l.map (·.summary W S))
      ≤ Q c0 x * prodPrec (l.map (·.summary W S)) * prodK1 (l.map (·.summary W S)) ∧
    (encodeAll W S x l).bulk.length ≤ x.bulk.length + l.length := by
  intro c0
  induction l generalizing x with
  | nil => exact ⟨hx, Nat.le_refl _, Nat.le_refl _⟩
  | cons e l ih =>
    obtain ⟨⟨hv, hcp⟩, hl'⟩ := List.forall_mem_cons.1 hl
    have hstep := potential_step (x := x) hv hcp
    obtain ⟨h1, h2, h3⟩ := ih hl' _ ((encArith_inv hv (hx.congr rfl rfl) hcp).congr rfl rfl)
    -- `hstep` speaks of `Q (e.cfg W S)`, which unfolds to `Q c0`: `Q` reads only `W` and `S`
    refine ⟨h1, prod_cons_le hstep h2, Nat.le_trans h3 ?_⟩
    have := numWords_step (e.cfg W S) x e.cum e.p
    simp only [List.length_cons]
    omega

/-- **C12, stack coder, multiplicative form**, from an empty coder:
    `2^num_bits · ∏ p_i · ∏ 2^k_i ≤ 2^S · ∏ 2^P_i · ∏ (2^k_i + 1)` and `num_words ≤ n + ⌈S/W⌉`. -/
theorem size_bound_mul {W S : Nat} (hWS : 1 ≤ W ∧ 2 * W ≤ S) (l : List Step) (hl : ∀ e ∈ l, e.OK W S) :
    let c0 : Cfg := { W := W, S := S, P := 1, B := 1 }
    2^(numBits c0 (encodeAll W S Ans.empty l)) * prodP (l.map (·.summary W S)) * prodK (l.map (·.summary W S))
      ≤ 2^S * prodPrec (l.map (·.summary W S)) * prodK1 (l.map (·.summary W S)) ∧
    numWords c0 (encodeAll W S Ans.empty l) ≤ l.length + (S + W - 1) / W := by
  intro c0
  have hv : c0.Valid := valid_base hWS
  obtain ⟨hinv, hq, hlen⟩ := potential_seq l hl Ans.empty (inv_empty c0)
  have hbits := two_pow_numBits_le hv (encodeAll W S Ans.empty l)
  have hQ0 : Q c0 Ans.empty = 2^(S - W) := by simp [Q, Ans.empty, c0]
  refine ⟨?_, ?_⟩
  · rw [hQ0] at hq
    rw [pow_split hv.W_le_S]
    exact prod_le_of_le_mul hbits hq
  · unfold numWords
    rw [chunksLE_length]
    exact Nat.add_le_add (Nat.zero_add l.length ▸ hlen) (nchunks_le_of_lt hinv.1)

/-- **C12, stack coder, logarithmic form.** `num_bits ≤ Σ log2(2^P_i / p_i) + Σ log2(1 + 2^-k_i) + S`
    (the constant `S` is within the property's "at most StateBits plus two words"). -/
theorem size_bound_log {W S : Nat} (hWS : 1 ≤ W ∧ 2 * W ≤ S) (l : List Step) (hl : ∀ e ∈ l, e.OK W S) :
    ((numBits { W := W, S := S, P := 1, B := 1 } (encodeAll W S Ans.empty l) : ℕ) : ℝ)
      ≤ info (l.map (·.summary W S)) + rounding (l.map (·.summary W S)) + S := by
  refine log_bound_two_pow _ S _ (fun e he => ?_) (size_bound_mul hWS l hl).1
  obtain ⟨s, hs, rfl⟩ := List.mem_map.1 he
  exact (hl s hs).2.1

/-- the same steps on the Impl model, with faults and errors -/
def encodeAllImpl (W S : Nat) : Coder → List Step → Except EncErr Coder
  | x, [] => .ok x
  | x, e :: l =>
    match encodeCP (e.cfg W S) x e.cum e.p with
    | .ok y => encodeAllImpl W S y l
    | .error err => .error err

theorem encodeAllImpl_eq {W S : Nat} (l : List Step) (hl : ∀ e ∈ l, e.OK W S) (x : Coder)
    (hx : Inv { W := W, S := S, P := 1, B := 1 } x) (hcap : x.cap = none) :
    encodeAllImpl W S x l = .ok (encodeAll W S x l) := by
  induction l generalizing x with
  | nil => rfl
  | cons e l ih =>
    obtain ⟨⟨hv, hcp⟩, hl'⟩ := List.forall_mem_cons.1 hl
    have hxe : Inv (e.cfg W S) x := hx.congr rfl rfl
    simp only [encodeAllImpl, encodeAll, encodeCP_spec hv hxe hcap hcp]
    exact ih hl' _ ((encArith_inv hv hxe hcp).congr rfl rfl) ((cap_encArith ..).trans hcap)

/-- **C12 on the Impl model**, from `AnsCoder::new()` -/
theorem size_bound_log_impl {W S : Nat} (hWS : 1 ≤ W ∧ 2 * W ≤ S) (l : List Step) (hl : ∀ e ∈ l, e.OK W S) :
    ∃ y, encodeAllImpl W S Ans.empty l = .ok y ∧
      ((numBits { W := W, S := S, P := 1, B := 1 } y : ℕ) : ℝ)
        ≤ info (l.map (·.summary W S)) + rounding (l.map (·.summary W S)) + S ∧
      numWords { W := W, S := S, P := 1, B := 1 } y ≤ l.length + (S + W - 1) / W :=
  ⟨_, encodeAllImpl_eq l hl Ans.empty (inv_empty _) rfl, size_bound_log hWS l hl,
    (size_bound_mul hWS l hl).2⟩

/-- default preset (`u32` words, `u64` state, `P = 24`, so `k = 8`): below 0.006 bit per symbol -/
theorem default_preset_overhead : Real.logb 2 (1 + (2 : ℝ)^(-((64 - 32 - 24 : ℕ) : ℤ))) < 0.006 := by
  have := rounding_default_lt
  norm_num at this ⊢
  exact this

example : Step.OK 32 64 { P := 24, B := 32, cum := 0, p := 1 } := by
  refine ⟨by decide, ?_⟩
  unfold CPok; decide

end CV.Ans.C12

#print axioms CV.Ans.C12.potential_seq
#print axioms CV.Ans.C12.size_bound_mul
#print axioms CV.Ans.C12.size_bound_log
#print axioms CV.Ans.C12.default_preset_overhead
#print axioms CV.Ans.C12.inv_cfg
#print axioms CV.Ans.C12.Q_cfg
#print axioms CV.Ans.C12.encodeAllImpl_eq
#print axioms CV.Ans.C12.size_bound_log_impl
