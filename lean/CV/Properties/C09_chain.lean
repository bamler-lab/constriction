import CV.Proofs.ChainExample
/-!
# C09 (chain coder part) — impossible symbols are rejected, a failed encode leaves the coder intact

Scope.  "The coder is intact after a failure" is proved here for the failure the property is
about for the chain coder: **`ImpossibleSymbol`** (`impossible_rejected`,
`encodeSymbols_stops`, `failed_encode_harmless`).  The other frontend error of `encode_symbol`,
`OutOfRemainders`, is likewise raised before any change (`CV.Chain.C13.errors_not_garbage`).

A failing **backend** (`CoderError::Backend(BackendError::Compressed | Remainders)`) is *not*
modelled: the model's backends are `Vec<Word>`, whose writes cannot fail and whose reads
report exhaustion as `None`.  With a fallible backend the chain coder is in fact not atomic:
`decode_symbol` (`chain.rs:1060-1118`) has already replaced `heads.compressed` and
`heads.remainders` when `flush_remainders_head()?` can fail, and `encode_symbol`
(`chain.rs:1174-1205`) has updated both heads before `self.compressed.write(word)?`.  C09
demands write-failure atomicity only of the ANS coder (see `C09_ans.lean`), so this is a
stated limit of the model, not a claimed property.
-/
namespace CV.Chain.C09
open CV CV.Chain

variable {Sym : Type}

/-- A symbol the model gives probability zero is rejected with `ImpossibleSymbol`, whatever the
    state of the coder (no invariant needed), and *only* such a symbol is: the lookup precedes
    every other step of `encode_symbol`.  The model is functional, so "the coder is left
    intact" is the statement that no new coder is produced – the caller still holds `x`
    (the correspondence check inspects the raw heads and both stacks of the real coder after
    every failed call, and the C09 oracle compares them). -/
theorem impossible_rejected (c : Cfg) (m : Model Sym) (s : Sym) (x : Coder) :
    (m.enc s = none → encode c m s x = .error .impossible) ∧
    (encode c m s x = .error .impossible → m.enc s = none) := by
  refine ⟨fun h => by simp [encode, h], fun h => ?_⟩
  cases hs : m.enc s with
  | none => rfl
  | some cp =>
    rw [encode, hs] at h
    exact absurd h (encodeCP_ne_impossible c x cp.1 cp.2)

/-- `encode_symbols` stops at the first impossible symbol: everything before it has been
    encoded (the coder returned is the one after the prefix), the error is
    `ImpossibleSymbol`, nothing of the rest is touched. -/
theorem encodeSymbols_stops (c : Cfg) (pre post : List (Sym × Model Sym)) (bad : Sym × Model Sym)
    (x y : Coder) (hpre : encodeSymbols c pre x = (y, none)) (hbad : bad.2.enc bad.1 = none) :
    encodeSymbols c (pre ++ bad :: post) x = (y, some .impossible) := by
  induction pre generalizing x with
  | nil =>
    simp only [encodeSymbols, Prod.mk.injEq, and_true] at hpre
    subst hpre
    obtain ⟨s, m⟩ := bad
    simp only at hbad
    simp [encodeSymbols, encode, hbad]
  | cons e pre ih =>
    obtain ⟨s, m⟩ := e
    simp only [List.cons_append, encodeSymbols] at hpre ⊢
    cases he : encode c m s x with
    | error e => simp [he] at hpre
    | ok x1 =>
      simp only [he] at hpre ⊢
      exact ih x1 hpre

/-- After the failure, everything encoded before still decodes correctly (the symbols come back
    in reverse order and the coder returns to where it started), and the coder after the failed
    call is the coder `y` before it (last conjunct), which satisfies the invariant, so
    `encode_spec` applies to it again. -/
theorem failed_encode_harmless {c : Cfg} (hc : c.Valid) (pre post : List (Sym × Model Sym))
    (bad : Sym × Model Sym) (x y : Coder) (hx : Inv c x)
    (hl : ∀ e ∈ pre, e.2.WellFormed c.P ∧ ∃ cp, e.2.enc e.1 = some cp)
    (hpre : encodeSymbols c pre x = (y, none)) (hbad : bad.2.enc bad.1 = none) :
    encodeSymbols c (pre ++ bad :: post) x = (y, some .impossible) ∧ Inv c y ∧
    decodeSymbols c (pre.reverse.map (·.2)) y = (pre.reverse.map (·.1), x, none) ∧
    encodeSymbols c post y = encodeSymbols c post (encodeSymbols c pre x).1 := by
  obtain ⟨hy, hd⟩ := encodeSymbols_decodeSymbols (CValid.of_valid hc) pre x y hl hx hpre
  exact ⟨encodeSymbols_stops c pre post bad x y hpre hbad, hy, hd, by rw [hpre]⟩

/-! ## non-vacuity -/

/-- the table model `[0, 1, 8]` has exactly two symbols; symbol 2, and symbols far beyond the
    probability type's range, are impossible -/
example : (tableModel [0, 1, 8]).enc 2 = none ∧ (tableModel [0, 1, 8]).enc (2^32 + 1) = none ∧
    (tableModel [0, 1, 8]).enc 1 = some (1, 7) := by decide

example : exCfg.Valid ∧ Inv exCfg exCoder ∧ (tableModel [0, 1, 8]).WellFormed exCfg.P :=
  ⟨exCfg_valid, exCoder_inv, wf_two (by decide) (by decide)⟩

end CV.Chain.C09

#print axioms CV.Chain.C09.impossible_rejected
#print axioms CV.Chain.C09.encodeSymbols_stops
#print axioms CV.Chain.C09.failed_encode_harmless
