import CV.Proofs.ChainExample
/-!
# C10 (chain coder part) — decoding arbitrary data is total and stays inside the model
-/
namespace CV.Chain.C10
open CV CV.Chain

variable {Sym : Type}

/-- Whatever words a chain coder is constructed from – with any of the three constructors – it
    is either refused (`none`: not enough words / zero word on top) or satisfies the
    representation invariant, so that the totality theorems below apply.  The constructors
    themselves are total functions without any fault site. -/
theorem constructors_establish_inv {c : Cfg} (hc : c.Valid) (ws : List Nat) (hws : Words c.W ws) :
    (∀ x, fromBinary c ws = some x → Inv c x) ∧
    (∀ x, fromCompressed c ws = some x → Inv c x) ∧
    (∀ x, fromRemainders c ws = some x → Inv c x) :=
  constructors_inv (CValid.of_valid hc).precOk hws

/-- **`chain_decode_total`** (one step).  On a coder satisfying the invariant, `decode` with a
    well-formed model never faults – the two `NonZero::new_unchecked` sites are safe, the
    `Probability` subtraction and the `State` multiplication/addition do not overflow –; it
    either returns a symbol of the model's support and a coder satisfying the invariant, or
    the one documented error `OutOfCompressedData`, and that only with an empty compressed
    stack (raised before any state change). -/
theorem decode_total {c : Cfg} (hc : c.Valid) {m : Model Sym} (hm : m.WellFormed c.P)
    {x : Coder} (hx : Inv c x) :
    (decode c m x = .error .outOfData ∧ x.compressed = []) ∨
    ∃ s y, decode c m x = .ok (s, y) ∧ Inv c y ∧ ∃ cum p, m.enc s = some (cum, p) ∧ 0 < p := by
  rcases decode_spec (CValid.of_valid hc) hm hx with ⟨herr, h1, _⟩ | ⟨s, y, _, hdec, hstep⟩
  · exact Or.inl ⟨herr, h1⟩
  · obtain ⟨⟨cum, p⟩, hcp⟩ := hstep.support
    exact Or.inr ⟨s, y, hdec, hstep.inv, cum, p, hcp, (hm.1 _ _ _ hcp).1⟩

/-- **`chain_decode_total`** (any number of symbols, any well-formed models, any data the
    constructor accepted): the iterator yields symbols until it possibly reports
    `OutOfCompressedData`; no fault ever; every symbol returned is in the support of the model
    it was decoded with; the coder stays inside the invariant.  Termination ("never loops") is
    Lean's totality of `decodeSymbols`. -/
theorem decodeSymbols_total {c : Cfg} (hc : c.Valid) (ms : List (Model Sym)) (x : Coder)
    (hms : ∀ m ∈ ms, m.WellFormed c.P) (hx : Inv c x) :
    ((decodeSymbols c ms x).2.2 = none ∨ (decodeSymbols c ms x).2.2 = some .outOfData) ∧
    Inv c (decodeSymbols c ms x).2.1 ∧
    (decodeSymbols c ms x).1.length ≤ ms.length ∧
    ∀ (i : Nat) (s : Sym), (decodeSymbols c ms x).1[i]? = some s →
      ∃ m cum p, ms[i]? = some m ∧ m.enc s = some (cum, p) ∧ 0 < p := by
  have hv := CValid.of_valid hc
  obtain ⟨_, _, h3, h4⟩ := locality hv ms x hms hx
  refine ⟨h3, h4, ?_, decodeSymbols_support hv ms x hms hx⟩
  rw [locality_length hv ms x hms hx]
  exact quantiles_length_le _ _ _ _

/-- from raw words to symbols: both data constructors followed by any decoding -/
theorem decode_arbitrary_data {c : Cfg} (hc : c.Valid) (ws : List Nat) (hws : Words c.W ws)
    (ms : List (Model Sym)) (hms : ∀ m ∈ ms, m.WellFormed c.P) (x : Coder)
    (hx : fromBinary c ws = some x ∨ fromCompressed c ws = some x) :
    ((decodeSymbols c ms x).2.2 = none ∨ (decodeSymbols c ms x).2.2 = some .outOfData) ∧
    ∀ (i : Nat) (s : Sym), (decodeSymbols c ms x).1[i]? = some s →
      ∃ m cum p, ms[i]? = some m ∧ m.enc s = some (cum, p) ∧ 0 < p := by
  obtain ⟨h1, h2, _⟩ := constructors_establish_inv hc ws hws
  have hI : Inv c x := by
    rcases hx with h | h
    · exact h1 x h
    · exact h2 x h
  obtain ⟨a, _, _, d⟩ := decodeSymbols_total hc ms x hms hI
  exact ⟨a, d⟩

/-! ## non-vacuity -/

example : exCfg.Valid ∧ Words exCfg.W exData ∧
    (∃ x, fromBinary exCfg exData = some x) ∧ (∃ x, fromCompressed exCfg exData = some x) := by
  obtain ⟨x0, _, _, _, h1, _⟩ := exRun_binary
  obtain ⟨x1, _, _, _, h2, _⟩ := exRun_compressed
  exact ⟨exCfg_valid, exData_words, ⟨x0, h1⟩, ⟨x1, h2⟩⟩

/-- all-zero data is accepted by `from_binary` (and refused by `from_compressed`) -/
example : (∃ x, fromBinary exCfg [0, 0, 0] = some x) ∧ fromCompressed exCfg [0, 0, 0] = none :=
  ⟨⟨_, rfl⟩, rfl⟩

end CV.Chain.C10

#print axioms CV.Chain.C10.constructors_establish_inv
#print axioms CV.Chain.C10.decode_total
#print axioms CV.Chain.C10.decodeSymbols_total
#print axioms CV.Chain.C10.decode_arbitrary_data
