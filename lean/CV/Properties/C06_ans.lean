import CV.Proofs.AnsSpec
/-!
# C06 (ANS part) — the stack coder's words are exactly those of the reference rANS specification
-/
namespace CV.Ans.C06
open CV CV.Ans

structure Step where
  P : Nat
  B : Nat
  cum : Nat
  p : Nat

def Step.cfg (W S : Nat) (e : Step) : Cfg := { W := W, S := S, P := e.P, B := e.B }
def Step.OK (W S : Nat) (e : Step) : Prop := (e.cfg W S).Valid ∧ CPok e.P e.cum e.p

/-- `encode_symbol` for each step in order, on the Impl model (with faults and errors) -/
def encodeAll (W S : Nat) : Coder → List Step → Except EncErr Coder
  | x, [] => .ok x
  | x, e :: l =>
    match encodeCP (e.cfg W S) x e.cum e.p with
    | .ok y => encodeAll W S y l
    | .error err => .error err

theorem inv_cfg {c c' : Cfg} (hW : c.W = c'.W) (hS : c.S = c'.S) {x : Coder} (h : Inv c x) : Inv c' x :=
  h.congr hW hS

theorem encodeAll_mirrors {W S : Nat} (l : List Step) (hl : ∀ e ∈ l, e.OK W S)
    (x : Coder) (hx : Inv { W := W, S := S, P := 1, B := 1 } x) (hcap : x.cap = none)
    (st : RansSpec.St) (hm : Mirrors st x) :
    ∃ y, encodeAll W S x l = .ok y ∧ Inv { W := W, S := S, P := 1, B := 1 } y ∧ y.cap = none ∧
      Mirrors (l.foldl (fun st e => RansSpec.push W S st (e.P, e.cum, e.p)) st) y := by
  induction l generalizing x st with
  | nil => exact ⟨x, rfl, hx, hcap, hm⟩
  | cons e l ih =>
    obtain ⟨⟨hv, hcp⟩, hl'⟩ := List.forall_mem_cons.1 hl
    have hxe : Inv (e.cfg W S) x := hx.congr rfl rfl
    obtain ⟨y, h1, h2, h3, h4⟩ := ih hl' _ ((encArith_inv hv hxe hcp).congr rfl rfl)
      ((cap_encArith ..).trans hcap) _ (push_mirrors hv hxe hcp.1 (Nat.le_of_add_left_le hcp.2.1) hm)
    exact ⟨y, by simp only [encodeAll, encodeCP_spec hv hxe hcap hcp]; exact h1, h2, h3, h4⟩

/-- **C06, stack coder.** Encoding any message onto an empty ANS coder succeeds, and the exported
    words (in the order of the Rust `Vec`) are those of the reference `RansSpec.words`: flush
    thresholds, word order and the "no trailing zero word" rule included. -/
theorem ans_words_eq_spec {W S : Nat} (hWS : 1 ≤ W ∧ 2 * W ≤ S) (l : List Step) (hl : ∀ e ∈ l, e.OK W S) :
    ∃ y ws, encodeAll W S Ans.empty l = .ok y ∧
      intoCompressed { W := W, S := S, P := 1, B := 1 } y = some ws ∧
      ws.reverse = RansSpec.words W S (l.map (fun e => (e.P, e.cum, e.p))) := by
  obtain ⟨y, h1, h2, h3, h4, h5⟩ :=
    encodeAll_mirrors l hl Ans.empty (inv_empty _) rfl RansSpec.init ⟨rfl, rfl⟩
  refine ⟨y, _, h1, intoCompressed_none h3, ?_⟩
  unfold RansSpec.words
  simp only [List.foldl_map]
  rw [h4, h5, digits_eq_chunksLE hWS.1 (S + 1) y.state
    (Nat.lt_of_lt_of_le h2.1 (pow_le_pow2 (Nat.le_succ S)))]
  simp [chunksBE]

/-- non-vacuity: five symbols onto `AnsCoder<u8,u16>`, some of one quantum -/
example : RansSpec.words 8 16 [(8, 3, 200), (8, 250, 6), (8, 0, 1), (8, 255, 1), (8, 255, 1)]
    = [0, 255, 255, 253] := by decide

end CV.Ans.C06

#print axioms CV.Ans.C06.encodeAll_mirrors
#print axioms CV.Ans.C06.ans_words_eq_spec
#print axioms CV.Ans.C06.inv_cfg
