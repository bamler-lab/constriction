import CV.Model.QuantFloatReplica
import CV.Proofs.QuantExamples
import CV.Proofs.QuantPerfect
import CV.Proofs.QuantCatLink
import CV.Proofs.QuantFloatInstances
/-!
# C19 (component `quant`): the float constructors and `LeakyQuantizer::new` reject invalid input

`construct x = ok m → m is C03-valid`, and the listed rejections, for all inputs:

* `LeakyQuantizer::new`: accepted iff `2 ≤ size ≤ 2^P` — empty, singleton and oversized supports,
  including supports wider than `2^B` (D10), are rejected, and an accepted quantizer satisfies
  `LQ.Ok`, from which C03 follows (`C03_leaky_wellFormed`);
* `…_fast` constructors (eager, lazy): rejected if the table has fewer than two or at least
  `2^P - 1` entries, if some entry is not `≥ 0` (negative or NaN, D14), or if the normalisation
  is not a positive normal float, for every IEEE operation table `FOps`; if accepted, validity
  follows from the hypothesis `TBF1Fast` (see the header of `C03_quant`);
* `…_perfect` constructors: rejected if the table has fewer than two or more than `2^B - 1`
  entries or a negative entry (D18); the replica's guards on the normalisation and the scale
  (D19, D20) are not the subject of a theorem here; an accepted result is validated by `cat`'s
  validator (`C19_validator_accepts_only_valid`).
-/
namespace CV.Quant
open CV

/-- **C19, `LeakyQuantizer::new`** accepts exactly the supports with `2 ≤ size ≤ 2^P` -/
theorem C19_leaky_new_iff {t : SymTy} {B P : Nat} {min max : Int} (hPB : P ≤ B) :
    (∃ m, LQ.new t B P min max = .ok m) ↔ (min < max ∧ (max - min).toNat + 1 ≤ 2 ^ P) := by
  constructor
  · intro ⟨m, hm⟩
    by_cases h : min < max ∧ (max - min).toNat + 1 ≤ 2 ^ P
    · exact h
    · obtain ⟨f, hf⟩ := LQ.new_rejects (t := t) hPB h
      rw [hf] at hm; cases hm
  · intro ⟨h1, h2⟩
    exact ⟨_, LQ.new_accepts hPB h1 h2⟩

/-- **C19, `LeakyQuantizer::new`: accepted ⇒ the invariant `LQ.Ok`** (hence C03 for every
    distribution satisfying `GOk`) -/
theorem C19_leaky_new_ok {t : SymTy} {B P : Nat} {min max : Int} {m : LQ} (hbits : 2 ≤ t.bits)
    (hP1 : 1 ≤ P) (hPB : P ≤ B) (hmin : t.inRange min) (hmax : t.inRange max)
    (h : LQ.new t B P min max = .ok m) : m.Ok := (LQ.new_ok hbits hP1 hPB hmin hmax h).1

example : exLQwide.Ok :=
  C19_leaky_new_ok (by decide) (by decide) (by decide) (by decide) (by decide) exLQwide_new
example : ¬ ∃ m, LQ.new ⟨32, true⟩ 16 12 0 65541 = .ok m := by
  rw [C19_leaky_new_iff (by decide)]; decide
example : ¬ ∃ m, LQ.new ⟨8, false⟩ 8 8 7 7 = .ok m := by
  rw [C19_leaky_new_iff (by decide)]; decide

/-- **C19, `…_fast` constructors reject** too short / too long tables, entries that are not
    `≥ 0` (D14), and normalisations that are not positive normal floats — for any `FOps`.
    The statement is about the guard sequence at the head of the replica `fastSetup`; the replica
    is tied to the crate by the correspondence, including the directed invalid-argument lines. -/
theorem C19_fast_rejects {F : Type} (o : FOps F) (B P : Nat) (probs : List F) (norm : Option F)
    (h : lenOk P probs.length = false ∨ probs.all (fun p => o.le o.zero p) = false ∨
      (∃ x, norm = some x ∧ (o.isNormal x = false ∨ o.signPos x = false))) :
    fastSetup o B P probs norm = none := by
  unfold fastSetup
  simp only
  rcases h with h | h | ⟨x, hx, h⟩
  · rw [h]; rfl
  · by_cases hl : lenOk P probs.length = true
    · rw [hl, h]; rfl
    · simp only [Bool.not_eq_true] at hl; rw [hl]; rfl
  · by_cases hl : lenOk P probs.length = true
    · by_cases ha : probs.all (fun p => o.le o.zero p) = true
      · rw [hl, ha, hx]
        simp only [Bool.not_true, Bool.false_eq_true, if_false]
        rcases h with h | h
        · rw [h]; rfl
        · rw [h]; simp
      · simp only [Bool.not_eq_true] at ha; rw [hl, ha]; rfl
    · simp only [Bool.not_eq_true] at hl; rw [hl]; rfl

/-- a single-entry table is rejected whatever the float type and its operations -/
example {F : Type} (o : FOps F) (x : F) (norm : Option F) : fastSetup o 16 12 [x] norm = none :=
  C19_fast_rejects o 16 12 [x] norm (Or.inl (by show lenOk 12 1 = false; decide))

/-- **C19, `…_fast` accepted ⇒ valid** (TB-F1 as hypothesis): whenever the guards pass, the
    constructor returns a cdf that satisfies `cat`'s `ValidCdf` — never a model with a zero or
    wrapped probability, never a `Fault` -/
theorem C19_fast_accepted_valid {F : Type} (o : FOps F) {B P : Nat} {probs : List F}
    {norm : Option F} {c : FastCtx F} (hP1 : 1 ≤ P) (hPB : P ≤ B) (hB : B ≤ 64)
    (hacc : fastSetup o B P probs norm = some c) (tb : TBF1Fast (c.hE o B) c.n) :
    ∃ cdf, fastCdf B P c.n c.free (c.hE o B) = .ok cdf ∧ Cat.ValidCdf B P cdf := by
  obtain ⟨hlen, _, hn, hfree, _, _⟩ := fastSetup_some o hacc
  obtain ⟨ok, hf⟩ := FastOk.of_guards hP1 hPB hB hlen
  have tb' : TBF1Fast (c.hE o B) probs.length := hn ▸ tb
  rw [hn, hfree]
  exact ⟨_, fastCdf_eq ok hf, cdfList_valid ok hf tb'⟩

/-- a real instance: the D4 `f32` table is accepted (`d4_setup`), TB-F1 holds on it by `decide`
    (`d4_tbf1`), hence the constructed cdf is a `ValidCdf` — although the unclamped non-leaky
    part exceeds `free` on this table (`d4_unclamped_exceeds`) -/
example : ∃ cdf, fastCdf 32 24 d4.n d4.free (d4.hE f32Ops 32) = .ok cdf ∧ Cat.ValidCdf 32 24 cdf :=
  C19_fast_accepted_valid f32Ops (by decide) (by decide) (by decide) d4_setup d4_tbf1

/-- **C19, `…_perfect` constructors reject** short / oversized tables and negative entries
    anywhere in the table (D18).  These are the first guards of the replica `perfectPre`; that
    accepted results are valid is `cat`'s `C19_validator_accepts_only_valid`, through which every
    `…_perfect` result passes. -/
theorem C19_perfect_rejects {F : Type} (o : FOps F) (toF64 : F → Float) (B P : Nat)
    (probs : List F)
    (h : probs.length < 2 ∨ probs.length > 2 ^ B - 1 ∨
      probs.any (fun p => o.le p o.zero && !(o.le o.zero p)) = true) :
    perfectPre o toF64 B P probs = .rejected := by
  unfold perfectPre
  simp only
  rcases h with h | h | h
  · rw [if_pos (by simp; left; exact h)]
  · rw [if_pos (by simp; right; exact h)]
  · by_cases hl : (decide (probs.length < 2) || decide (probs.length > 2 ^ B - 1)) = true
    · rw [if_pos hl]
    · rw [if_neg hl, if_pos h]

end CV.Quant

#print axioms CV.Quant.C19_leaky_new_iff
#print axioms CV.Quant.C19_leaky_new_ok
#print axioms CV.Quant.C19_fast_rejects
#print axioms CV.Quant.C19_fast_accepted_valid
#print axioms CV.Quant.C19_perfect_rejects
