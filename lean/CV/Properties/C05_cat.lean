import CV.Proofs.CatModels
/-!
# C05 (component `cat`): all representations of one integer entropy model are the same model

Every model family *presents* a table `(lab, ext)` — its `symbol_table` is `specTable lab ext`,
its encoder/decoder methods are those of `labelledModel (labelsOf lab n) ext` — and the generic
conversions applied to `specTable lab ext` return models that present the same table
(`C05_generic_conversions`).  Views (`as_view`) share the fields of their owner and are not
distinguished by the Impl model.  All `1 ≤ P ≤ B`.

**Which statements assume pairwise distinct symbols (`Nodup`).**  Only the *encoder* clause of
`C05_generic_conversions` and, through it, the encoder part of `C05_contiguous_generic` (where
the labels `0 … n-1` are distinct by construction).  `C05_contiguous_vs_noncontiguous` takes an
accepted hash-table encoder as hypothesis, which only accepts distinct symbols (`C19_ncenc`).
All decoder-side statements hold for arbitrary label lists, repeated labels included.
**Open known finding (not covered by any theorem here):** the non-contiguous *decoder*
constructors accept a symbol list with repeated entries (the symbol type is only `Clone`), and
`to_generic_encoder_model` of such a decoder keeps one interval per symbol, so it is *not* the
decoder's model; the harness oracle exercises and reports exactly this case.
-/
namespace CV.Cat
open CV

theorem mem_specTable_id {ext : List Nat} {s c p : Nat} :
    (s, c, p) ∈ specTable id ext ↔ specEnc ext s = some (c, p) := by
  unfold specTable specEnc
  simp only [List.mem_map, List.mem_range, id, Prod.mk.injEq]
  constructor
  · rintro ⟨i, hi, rfl, rfl, rfl⟩
    rw [if_pos (by omega)]
  · intro h
    by_cases hs : s + 1 < ext.length
    · rw [if_pos hs] at h
      simp only [Option.some.injEq, Prod.mk.injEq] at h
      exact ⟨s, by omega, rfl, h.1, h.2⟩
    · rw [if_neg hs] at h; simp at h

/-- **the generic conversions** (`to_generic_decoder_model`, `to_generic_encoder_model`,
    `to_generic_lookup_decoder_model`, and the non-contiguous `to_lookup_decoder_model`)
    applied to any model whose symbol table is `specTable lab ext` -/
theorem C05_generic_conversions {Sym : Type} [DecidableEq Sym] [Inhabited Sym] {B P : Nat}
    (lab : Nat → Sym) {ext : List Nat} (h : ValidExt P ext) (hP1 : 1 ≤ P) (hP : P ≤ B) :
    let L := labelledModel (labelsOf lab (ext.length - 1)) ext
    (∃ md, NcDec.fromTable B P (specTable lab ext) = .ok md ∧
      (∀ q, q < 2 ^ P → md.dec B q = .ok (L.dec q)) ∧ md.table B = .ok (specTable lab ext)) ∧
    ((labelsOf lab (ext.length - 1)).Nodup →
      ∀ s, (NcEnc.fromTable (specTable lab ext)).enc s = L.enc s) ∧
    (∃ ml, NcLookup.fromTable B P (specTable lab ext) = .ok ml ∧
      (∀ q, q < 2 ^ P → ml.dec B P q = .ok (L.dec q)) ∧ ml.table B = .ok (specTable lab ext) ∧
      (∀ q, q < 2 ^ P → ml.asNcDec.dec B q = .ok (L.dec q))) := by
  intro L
  obtain ⟨md, d1, d2, d3, _⟩ := generic_decoder (B := B) lab h hP1 hP
  obtain ⟨ml, l1, l2, l3, _, _, l6⟩ := generic_lookup (B := B) lab h hP
  exact ⟨⟨md, d1, d2, d3⟩, fun hnd s => generic_encoder lab ext hnd s, ml, l1, l2, l3, l6⟩

/-- **contiguous model**: iterated symbol table vs direct queries -/
theorem C05_contiguous_symbol_table {B P : Nat} {m : Contiguous} (h : ValidCdf B P m.cdf)
    (hP : P ≤ B) :
    m.table B = .ok (specTable id (unwrap P m.cdf)) ∧
    (∀ s c p, (s, c, p) ∈ specTable id (unwrap P m.cdf) ↔ m.enc B s = .ok (some (c, p))) ∧
    (∀ s, m.enc B s = .ok ((specModel (unwrap P m.cdf)).enc s)) ∧
    (∀ q, q < 2 ^ P → m.dec B q = .ok ((specModel (unwrap P m.cdf)).dec q)) := by
  refine ⟨Contiguous.table_eq h hP, ?_, fun s => Contiguous.enc_eq h hP s,
    fun q hq => Contiguous.dec_eq h hP hq⟩
  intro s c p
  rw [mem_specTable_id, Contiguous.enc_eq h hP s]
  simp

/-- **contiguous model → lookup model** (`to_lookup_decoder_model`), and back
    (`as_contiguous_categorical` / `into_contiguous_categorical`) -/
theorem C05_contiguous_lookup {B P : Nat} {m : Contiguous} (h : ValidCdf B P m.cdf) (hP : P ≤ B) :
    ∃ l, Lookup.fromContiguous B P m = .ok l ∧ l.asContiguous = m ∧
      (∀ q, q < 2 ^ P → l.dec B P q = m.dec B q) ∧ l.table B = m.table B := by
  obtain ⟨tbl, hl, hok⟩ := Lookup.fromContiguous_ok h hP
  refine ⟨_, hl, rfl, ?_, rfl⟩
  intro q hq
  rw [Lookup.dec_eq (m := { tbl := tbl, cdf := m.cdf }) h hP hok hq, Contiguous.dec_eq h hP hq]

/-- **contiguous model → generic encoder / decoder / lookup model** -/
theorem C05_contiguous_generic {B P : Nat} {m : Contiguous} (h : ValidCdf B P m.cdf) (hP1 : 1 ≤ P)
    (hP : P ≤ B) :
    ∃ t, m.table B = .ok t ∧
      (∃ md, NcDec.fromTable B P t = .ok md ∧ (∀ q, q < 2 ^ P → md.dec B q = m.dec B q) ∧
        md.table B = .ok t) ∧
      (∀ s, m.enc B s = .ok ((NcEnc.fromTable t).enc s)) ∧
      (∃ ml, NcLookup.fromTable B P t = .ok ml ∧ (∀ q, q < 2 ^ P → ml.dec B P q = m.dec B q) ∧
        ml.table B = .ok t) := by
  have hext := h.2
  obtain ⟨⟨md, d1, d2, d3⟩, e1, ml, l1, l2, l3, _⟩ := C05_generic_conversions (B := B) id hext hP1 hP
  refine ⟨_, Contiguous.table_eq h hP, ⟨md, d1, ?_, d3⟩, ?_, ml, l1, ?_, l3⟩
  · intro q hq
    rw [d2 q hq, Contiguous.dec_eq h hP hq, labelled_id_dec hext hq]
  · intro s
    rw [e1 (by simp [labelsOf, List.nodup_range]) s, Contiguous.enc_eq h hP s, labelled_id_enc]
  · intro q hq
    rw [l2 q hq, Contiguous.dec_eq h hP hq, labelled_id_dec hext hq]

/-- **contiguous vs non-contiguous with the identity labelling**: same probabilities, symbols
    `0, 1, …, n-1` -/
theorem C05_contiguous_vs_noncontiguous {B P : Nat} {probs : List Nat} {infer : Bool}
    {m : Contiguous} {me : NcEnc Nat} {md : NcDec Nat} {n : Nat}
    (hP1 : 1 ≤ P) (hP : P ≤ B) (hprobs : ∀ p ∈ probs, p < 2 ^ B)
    (hm : Contiguous.fromNonzeroFixedPoint B P probs infer = some m)
    (he : NcEnc.fromSymbolsAndNonzeroFixedPoint B P (List.range n) probs infer = some me)
    (hd : NcDec.fromSymbolsAndNonzeroFixedPoint B P (List.range n) probs infer = .ok (some md)) :
    (∀ s, m.enc B s = .ok (me.enc s)) ∧ (∀ q, q < 2 ^ P → md.dec B q = m.dec B q) := by
  obtain ⟨hv, hcdf⟩ := (Contiguous.fromNonzeroFixedPoint_eq_some_iff hP1 hP hprobs).mp hm
  obtain ⟨hext, hlen, -, henc⟩ := NcEnc.fromFixed_model hP1 hP hprobs he
  have hvalid : ValidCdf B P m.cdf := by rw [hcdf]; exact wrapCdf_valid hext
  have hun : unwrap P m.cdf = extOf (fullTable P probs infer) := by
    rw [hcdf]; exact unwrap_wrapCdf hext
  -- the symbols `0, 1, …, n-1` are the identity labelling
  have hlab : labelsOf id ((extOf (fullTable P probs infer)).length - 1) = List.range n := by
    rw [← hlen, List.length_range]; simp [labelsOf]
  constructor
  · intro s
    rw [Contiguous.enc_eq hvalid hP s, hun, henc, ← hlab, labelled_id_enc]
  · intro q hq
    rw [NcDec.fromFixed_dec hP1 hP hprobs hd hq, Contiguous.dec_eq hvalid hP hq, hun, ← hlab,
      labelled_id_dec hext hq]

/-- **non-contiguous decoder model**: symbol table, searched decoder and all its conversions -/
theorem C05_noncontiguous {Sym : Type} [DecidableEq Sym] [Inhabited Sym] {B P : Nat}
    {labels : List Sym} {ext : List Nat} {last : Sym}
    (h : ValidExt P ext) (hlen : labels.length + 1 = ext.length) (hP : P ≤ B) :
    let m : NcDec Sym := { cdf := ncCdf B P labels ext last }
    m.table B = .ok (specTable (fun i => labels.getD i default) ext) ∧
    (∀ q, q < 2 ^ P → m.dec B q = .ok ((labelledModel labels ext).dec q)) ∧
    labelsOf (fun i => labels.getD i default) (ext.length - 1) = labels := by
  refine ⟨NcDec.table_canon h hlen hP, fun q hq => NcDec.dec_canon h hlen hP hq, ?_⟩
  have : ext.length - 1 = labels.length := by omega
  rw [this, labelsOf_getD_self]

/-- **lookup models** vs the binary search on the same cdf (`as_contiguous_categorical`,
    `as_non_contiguous_categorical`) -/
theorem C05_lookup_vs_search {B P : Nat} {l : Lookup} (h : ValidCdf B P l.cdf) (hP : P ≤ B)
    (hok : LookupOK P (unwrap P l.cdf) l.tbl) :
    (∀ q, q < 2 ^ P → l.dec B P q = l.asContiguous.dec B q) ∧
    l.table B = l.asContiguous.table B := by
  refine ⟨fun q hq => ?_, rfl⟩
  rw [Lookup.dec_eq h hP hok hq]
  exact (Contiguous.dec_eq (m := l.asContiguous) h hP hq).symm

theorem C05_nclookup_vs_search {Sym : Type} [DecidableEq Sym] [Inhabited Sym] {B P : Nat}
    {labels : List Sym} {ext : List Nat} {last : Sym} {tbl : Array Nat}
    (h : ValidExt P ext) (hlen : labels.length + 1 = ext.length) (hP : P ≤ B)
    (hok : LookupOK P ext tbl) :
    let l : NcLookup Sym := { tbl := tbl, cdf := ncCdf B P labels ext last }
    (∀ q, q < 2 ^ P → l.dec B P q = l.asNcDec.dec B q) ∧ l.table B = l.asNcDec.table B := by
  refine ⟨fun q hq => ?_, rfl⟩
  rw [NcLookup.dec_canon h hlen hP hok hq]
  exact (NcDec.dec_canon h hlen hP hq).symm

/-- **uniform model**: `symbol_table` vs the direct formulas, and the table it hands to the
    generic conversions -/
theorem C05_uniform {B P range : Nat} (hP : P ≤ B) (hr : range < 2 ^ U) (h2 : 2 ≤ range)
    (hle : range ≤ 2 ^ P) :
    let u : Uniform := { ppb := 2 ^ P / range, last := range - 1 }
    u.table B P = .ok (specTable id (uniExt P range)) ∧
    (∀ s c p, (s, c, p) ∈ specTable id (uniExt P range) ↔ u.enc B P s = .ok (some (c, p))) ∧
    (∀ q, q < 2 ^ P → u.dec B P q = .ok ((specModel (uniExt P range)).dec q)) ∧
    ValidExt P (uniExt P range) := by
  refine ⟨Uniform.table_eq hP hr h2 hle, ?_, fun q hq => Uniform.dec_eq hP hr h2 hle hq,
    uniExt_valid h2 hle⟩
  intro s c p
  rw [mem_specTable_id, Uniform.enc_eq hP h2 hle s]
  simp

/-- `C05_uniform` for whatever `UniformModel::new` returned -/
theorem C05_uniform_new {B P range : Nat} {u : Uniform} (hP1 : 1 ≤ P) (hP : P ≤ B) (hPU : P ≤ U)
    (hr : range < 2 ^ U) (h : Uniform.new B P range = .ok u) :
    u.table B P = .ok (specTable id (uniExt P range)) ∧
    (∀ s c p, (s, c, p) ∈ specTable id (uniExt P range) ↔ u.enc B P s = .ok (some (c, p))) ∧
    (∀ q, q < 2 ^ P → u.dec B P q = .ok ((specModel (uniExt P range)).dec q)) ∧
    ValidExt P (uniExt P range) := by
  obtain ⟨h2, hle, rfl⟩ := Uniform.new_inv hP1 hP hPU hr h
  exact C05_uniform hP hr h2 hle

example : Uniform.new 8 8 10 = .ok { ppb := 25, last := 9 } := by rfl
example : ValidCdf 8 8 [0, 100, 200, 0] :=
  Contiguous.fromNonzeroFixedPoint_valid (B := 8) (P := 8) (probs := [100, 100]) (infer := true)
    (m := { cdf := [0, 100, 200, 0] }) (by decide) (by decide) (by decide) (by decide)

example : ValidExt 8 [0, 100, 200, 256] := ⟨by decide, by decide, by decide, by decide⟩
example : ∃ m, Lookup.fromNonzeroFixedPoint 8 2 [1, 3] false = some m := ⟨_, rfl⟩

#print axioms mem_specTable_id
#print axioms C05_generic_conversions
#print axioms C05_contiguous_symbol_table
#print axioms C05_contiguous_lookup
#print axioms C05_contiguous_generic
#print axioms C05_contiguous_vs_noncontiguous
#print axioms C05_noncontiguous
#print axioms C05_lookup_vs_search
#print axioms C05_nclookup_vs_search
#print axioms C05_uniform
#print axioms C05_uniform_new

end CV.Cat
