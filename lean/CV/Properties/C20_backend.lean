import CV.Proofs.BackendSafety
import CV.Properties.C17_backend
/-!
# C20 — no safe call sequence causes undefined behaviour (component `backend`)

`src/backends.rs` had two unchecked indexings (`get_unchecked` in
`ReadWords<_, Stack>::read for Cursor`, `get_unchecked_mut` in `WriteWords::write for
Reverse<Cursor>`), both justified by the invariant `pos ≤ buf.len()`.

* Every *trait* method preserves the invariant and, under it, returns normally
  (`C20_cursor_no_fault`), so the two sites were unreachable through the traits.
* `Cursor::buf_mut()` is safe and breaks the invariant for any buffer type
  (`C20_buf_mut_breaks_iff`); the pre-repair code then reached the unchecked index
  (`C20_d12_legacy_reaches_ub`, reproduced on the real code: abort under the checked build,
  out-of-bounds heap write in release).  This was defect D12.
* After the repair (`ca8abce`, checked indexing) the model has no `Fault.ub` branch left:
  for *all* states and all operations including `buf_mut`, a fault is an ordinary panic
  (`C20_cursor_no_ub_site`, `C20_backend_no_ub`), it needs a broken invariant
  (`C20_fault_needs_broken_inv`), and the behaviour in that case is spelled out in
  `C20_broken_behaviour` (index panic / subtraction-overflow panic / `None` / `OutOfSpace`;
  `seek` to a valid position heals the cursor).

Residual, not UB: `space_left`, `Queue`-`remaining` and `into_reversed` compute `len - pos`;
with a broken invariant that is an overflow panic in checked builds (modelled) and wraps to a
huge value in release builds.  The link from these model-level obligations to actual memory
behaviour is the correspondence under the checked build (runtime validation, not proof).
-/
namespace CV.Backend.C20

/-- every history of trait methods from a state satisfying `pos ≤ len` runs to completion
    (no panic, no UB site) and keeps the invariant -/
theorem C20_cursor_no_fault (wr : Bool) (s : Cur) (hI : s.Inv) (ops : List Op)
    (h : ∀ op ∈ ops, ∀ ws, op ≠ .bmSet ws) :
    ∃ outs s', Cur.run wr s ops = (outs, .ok s') ∧ s'.Inv ∧ outs.length = ops.length :=
  C17.C17_cursor_inv_preserved wr s hI ops h

example := C20_cursor_no_fault true (.rev ⟨⟨[1, 2, 3], 2⟩⟩) (by simp [Cur.Inv, Cur.inner, Cursor.Inv])
  [.readQ, .write 5, .intoReversed, .spaceLeft, .extend [1, 2, 3, 4]] (by simp)

/-- **no UB site is reachable from any state by any operation, `buf_mut` included** -/
theorem C20_cursor_no_ub_site (wr : Bool) (s : Cur) (op : Op) (f : Fault)
    (h : Cur.step wr s op = .error f) : Fault.isUb f = false :=
  Cur.step_fault_not_ub wr s op f h

/-- the failing call sequence of D12 now ends in an ordinary panic -/
example : Cur.run true (.fwd ⟨[1, 2, 3, 4], 4⟩) [.bmSet [], .readS] =
    ([.ok], .error (.panic "cursor.read_stack.index")) := rfl

/-- a fault can only come from a state whose invariant has been broken -/
theorem C20_fault_needs_broken_inv (wr : Bool) (s : Cur) (op : Op) (f : Fault)
    (h : Cur.step wr s op = .error f) : ¬ s.Inv := by
  intro hI
  by_cases hop : ∃ ws, op = .bmSet ws
  · obtain ⟨ws, rfl⟩ := hop
    cases s <;> cases h
  · obtain ⟨o, s', h', _⟩ := Cur.step_ok wr s hI op (fun ws hw => hop ⟨ws, hw⟩)
    rw [h'] at h; cases h

/-- exactly what `buf_mut` breaks: the invariant, iff the new buffer is shorter than `pos` -/
theorem C20_buf_mut_breaks_iff (c : Cursor) (ws : List Nat) :
    (c.bufMutSet ws).Inv ↔ c.pos ≤ ws.length := by
  simp [Cursor.bufMutSet, Cursor.Inv]

/-- behaviour of the repaired code while `pos > len` -/
theorem C20_broken_behaviour (c : Cursor) (h : c.buf.length < c.pos) :
    c.readStack = .error (.panic "cursor.read_stack.index") ∧
    c.readQueue = (none, c) ∧
    (∀ w, c.write w = .error .outOfSpace) ∧
    c.spaceLeft = .error (.overflow "cursor.space_left") ∧
    c.remainingQueue = .error (.overflow "cursor.remaining_queue") ∧
    c.intoReversed = .error (.overflow "cursor.into_reversed") ∧
    (∀ q, q ≤ c.buf.length → c.seek q = some { c with pos := q }) ∧
    (∀ w, (RevCursor.mk c).write w = .error (.fault (.panic "rev_cursor.write.index"))) := by
  obtain ⟨hp, hb, hq, hlt'⟩ := c.broken_index h
  have hlt : ¬ (c.pos < c.buf.length) := by omega
  have hsub : ∀ site, csub site c.buf.length c.pos = .error (.overflow site) :=
    fun site => if_neg (by omega)
  refine ⟨?_, ?_, fun w => if_neg hlt, hsub _, hsub _, ?_, fun q hq => Cursor.seek_le c q hq,
    fun w => ?_⟩
  · rw [Cursor.readStack, if_neg hp, hb]
  · rw [Cursor.readQueue, hq]
  · rw [Cursor.intoReversed, hsub]
  · rw [RevCursor.write, if_neg hp, if_neg hlt']

example := C20_broken_behaviour ⟨[1], 3⟩ (by decide)

/-- the pre-repair methods coincide with the repaired ones under the invariant … -/
theorem C20_d12_legacy_same_under_inv (c : Cursor) (hI : c.Inv) (w : Nat) :
    c.readStackLegacy = c.readStack ∧ (RevCursor.mk c).writeLegacy w = (RevCursor.mk c).write w :=
  ⟨Cursor.readStackLegacy_eq c hI, RevCursor.writeLegacy_eq ⟨c⟩ hI w⟩

/-- … and reached the unchecked index as soon as `buf_mut` had made `pos > len` (D12) -/
theorem C20_d12_legacy_reaches_ub (c : Cursor) (h : c.buf.length < c.pos) (w : Nat) :
    c.readStackLegacy = .error (.ub "cursor.read_stack.get_unchecked") ∧
    (RevCursor.mk c).writeLegacy w = .error (.fault (.ub "rev_cursor.write.get_unchecked_mut")) :=
  ⟨Cursor.readStackLegacy_ub c h, RevCursor.writeLegacy_ub ⟨c⟩ h w⟩

/-- the reproducer: `Cursor::new_at_write_end(vec![1,2,3,4])`, `buf_mut().clear()`, stack read -/
theorem C20_d12_legacy_counterexample :
    ((Cursor.newAtWriteEnd [1, 2, 3, 4]).bufMutSet []).readStackLegacy =
      .error (.ub "cursor.read_stack.get_unchecked") := rfl

/-- the other backends (`Vec`, `SmallVec`, iterator and callback adapters) have no fault
    branch at all; over the whole protocol machine a fault is never a UB site -/
theorem C20_backend_no_ub (b : Backend) (op : Op) (f : Fault)
    (h : Backend.step b op = .error f) :
    Fault.isUb f = false ∧ ∃ wr s, b = .cur wr s := by
  cases b with
  | cur wr s =>
    refine ⟨?_, wr, s, rfl⟩
    rw [Backend.step_cur] at h
    cases hs : Cur.step wr s op with
    | ok p =>
      rw [hs] at h
      cases h
    | error e =>
      rw [hs] at h
      cases h
      exact Cur.step_fault_not_ub wr s op _ hs
  -- every other alternative of `Backend.step` is an `.ok …`, at most under a `match`/`if`
  | vec v =>
    cases op
    case seek p =>
      rw [Backend.step_vec_seek] at h
      split at h
      · cases h
      · cases h
    all_goals cases h
  | smallvec v =>
    cases op
    case seek p =>
      rw [Backend.step_smallvec_seek] at h
      split at h
      · cases h
      · cases h
    all_goals cases h
  | iterF r =>
    cases op
    case readS =>
      rw [Backend.iterF_readS_eq_readQ, Backend.step_iterF_readQ] at h
      split at h
      · cases h
      · cases h
    case readQ =>
      rw [Backend.step_iterF_readQ] at h
      split at h
      · cases h
      · cases h
    all_goals cases h
  | iterI r => cases op <;> cases h
  | iterFL r =>
    have hread : Backend.step (.iterFL r) .readS =
        match (r.read).1 with
        | .ok o => .ok (.word o, .iterFL (r.read).2)
        | .error _ => .ok (.readErr, .iterFL (r.read).2) := rfl
    cases op
    case readS =>
      rw [hread] at h
      split at h
      · cases h
      · cases h
    case readQ =>
      rw [show Backend.step (.iterFL r) .readQ = _ from hread] at h
      split at h
      · cases h
      · cases h
    all_goals cases h
  | iterIL r => cases op <;> cases h
  | cbF cb =>
    cases op
    case write w =>
      rw [Backend.step_cbF_write] at h
      split at h
      · cases h
      · cases h
    all_goals cases h
  | cbI cb => cases op <;> cases h

end CV.Backend.C20

#print axioms CV.Backend.C20.C20_cursor_no_fault
#print axioms CV.Backend.C20.C20_cursor_no_ub_site
#print axioms CV.Backend.C20.C20_fault_needs_broken_inv
#print axioms CV.Backend.C20.C20_buf_mut_breaks_iff
#print axioms CV.Backend.C20.C20_broken_behaviour
#print axioms CV.Backend.C20.C20_d12_legacy_same_under_inv
#print axioms CV.Backend.C20.C20_d12_legacy_reaches_ub
#print axioms CV.Backend.C20.C20_d12_legacy_counterexample
#print axioms CV.Backend.C20.C20_backend_no_ub
