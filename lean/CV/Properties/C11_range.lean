import CV.Proofs.RangeExamples
import CV.Proofs.RangeSuffix
/-!
# C11 — Range-coded data is unaffected by what follows (component `range`)

Full for `State = 2·Word` (which includes `DefaultRangeEncoder` and `SmallRangeEncoder`).
For `State > 2·Word` the property is **false** of the code and of the documented sealing rule
(defect D3): `C11_range_suffix_counterexample`.  What remains true for every width is
`C11_range_suffix_immune_partial`.  The property's second clause (an encoder started on a sink
that already holds data; sealed messages stored back to back) is
`C11_range_with_backend_words`, `C11_range_back_to_back_2W`, `C11_range_back_to_back_partial`.
`MsgFits c n`: the message is short enough for the 64-bit `usize` counters (see C02_range).
-/
namespace CV.Range

def C11_range_SuffixImmune (c : Cfg) : Prop :=
  ∀ (msg : List (MStep Nat)), MsgFits c msg.length → (∀ x ∈ msg, x.Valid c) →
  ∀ (suffix : List Nat), WordsOK c suffix →
    ∃ e ws d0 d, encodeMsg c (Encoder.empty c) msg = .ok e ∧
      intoCompressed c e = .ok ws ∧
      Decoder.fromCompressed c (ws ++ suffix) = .ok d0 ∧
      decodeMsg c d0 msg = .ok (msg.map (·.sym), d)

/-- **C11 for `State = 2·Word`**: any suffix leaves decoding unchanged -/
theorem C11_range_suffix_immune_2W {Sym : Type} {c : Cfg} (hc : RValid c) (h2 : c.S = 2 * c.W)
    (msg : List (MStep Sym)) (hn : MsgFits c msg.length) (hv : ∀ x ∈ msg, x.Valid c)
    (suffix : List Nat) (hs : WordsOK c suffix) :
    ∃ e ws d0 d, encodeMsg c (Encoder.empty c) msg = .ok e ∧
      intoCompressed c e = .ok ws ∧
      Decoder.fromCompressed c (ws ++ suffix) = .ok d0 ∧
      decodeMsg c d0 msg = .ok (msg.map (·.sym), d) :=
  suffix_immune_2W hc h2 msg hn hv suffix hs

theorem C11_range_SuffixImmune_2W {c : Cfg} (hc : RValid c) (h2 : c.S = 2 * c.W) :
    C11_range_SuffixImmune c :=
  fun msg hn hv suffix hs => suffix_immune_2W hc h2 msg hn hv suffix hs

/-- **partial, every width**: under `D3Safe` (one seal word, or two and the upper end at least
    `2^(S-2W)` above the point).  Missing at `S > 2W`: two seal words with
    `upper − point_word·2^(S-W) < 2^(S-2W)`, where the statement is false (below). -/
theorem C11_range_suffix_immune_partial {Sym : Type} {c : Cfg} (hc : RValid c)
    (msg : List (MStep Sym)) (hn : MsgFits c msg.length) (hv : ∀ x ∈ msg, x.Valid c)
    (hsafe : D3Safe c (RangeSpec.run c.W c.S (RangeSpec.init c.S) (msg.map MStep.spec)))
    (suffix : List Nat) (hs : WordsOK c suffix) :
    ∃ e ws d0 d, encodeMsg c (Encoder.empty c) msg = .ok e ∧
      intoCompressed c e = .ok ws ∧
      Decoder.fromCompressed c (ws ++ suffix) = .ok d0 ∧
      decodeMsg c d0 msg = .ok (msg.map (·.sym), d) :=
  suffix_immune_of_safe hc msg hn hv hsafe suffix hs

/-- **the failed obligation, kept visible**: at `Word` = 2 bits, `State` = 6 bits the message
    `d3Msg` seals to `[2, 0]`; followed by all-ones words its last symbol decodes as 2, not 1. -/
theorem C11_range_suffix_counterexample : ¬ C11_range_SuffixImmune d3Cfg := by
  intro h
  obtain ⟨e, ws, d0, d, he, hws, hd0, hd⟩ :=
    h d3Msg (by decide) d3Msg_valid [3, 3, 3] (wordsOK_of_all (by decide))
  -- the sealed words are `[2, 0]` …
  have h1 := d3_sealed
  unfold sealedWords at h1
  rw [he] at h1
  simp only [hws] at h1
  have hw : ws = [2, 0] := by injection h1
  -- … and `[2, 0, 3, 3, 3]` decodes to `[1, 1, 2]`, which is not the message
  have h2 := d3_suffix
  unfold decodedSyms at h2
  rw [← hw, hd0] at h2
  simp only [hd] at h2
  revert h2
  decide

/-- **second clause, part 1**: an encoder started `with_backend` on a sink holding `pre` seals to
    `pre` followed by exactly the words the message has on its own -/
theorem C11_range_with_backend_words {Sym : Type} {c : Cfg} (hc : RValid c) {pre : List Nat}
    (hpre : WordsOK c pre) (msg : List (MStep Sym)) (hn : MsgFits c (pre.length + msg.length))
    (hv : ∀ x ∈ msg, x.Valid c) :
    ∃ e, encodeMsg c (Encoder.withBackend c pre) msg = .ok e ∧
      intoCompressed c e = .ok (pre ++ RangeSpec.words c.W c.S (msg.map MStep.spec)) := by
  obtain ⟨e, he, hI, _, habs, hne⟩ := encodeMsg_ok 0 msg (Encoder.withBackend c pre)
    (inv_withBackend hc hpre) (fits_withBackend hn) hv
  refine ⟨e, he, ?_⟩
  rw [intoCompressed_eq hc hI]
  cases msg with
  | nil =>
    cases he
    simp [RangeSpec.words, sealP, Encoder.withBackend]
  | cons x xs =>
    rw [seal_conforms hc hI (hne (.inl (List.cons_ne_nil _ _))), habs, absE_withBackend, run_shift,
      sealWords_shift hc hpre (specInv_run _ _ (specInv_init hc) hv)]
    rfl

/-- **second clause, part 2**, every width under `D3Safe` (the unsafe case is the open defect D3):
    of two sealed messages stored back to back the first decodes from the concatenation, and a
    decoder that seeks to the end of its words (with the initial coder state) decodes the second -/
theorem C11_range_back_to_back_partial {Sym : Type} {c : Cfg} (hc : RValid c)
    (msg1 msg2 : List (MStep Sym)) (hn1 : MsgFits c msg1.length) (hn2 : MsgFits c msg2.length)
    (hv1 : ∀ x ∈ msg1, x.Valid c) (hv2 : ∀ x ∈ msg2, x.Valid c)
    (hsafe : D3Safe c (RangeSpec.run c.W c.S (RangeSpec.init c.S) (msg1.map MStep.spec))) :
    ∃ ws1 ws2, ws1 = RangeSpec.words c.W c.S (msg1.map MStep.spec) ∧
      ws2 = RangeSpec.words c.W c.S (msg2.map MStep.spec) ∧
      (∃ d0 d, Decoder.fromCompressed c (ws1 ++ ws2) = .ok d0 ∧
        decodeMsg c d0 msg1 = .ok (msg1.map (·.sym), d)) ∧
      (∀ dd : Decoder, dd.data = ws1 ++ ws2 →
        ∃ d' d'', dd.seek c ws1.length 0 (maxState c) = .ok d' ∧
          decodeMsg c d' msg2 = .ok (msg2.map (·.sym), d'')) := by
  have hw1 := words_spec_wordsOK c (msg1.map MStep.spec)
  have hw2 := words_spec_wordsOK c (msg2.map MStep.spec)
  refine ⟨_, _, rfl, rfl, ?_, ?_⟩
  · exact decode_words_suffix hc msg1 hv1 hsafe _ hw2
  · generalize RangeSpec.words c.W c.S (msg1.map MStep.spec) = ws1 at hw1 ⊢
    intro dd hdd
    -- the decoder sought to `|ws1|` with the initial registers belongs to the initial reference
    -- state seen behind `ws1`
    have hI0 := specInv_shift (val_lt hw1) (specInv_init hc)
    obtain ⟨d', hd', hrel⟩ := seek_eq hc (hw1.append hw2) hdd
      (st := shiftSt c (val c.W ws1) ws1.length (RangeSpec.init c.S)) (lower := 0)
      (by rw [List.length_append]; exact Nat.le_add_right _ _)
      (by simp only [shiftSt, RangeSpec.init, Nat.pow_zero, Nat.one_mul, Nat.add_zero,
        Nat.mul_mod_left])
    cases msg2 with
    | nil => exact ⟨d', d', hd', rfl⟩
    | cons x xs =>
      have hcont : Contains c (RangeSpec.run c.W c.S (shiftSt c (val c.W ws1) ws1.length (RangeSpec.init c.S))
          ((x :: xs).map MStep.spec))
          (ws1 ++ RangeSpec.words c.W c.S ((x :: xs).map MStep.spec)) := by
        rw [run_shift]
        exact (contains_shift hc _ _ _).mpr
          (seal_contains hc (specInv_run _ _ (specInv_init hc) hv2)).1
      obtain ⟨d'', hd'', _⟩ := decodeMsg_ok (hw1.append hw2) (x :: xs) _ d' hI0 hv2 hcont hrel
      exact ⟨d', d'', hd', hd''⟩

/-- … unconditionally for `State = 2·Word` -/
theorem C11_range_back_to_back_2W {Sym : Type} {c : Cfg} (hc : RValid c) (h2 : c.S = 2 * c.W)
    (msg1 msg2 : List (MStep Sym)) (hn1 : MsgFits c msg1.length) (hn2 : MsgFits c msg2.length)
    (hv1 : ∀ x ∈ msg1, x.Valid c) (hv2 : ∀ x ∈ msg2, x.Valid c) :
    ∃ ws1 ws2, ws1 = RangeSpec.words c.W c.S (msg1.map MStep.spec) ∧
      ws2 = RangeSpec.words c.W c.S (msg2.map MStep.spec) ∧
      (∃ d0 d, Decoder.fromCompressed c (ws1 ++ ws2) = .ok d0 ∧
        decodeMsg c d0 msg1 = .ok (msg1.map (·.sym), d)) ∧
      (∀ dd : Decoder, dd.data = ws1 ++ ws2 →
        ∃ d' d'', dd.seek c ws1.length 0 (maxState c) = .ok d' ∧
          decodeMsg c d' msg2 = .ok (msg2.map (·.sym), d'')) :=
  C11_range_back_to_back_partial hc msg1 msg2 hn1 hn2 hv1 hv2
    (d3Safe_of_2W hc h2 (specInv_run _ _ (specInv_init hc) hv1))

example : WordsOK exCfg [1, 2, 3] ∧ MsgFits exCfg ([1, 2, 3].length + exMsg.length) :=
  ⟨wordsOK_of_all (by decide), by decide⟩
example : RValid exCfg ∧ exCfg.S = 2 * exCfg.W := ⟨exCfg_valid, rfl⟩
example : ∀ x ∈ exMsg, x.Valid exCfg := exMsg_valid
example : decodedSyms exCfg ([127, 29, 86] ++ [255, 255, 255]) exMsg = some [1, 1, 2, 0, 1] := by
  decide
example : RValid d3Cfg := d3Cfg_valid

end CV.Range

#print axioms CV.Range.C11_range_suffix_immune_2W
#print axioms CV.Range.C11_range_SuffixImmune_2W
#print axioms CV.Range.C11_range_suffix_immune_partial
#print axioms CV.Range.C11_range_suffix_counterexample
#print axioms CV.Range.C11_range_with_backend_words
#print axioms CV.Range.C11_range_back_to_back_2W
#print axioms CV.Range.C11_range_back_to_back_partial
