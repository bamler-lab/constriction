import CV.Proofs.ChainSafe
import CV.Proofs.ChainExample
/-!
# C20 (chain coder part) — no sequence of safe API calls reaches an unsafe precondition

## `unsafe` occurrences of `/repo/src/stream/chain.rs` and their model sites

| source (line of the `unsafe` keyword)                                  | model site (`CV/Model/Chain.lean`)            |
|------------------------------------------------------------------------|-----------------------------------------------|
| `decode_symbol`, l. 1070: `Word::NonZero::new_unchecked((hc << (W-P)) \| (word >> P))` | `Fault.ub "chain.dec.nonzero1"` in `takeChunk` |
| `decode_symbol`, l. 1089: `Word::NonZero::new_unchecked(hc >> P)`      | `Fault.ub "chain.dec.nonzero2"` in `takeChunk` |
| `encode_symbol`, l. 1179: `((hc << P) \| quantile).into_nonzero_unchecked()` | `Fault.ub "chain.enc.nonzero1"` in `putChunk` |
| `encode_symbol`, l. 1194: `(hc >> (W-P)).into_nonzero_unchecked()`     | `Fault.ub "chain.enc.nonzero2"` in `putChunk`  |
| `increase_precision`, l. 619, `change_precision`, l. 769: call of `unsafe fn increase_precision_unchecked` (l. 629) | `increasePrecision`; its contract (`NEW ≥ P`, `NEW ≤ W`, `S ≥ W + NEW`) is a set of compile-time facts, checked by the callers' `generic_static_asserts!` (`change_precision` only calls it for `NEW > P`); in the model they are the hypothesis `PrecOk W S q`; the body contains no unsafe operation, so there is no `Fault.ub` site |
| `decrease_precision`, l. 669, `change_precision`, l. 775: call of `unsafe fn decrease_precision_unchecked` (l. 678) | `decreasePrecision`; contract `NEW ≤ P`, `NEW > 0`, same remark |

Not unsafe but relied upon by the sites above: `ChainCoderHeads.compressed : Word::NonZero`
(type-level `hc ≠ 0`), and `Seek::seek`, which installs heads taken from `Pos::pos` of a coder
of the same type (so they satisfy the same invariant; `seek` is a constructor of `Reachable` /
`ReachableAny` below).  The verification hook `verif_from_raw` refuses `hc = 0`.
Memory-level behaviour of `Vec` is outside the model (stacks are lists).  Nothing else in
`chain.rs` is `unsafe`; no unsafe occurrence is left unmodelled.

All other `Fault`s of the model are panics of a checked build (overflow, `debug_assert!`,
`expect`), not UB; the theorems below exclude them too wherever the invariant holds.
-/
namespace CV.Chain.C20
open CV CV.Chain

variable {Sym : Type}

/-- **The four `new_unchecked` sites are unreachable from any state whose compressed head is a
    valid `Word::NonZero`** – for *every* entropy model (well-formed or not), every symbol,
    every remainders head and every content of the two stacks.  (This is why the complete
    raw-heads sweeps of the correspondence check never abort.) -/
theorem ub_sites_unreachable {c : Cfg} (hP : PrecOk c.W c.S c.P) (m : Model Sym) (x : Coder)
    (h1 : 1 ≤ x.heads.compressed) (h2 : x.heads.compressed < 2^c.W) (site : String) :
    decode c m x ≠ .error (.fault (.ub site)) ∧
    ∀ s, encode c m s x ≠ .error (.fault (.ub site)) := by
  refine ⟨fun h => ?_, fun s h => ?_⟩
  · have htk := decode_ub_fields h
    rcases takeChunk_no_ub hP.2.1 h1 h2 x.compressed with he | ⟨r, he⟩ <;> rw [he] at htk <;> cases htk
  · obtain ⟨q, hq⟩ := encode_ub_fields h
    obtain ⟨_, _, hok, _⟩ := putChunk_no_ub hP.1 hP.2.1 h1 h2 x.compressed q
    rw [hok] at hq; cases hq

/-- The constructors have no fault site at all (their result type is `Option Coder`); on
    arbitrary words they either refuse or establish the invariant. -/
theorem constructors_safe {c : Cfg} (hP : PrecOk c.W c.S c.P) (ws : List Nat) (hws : Words c.W ws) :
    (∀ x, fromBinary c ws = some x → Inv c x) ∧
    (∀ x, fromCompressed c ws = some x → Inv c x) ∧
    (∀ x, fromRemainders c ws = some x → Inv c x) :=
  constructors_inv hP hws

/-- **No `Fault` of any kind** (UB, overflow, `debug_assert!`, loop fuel) from any call on a
    coder satisfying the invariant, with well-formed models: every result is `ok` or one of
    the documented error values. -/
theorem api_no_fault {c : Cfg} (hc : c.Valid) {m : Model Sym} (hm : m.WellFormed c.P)
    {x : Coder} (hx : Inv c x) :
    (∀ f, decode c m x ≠ .error (.fault f)) ∧
    (∀ s f, encode c m s x ≠ .error (.fault f)) ∧
    (∀ q f, PrecOk c.W c.S q → changePrecision c q x ≠ .error (.fault f)) ∧
    (∃ r, intoRemainders c x = .ok r) ∧
    (∀ f, intoCompressed c x ≠ .error (.fault f)) ∧
    (∀ f, intoBinary c x ≠ .error (.fault f)) := by
  have hv := CValid.of_valid hc
  have hP := hv.precOk
  have hW := hP.W_pos
  have hr := hx.rem_ne_zero
  refine ⟨?_, ?_, ?_, intoRemainders_no_fault hW x, ?_, ?_⟩
  · intro f h
    cases (decode_error hv hm hx h).1
  · intro s f h
    cases hs : m.enc s with
    | none => simp [encode, hs] at h
    | some cp => cases (encode_error hv hm hx hs h).1
  · intro q f hq h
    cases (changePrecision_error hP hq hx h).1
  · intro f h
    rcases intoCompressed_no_fault hW x with he | ⟨r, hok⟩
    · rw [he] at h; cases h
    · rw [hok] at h; cases h
  · intro f h
    rcases intoBinary_no_fault hW hr with he | ⟨r, hok⟩
    · rw [he] at h; cases h
    · rw [hok] at h; cases h

/-- Everything the public API can produce for a given `(Word, State)`: a coder of precision `P`
    obtained from arbitrary words by a constructor, or from a reachable coder by a successful
    `decode_symbol` / `encode_symbol` (well-formed model with `Probability::BITS = B`) or
    `change_precision`.  (A failing call returns an error and no new coder; `clone` yields
    the same value.) -/
inductive Reachable (Sym : Type) (W S : Nat) : Nat → Coder → Prop where
  | fromBinary {P : Nat} {ws : List Nat} {x : Coder} :
      PrecOk W S P → Words W ws → fromBinary ⟨W, S, P, P⟩ ws = some x → Reachable Sym W S P x
  | fromCompressed {P : Nat} {ws : List Nat} {x : Coder} :
      PrecOk W S P → Words W ws → fromCompressed ⟨W, S, P, P⟩ ws = some x → Reachable Sym W S P x
  | fromRemainders {P : Nat} {ws : List Nat} {x : Coder} :
      PrecOk W S P → Words W ws → fromRemainders ⟨W, S, P, P⟩ ws = some x → Reachable Sym W S P x
  | decode {P B : Nat} {m : Model Sym} {x y : Coder} {s : Sym} :
      Reachable Sym W S P x → CValid ⟨W, S, P, B⟩ → m.WellFormed P →
      decode ⟨W, S, P, B⟩ m x = .ok (s, y) → Reachable Sym W S P y
  | encode {P B : Nat} {m : Model Sym} {x y : Coder} {s : Sym} :
      Reachable Sym W S P x → CValid ⟨W, S, P, B⟩ → m.WellFormed P →
      encode ⟨W, S, P, B⟩ m s x = .ok y → Reachable Sym W S P y
  | changePrecision {P q : Nat} {x y : Coder} :
      Reachable Sym W S P x → PrecOk W S q →
      changePrecision ⟨W, S, P, P⟩ q x = .ok y → Reachable Sym W S q y
  /-- `Seek::seek` to `Pos::pos` of a reachable coder of the same type – whether it succeeds
      or fails half-way (compressed side already truncated) -/
  | seek {P : Nat} {x x' : Coder} :
      Reachable Sym W S P x → Reachable Sym W S P x' → Reachable Sym W S P (seek x (pos x')).1

/-- **Every reachable coder satisfies the invariant** (for any `B`: the invariant does not
    mention it). -/
theorem reachable_inv {W S P : Nat} {x : Coder} (h : Reachable Sym W S P x) (B : Nat) :
    PrecOk W S P ∧ Inv ⟨W, S, P, B⟩ x := by
  induction h with
  | fromBinary hP hw h => exact ⟨hP, (fromBinary_spec (c := ⟨W, S, _, _⟩) hP hw h).1⟩
  | fromCompressed hP hw h => exact ⟨hP, (fromCompressed_spec (c := ⟨W, S, _, _⟩) hP hw h).1⟩
  | fromRemainders hP hw h => exact ⟨hP, (fromRemainders_inv (c := ⟨W, S, _, _⟩) hP hw h :)⟩
  | decode _ hv hm hd ih => exact ⟨ih.1, (decode_ok hv hm ih.2 hd).1⟩
  | encode _ hv hm he ih => exact ⟨ih.1, (encode_ok hv hm ih.2 he).1⟩
  | changePrecision _ hq hcp ih =>
    exact ⟨hq, (changePrecision_ok (c := ⟨W, S, _, _⟩) ih.1 hq ih.2 hcp).1⟩
  | seek _ _ ih ih' => exact ⟨ih.1, seek_inv ih.2 ih'.2⟩

/-- **History-level C20**: on every coder reachable through the API, every further call – with
    any well-formed model of any admissible probability width, any symbol, any admissible new
    precision – returns `ok` or a documented error; in particular none of the four unsafe
    sites is ever reached with a violated precondition. -/
theorem reachable_no_fault {W S P : Nat} {x : Coder} (h : Reachable Sym W S P x)
    {B : Nat} (hc : (⟨W, S, P, B⟩ : Cfg).Valid) {m : Model Sym} (hm : m.WellFormed P) :
    (∀ f, decode ⟨W, S, P, B⟩ m x ≠ .error (.fault f)) ∧
    (∀ s f, encode ⟨W, S, P, B⟩ m s x ≠ .error (.fault f)) ∧
    (∀ q f, PrecOk W S q → changePrecision ⟨W, S, P, B⟩ q x ≠ .error (.fault f)) ∧
    (∃ r, intoRemainders ⟨W, S, P, B⟩ x = .ok r) ∧
    (∀ f, intoCompressed ⟨W, S, P, B⟩ x ≠ .error (.fault f)) ∧
    (∀ f, intoBinary ⟨W, S, P, B⟩ x ≠ .error (.fault f)) :=
  api_no_fault hc hm (reachable_inv h B).2

/-! ## invalid arguments: arbitrary (ill-formed) models, arbitrary symbols

C20 also covers calls with invalid arguments.  The unsafe sites only need the compressed head to
be a valid `Word::NonZero` and the compressed stack to consist of `Word`s (`WInv`); that much
survives every successful call whatever entropy model is supplied. -/

/-- **The `NonZero` head bound survives every `ok` step under an arbitrary model.** -/
theorem winv_preserved {c : Cfg} (hP : PrecOk c.W c.S c.P) (hBW : c.B ≤ c.W) (m : Model Sym)
    {x : Coder} (hx : WInv c x) :
    (∀ s y, decode c m x = .ok (s, y) → WInv c y) ∧
    (∀ s y, encode c m s x = .ok y → WInv c y) ∧
    (∀ q y, changePrecision c q x = .ok y → WInv (withP c q) y) ∧
    (∀ x', WInv c x' → WInv c (seek x (pos x')).1) :=
  ⟨fun _ _ h => decode_winv hP hx h, fun _ _ h => encode_winv hP hBW hx h,
   fun _ _ h => changePrecision_winv hx h, fun _ hx' => seek_winv hx hx'⟩

/-- Everything the public API can produce when the caller may pass **any** entropy model
    (`B ≤ W` is the trait bound `Probability: Into<Word>`, enforced by the compiler) and may
    `seek` to any position obtained from `pos` of such a coder of the same type. -/
inductive ReachableAny (Sym : Type) (W S : Nat) : Nat → Coder → Prop where
  | fromBinary {P : Nat} {ws : List Nat} {x : Coder} :
      PrecOk W S P → Words W ws → fromBinary ⟨W, S, P, P⟩ ws = some x → ReachableAny Sym W S P x
  | fromCompressed {P : Nat} {ws : List Nat} {x : Coder} :
      PrecOk W S P → Words W ws → fromCompressed ⟨W, S, P, P⟩ ws = some x → ReachableAny Sym W S P x
  | fromRemainders {P : Nat} {ws : List Nat} {x : Coder} :
      PrecOk W S P → Words W ws → fromRemainders ⟨W, S, P, P⟩ ws = some x → ReachableAny Sym W S P x
  | decode {P B : Nat} {m : Model Sym} {x y : Coder} {s : Sym} :
      ReachableAny Sym W S P x → decode ⟨W, S, P, B⟩ m x = .ok (s, y) → ReachableAny Sym W S P y
  | encode {P B : Nat} {m : Model Sym} {x y : Coder} {s : Sym} :
      ReachableAny Sym W S P x → B ≤ W → encode ⟨W, S, P, B⟩ m s x = .ok y →
      ReachableAny Sym W S P y
  | changePrecision {P q : Nat} {x y : Coder} :
      ReachableAny Sym W S P x → PrecOk W S q →
      changePrecision ⟨W, S, P, P⟩ q x = .ok y → ReachableAny Sym W S q y
  | seek {P : Nat} {x x' : Coder} :
      ReachableAny Sym W S P x → ReachableAny Sym W S P x' →
      ReachableAny Sym W S P (seek x (pos x')).1

theorem reachableAny_winv {W S P : Nat} {x : Coder} (h : ReachableAny Sym W S P x) (B : Nat) :
    PrecOk W S P ∧ WInv ⟨W, S, P, B⟩ x := by
  induction h with
  | fromBinary hP hw h => exact ⟨hP, (fromBinary_spec (c := ⟨W, S, _, _⟩) hP hw h).1.winv⟩
  | fromCompressed hP hw h => exact ⟨hP, (fromCompressed_spec (c := ⟨W, S, _, _⟩) hP hw h).1.winv⟩
  | fromRemainders hP hw h => exact ⟨hP, (fromRemainders_inv (c := ⟨W, S, _, _⟩) hP hw h).winv⟩
  | @decode P' B' _ _ _ _ _ hd ih =>
    exact ⟨ih.1, decode_winv (c := ⟨W, S, P', B'⟩) ih.1 ih.2 hd⟩
  | @encode P' B' _ _ _ _ _ hB he ih =>
    exact ⟨ih.1, encode_winv (c := ⟨W, S, P', B'⟩) ih.1 hB ih.2 he⟩
  | @changePrecision P' _ _ _ _ hq hcp ih =>
    exact ⟨hq, changePrecision_winv (c := ⟨W, S, P', P'⟩) ih.2 hcp⟩
  | seek _ _ ih ih' => exact ⟨ih.1, seek_winv ih.2 ih'.2⟩

/-- **`ub_sites_unreachable`, lifted to histories with arbitrary models**: whatever sequence of
    constructor / decode / encode / `change_precision` / `seek` calls produced the coder, and
    whatever models and symbols were passed along the way, the next `decode_symbol` /
    `encode_symbol` – again with any model, any symbol – does not reach a `new_unchecked(0)`. -/
theorem history_no_ub {W S P : Nat} {x : Coder} (h : ReachableAny Sym W S P x) (B : Nat)
    (m : Model Sym) (site : String) :
    decode ⟨W, S, P, B⟩ m x ≠ .error (.fault (.ub site)) ∧
    ∀ s, encode ⟨W, S, P, B⟩ m s x ≠ .error (.fault (.ub site)) := by
  obtain ⟨hP, h1, h2, _⟩ := reachableAny_winv h B
  exact ub_sites_unreachable (c := ⟨W, S, P, B⟩) hP m x h1 h2 site

/-! ## non-vacuity -/

/-- a reachable coder: `from_binary` on the example data -/
example : ∃ x, Reachable Nat 8 16 3 x := by
  obtain ⟨x0, _, _, _, h0, _⟩ := exRun_binary
  exact ⟨x0, .fromBinary (by decide) exData_words h0⟩

example : exCfg.Valid ∧ Inv exCfg exCoder ∧ (tableModel [0, 1, 8]).WellFormed exCfg.P :=
  ⟨exCfg_valid, exCoder_inv, wf_two (by decide) (by decide)⟩

/-- the hypothesis of `ub_sites_unreachable` is strictly weaker than the invariant: a coder
    whose remainders head violates it still cannot reach an unsafe site -/
example : PrecOk exCfg.W exCfg.S exCfg.P ∧
    ¬ Inv exCfg { compressed := [], remainders := [], heads := { compressed := 255, remainders := 0 } } := by
  refine ⟨by decide, fun h => ?_⟩
  have := h.1.2.2.1
  revert this
  decide

/-- `ReachableAny` is inhabited, e.g. by a `seek` between two freshly constructed coders -/
example : ∃ x, ReachableAny Nat 8 16 3 x := by
  obtain ⟨x0, _, _, _, h0, _⟩ := exRun_binary
  exact ⟨_, .seek (.fromBinary (by decide) exData_words h0) (.fromBinary (by decide) exData_words h0)⟩

end CV.Chain.C20

#print axioms CV.Chain.C20.ub_sites_unreachable
#print axioms CV.Chain.C20.constructors_safe
#print axioms CV.Chain.C20.api_no_fault
#print axioms CV.Chain.C20.reachable_inv
#print axioms CV.Chain.C20.reachable_no_fault
#print axioms CV.Chain.C20.winv_preserved
#print axioms CV.Chain.C20.reachableAny_winv
#print axioms CV.Chain.C20.history_no_ub
