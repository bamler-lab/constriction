import CV.Proofs.CatArbitrary
/-!
# C20 (component `cat`): no `Fault.ub` site is reachable for constructed models

Each `unsafe` precondition of the integer entropy models (`get_unchecked` bounds,
`into_nonzero_unchecked`, `unreachable_unchecked` after `binary_search_by`) is a
`Fault.ub "<site>"` branch of the Impl model.  For every model a constructor or conversion
can return, every query returns `.ok _` — or, for the lookup decoders at `P < B` and an
out-of-contract quantile `≥ 2^P`, the documented `assert!` panic.
-/
namespace CV.Cat
open CV

/-- the transcribed `slice::binary_search_by` on a sorted slice -/
theorem C20_binary_search {a : List Nat} (h : a.Pairwise (· < ·)) (q : Nat) :
    ∃ k, bsearch a q = .ok k ∧ k ≤ a.length := by
  obtain ⟨k, hk, hle, _, _⟩ := bsearch_spec q (MonoIdx.of_pairwise h)
  exact ⟨k, hk, hle⟩

/-- contiguous model (also as a view): encoder lookup for every `usize`, quantile function for
    every `Probability` value, symbol table -/
theorem C20_contiguous {B P : Nat} {m : Contiguous} (h : ValidCdf B P m.cdf) (hP : P ≤ B) :
    (∀ s, ∃ r, m.enc B s = .ok r) ∧ (∀ q, ∃ r, m.dec B q = .ok r) ∧ (∃ t, m.table B = .ok t) ∧
    (∃ n, m.supportSize = .ok n) :=
  ⟨fun s => ⟨_, Contiguous.enc_eq h hP s⟩, fun q => ⟨_, cdfQuantile_clamped h hP q⟩,
   ⟨_, Contiguous.table_eq h hP⟩,
   ⟨m.cdf.length - 1, by unfold Contiguous.supportSize csub; rw [if_pos (by have := h.three_le; omega)]⟩⟩

/-- non-contiguous decoder model -/
theorem C20_ncdec {Sym : Type} [Inhabited Sym] {B P : Nat} {m : NcDec Sym}
    (h : ValidCdf B P (m.cdf.map (·.1))) (hP : P ≤ B) :
    (∀ q, ∃ r, m.dec B q = .ok r) ∧ (∃ t, m.table B = .ok t) :=
  ⟨fun q => NcDec.dec_total h hP q, ⟨_, iterExtendedCdf_valid h hP⟩⟩

/-- lookup decoders: out of range (only possible if `P < B`) ⇒ the `assert!` -/
theorem C20_lookup {B P : Nat} {tbl : Array Nat} {cs : List Nat} (h : ValidCdf B P cs) (hP : P ≤ B)
    (hok : LookupOK P (unwrap P cs) tbl) (q : Nat) (hqB : q < 2 ^ B) :
    (q < 2 ^ P ∧ ∃ r, lookupQuantile B P tbl cs q = .ok r) ∨
    (2 ^ P ≤ q ∧ P < B ∧
      lookupQuantile B P tbl cs q = .error (.panic "lookup.quantile_function.assert")) := by
  rcases quantile_cases (P := P) hqB with hq | ⟨hq, hlt⟩
  · exact Or.inl ⟨hq, _, lookupQuantile_eq h hP hok hq⟩
  · exact Or.inr ⟨hq, hlt, lookupQuantile_out_of_range (Nat.ne_of_gt hlt) (Nat.not_lt.mpr hq)⟩

/-- non-contiguous lookup decoder (the extra unchecked access to the symbol) -/
theorem C20_nclookup {Sym : Type} [DecidableEq Sym] [Inhabited Sym] {B P : Nat}
    {labels : List Sym} {ext : List Nat} {last : Sym} {tbl : Array Nat}
    (h : ValidExt P ext) (hlen : labels.length + 1 = ext.length) (hP : P ≤ B)
    (hok : LookupOK P ext tbl) (q : Nat) (hqB : q < 2 ^ B) :
    let l : NcLookup Sym := { tbl := tbl, cdf := ncCdf B P labels ext last }
    (q < 2 ^ P ∧ ∃ r, l.dec B P q = .ok r) ∨
    (2 ^ P ≤ q ∧ P < B ∧ l.dec B P q = .error (.panic "lookup.quantile_function.assert")) := by
  intro l
  rcases quantile_cases (P := P) hqB with hq | ⟨hq, hlt⟩
  · exact Or.inl ⟨hq, _, NcLookup.dec_canon h hlen hP hok hq⟩
  · refine Or.inr ⟨hq, hlt, ?_⟩
    simp only [l, NcLookup.dec]
    rw [lookupQuantile_out_of_range (Nat.ne_of_gt hlt) (Nat.not_lt.mpr hq)]

/-- uniform model: constructor, encoder lookup, quantile function (any `Probability` value),
    symbol table -/
theorem C20_uniform {B P range : Nat} (hP1 : 1 ≤ P) (hP : P ≤ B) (hPU : P ≤ U)
    (hr : range < 2 ^ U) :
    (∀ site, Uniform.new B P range ≠ .error (.ub site)) ∧
    (∀ u, Uniform.new B P range = .ok u →
      (∀ s, ∃ r, u.enc B P s = .ok r) ∧ (∀ q, ∃ r, u.dec B P q = .ok r) ∧
      (∃ t, u.table B P = .ok t)) := by
  by_cases hv : 2 ≤ range ∧ range ≤ 2 ^ P
  · have hnew := Uniform.new_ok hP1 hP hPU hr hv.1 hv.2
    refine ⟨fun site => by rw [hnew]; simp, ?_⟩
    intro u hu
    rw [hnew] at hu
    simp only [Except.ok.injEq] at hu
    subst hu
    exact ⟨fun s => ⟨_, Uniform.enc_eq hP hv.1 hv.2 s⟩, fun q => ⟨_, Uniform.dec_clamped hP hr hv.1 hv.2 q⟩,
      ⟨_, Uniform.table_eq hP hr hv.1 hv.2⟩⟩
  · obtain ⟨site, hs⟩ := Uniform.new_panics hP1 hP hv
    refine ⟨fun site' => by rw [hs]; simp, ?_⟩
    intro u hu; rw [hs] at hu; simp at hu

/-- constructors and conversions never fault on what they are given by other constructors -/
theorem C20_constructors {Sym : Type} [DecidableEq Sym] [Inhabited Sym] {B P : Nat}
    (hP1 : 1 ≤ P) (hP : P ≤ B) :
    (∀ (syms : List Sym) (probs : List Nat) (infer : Bool), (∀ p ∈ probs, p < 2 ^ B) →
      ∃ r, NcDec.fromSymbolsAndNonzeroFixedPoint B P syms probs infer = .ok r) ∧
    (∀ (syms : List Sym) (probs : List Nat) (infer : Bool), (∀ p ∈ probs, p < 2 ^ B) →
      ∃ r, NcLookup.fromSymbolsAndNonzeroFixedPoint B P syms probs infer = .ok r) ∧
    (∀ (m : Contiguous), ValidCdf B P m.cdf → ∃ l, Lookup.fromContiguous B P m = .ok l) ∧
    (∀ (lab : Nat → Sym) (ext : List Nat), ValidExt P ext →
      (∃ md, NcDec.fromTable B P (specTable lab ext) = .ok md) ∧
      (∃ ml, NcLookup.fromTable B P (specTable lab ext) = .ok ml)) := by
  refine ⟨?_, ?_, ?_, ?_⟩
  · intro syms probs infer hprobs
    rcases NcDec.fromFixed_some (syms := syms) (infer := infer) hP1 hP hprobs with h | ⟨m, _, h, _⟩
    · exact ⟨_, h⟩
    · exact ⟨_, h⟩
  · intro syms probs infer hprobs
    rcases NcLookup.fromFixed_some (syms := syms) (infer := infer) hP1 hP hprobs with h | ⟨m, _, h, _⟩
    · exact ⟨_, h⟩
    · exact ⟨_, h⟩
  · intro m h
    obtain ⟨tbl, hl, _⟩ := Lookup.fromContiguous_ok h hP
    exact ⟨_, hl⟩
  · intro lab ext h
    obtain ⟨md, d1, _⟩ := generic_decoder (B := B) lab h hP1 hP
    obtain ⟨ml, l1, _⟩ := generic_lookup (B := B) lab h hP
    exact ⟨⟨md, d1⟩, ⟨ml, l1⟩⟩

/-- **No UB for any symbol table (D31, D32).**  `IterableEntropyModel` is a safe trait, so the
    table handed to `from_iterable_entropy_model` / `to_generic_decoder_model` /
    `to_generic_lookup_decoder_model` can be an arbitrary list of `(symbol, left, probability)`
    entries of the right type (`Typed B t`: probabilities are `NonZero`, values `< 2^B`) — not
    starting at zero, with gaps, overlaps, too little or too much mass, repeated symbols, empty.
    (The hash-table encoder's `from_iterable_entropy_model` and lookup are total functions
    without unsafe code: `NcEnc.fromTable`, `NcEnc.enc`.) -/
theorem C20_noncontiguous_no_ub_for_any_symbol_table {Sym : Type} [DecidableEq Sym] [Inhabited Sym]
    {B P : Nat} (hP1 : 1 ≤ P) (hP : P ≤ B) (t : List (Sym × Nat × Nat)) (ht : Typed B t) :
    ((∃ site, NcDec.fromTable B P t = .error (.panic site)) ∨
      (∃ m, NcDec.fromTable B P t = .ok m ∧ ∀ q, ∃ r, m.dec B q = .ok r)) ∧
    (∀ dbg, (∃ site, NcLookup.fromTableWith B P dbg t = .error (.panic site)) ∨
      (∃ m, NcLookup.fromTableWith B P dbg t = .ok m ∧
        (∀ q, q < 2 ^ P → ∃ r, m.dec B P q = .ok r) ∧
        (∀ q, 2 ^ P ≤ q → q < 2 ^ B →
          m.dec B P q = .error (.panic "lookup.quantile_function.assert")))) := by
  refine ⟨NcDec.fromTable_arbitrary hP1 hP ht, fun dbg => ?_⟩
  rcases NcLookup.fromTableWith_arbitrary hP dbg ht with h | ⟨m, hm, hq⟩
  · exact Or.inl h
  · refine Or.inr ⟨m, hm, hq, ?_⟩
    intro q hq1 hq2
    simp only [NcLookup.dec]
    rw [lookupQuantile_out_of_range (Nat.ne_of_gt (lt_of_pow_le_lt hq1 hq2)) (Nat.not_lt.mpr hq1)]

/-- the same, phrased as "never `Fault.ub`" -/
theorem C20_noncontiguous_never_ub {Sym : Type} [DecidableEq Sym] [Inhabited Sym]
    {B P : Nat} (hP1 : 1 ≤ P) (hP : P ≤ B) (t : List (Sym × Nat × Nat)) (ht : Typed B t)
    (site : String) :
    NcDec.fromTable B P t ≠ .error (.ub site) ∧
    (∀ m q, NcDec.fromTable B P t = .ok m → m.dec B q ≠ .error (.ub site)) ∧
    (∀ dbg, NcLookup.fromTableWith B P dbg t ≠ .error (.ub site)) ∧
    (∀ dbg m q, q < 2 ^ B → NcLookup.fromTableWith B P dbg t = .ok m →
      m.dec B P q ≠ .error (.ub site)) := by
  obtain ⟨hd, hl⟩ := C20_noncontiguous_no_ub_for_any_symbol_table hP1 hP t ht
  refine ⟨?_, ?_, ?_, ?_⟩
  · rcases hd with ⟨s, h⟩ | ⟨m, h, _⟩
    · rw [h]
      nofun
    · rw [h]
      nofun
  · intro m q hm
    rcases hd with ⟨s, h⟩ | ⟨m', h, hq⟩
    · rw [h] at hm; simp at hm
    · rw [h] at hm
      simp only [Except.ok.injEq] at hm
      subst hm
      obtain ⟨r, hr⟩ := hq q
      rw [hr]; simp
  · intro dbg
    rcases hl dbg with ⟨s, h⟩ | ⟨m, h, _⟩
    · rw [h]
      nofun
    · rw [h]
      nofun
  · intro dbg m q hqB hm
    rcases hl dbg with ⟨s, h⟩ | ⟨m', h, hlo, hhi⟩
    · rw [h] at hm; simp at hm
    · rw [h] at hm
      simp only [Except.ok.injEq] at hm
      subst hm
      rcases Nat.lt_or_ge q (2 ^ P) with hq | hq
      · obtain ⟨r, hr⟩ := hlo q hq
        rw [hr]; simp
      · rw [hhi q hq hqB]; simp

/-! non-vacuity -/
/-- a lying table (starts at 5, leaves a gap, too little mass) is of the right type -/
example : Typed 8 [((7 : Nat), (5 : Nat), (3 : Nat)), (9, 20, 1)] := by
  intro e he
  simp at he
  rcases he with rfl | rfl <;> decide
example : ValidCdf 8 8 [0, 100, 200, 0] :=
  Contiguous.fromNonzeroFixedPoint_valid (B := 8) (P := 8) (probs := [100, 100]) (infer := true)
    (m := { cdf := [0, 100, 200, 0] }) (by decide) (by decide) (by decide) (by decide)

example : ∃ m, Lookup.fromNonzeroFixedPoint 8 2 [1, 3] false = some m := ⟨_, rfl⟩
example : ValidExt 8 [0, 100, 200, 256] := ⟨by decide, by decide, by decide, by decide⟩

#print axioms C20_binary_search
#print axioms C20_contiguous
#print axioms C20_ncdec
#print axioms C20_lookup
#print axioms C20_nclookup
#print axioms C20_uniform
#print axioms C20_constructors
#print axioms C20_noncontiguous_no_ub_for_any_symbol_table
#print axioms C20_noncontiguous_never_ub

end CV.Cat
