import CV.Properties.C01_ans
/-!
# C07 (ANS part) — seeking to a recorded position resumes decoding exactly there
-/
namespace CV.Ans.C07
open CV CV.Ans

variable {Sym : Type}

theorem replay_bulk_suffix (W S : Nat) (x : Coder) (g : List (C01.Entry Sym)) :
    ∃ pre, (C01.replay W S x g).bulk = pre ++ x.bulk ∧ (C01.replay W S x g).cap = x.cap := by
  induction g with
  | nil => exact ⟨[], rfl, rfl⟩
  | cons e g ih =>
    obtain ⟨pre, h1, h2⟩ := ih
    simp only [C01.replay]
    split
    · rename_i cum p _
      obtain ⟨pre', h'⟩ := encArith_bulk_suffix (c := e.cfg W S) (C01.replay W S x g) cum p
      refine ⟨pre' ++ pre, ?_, ?_⟩
      · rw [h', h1, List.append_assoc]
      · rw [C01.encArith_cap, h2]
    · exact ⟨pre, h1, h2⟩

/-- **Random access (stack coder).** Take a snapshot `(pos, state)` of the coder at any symbol
    boundary, keep encoding anything, and later `seek` to the snapshot: the coder is *exactly* the
    coder at the time of the snapshot, so (C01) decoding yields the symbols encoded before it. -/
theorem seek_restores_snapshot (W S : Nat) (x : Coder) (later : List (C01.Entry Sym)) :
    seek (C01.replay W S x later) (pos x) = some x := by
  obtain ⟨pre, h1, h2⟩ := replay_bulk_suffix W S x later
  exact seek_snapshot x _ h2 pre h1

/-- `Seek::seek` of a decoder over a `Cursor` holding the finished data (what
    `as_seekable_decoder` / `into_seekable_decoder` give; `Cursor::seek` only moves the position;
    `C17_ans_cursor_seek` shows this is the image of the backend model) -/
def seekCursor (data : List Nat) (p : Nat × Nat) : Option Coder :=
  if p.1 ≤ data.length then
    some { bulk := (data.take p.1).reverse, state := p.2, cap := some data.length }
  else none

/-- **Random access through a cursor, from wherever the decoder is** (`seekCursor` does not read
    its position or state): over the finished bulk, in `Vec` order, of anything encoded on top
    of `x`, seeking to the snapshot of `x` yields `x`, up to the backend's capacity field. -/
theorem seek_cursor_restores_snapshot (W S : Nat) (x : Coder) (later : List (C01.Entry Sym)) :
    seekCursor (C01.replay W S x later).bulk.reverse (pos x)
      = some { x with cap := some (C01.replay W S x later).bulk.length } := by
  obtain ⟨pre, h1, _⟩ := replay_bulk_suffix W S x later
  unfold seekCursor pos
  simp only [h1, List.reverse_append, List.length_append, List.length_reverse]
  have hle : x.bulk.length ≤ x.bulk.length + pre.length := Nat.le_add_right _ _
  rw [Nat.add_comm pre.length] 
  simp only [hle, if_true]
  have : ((x.bulk.reverse ++ pre.reverse).take x.bulk.length).reverse = x.bulk := by
    rw [← List.length_reverse, List.take_left, List.reverse_reverse]
  rw [this]

theorem seek_cursor_out_of_range (data : List Nat) (p : Nat × Nat) (h : data.length < p.1) :
    seekCursor data p = none :=
  if_neg (Nat.not_le_of_lt h)

theorem seek_is_idempotent (x y : Coder) (hcap : y.cap = x.cap) (pre : List Nat)
    (h : y.bulk = pre ++ x.bulk) :
    (seek y (pos x)).bind (fun z => seek z (pos x)) = some x := by
  rw [seek_snapshot x y hcap pre h]
  exact seek_snapshot x x rfl [] rfl

theorem seek_out_of_range_rejected (y : Coder) (p : Nat × Nat) (h : y.bulk.length < p.1) :
    seek y p = none :=
  if_neg (Nat.not_le_of_lt h)

end CV.Ans.C07

#print axioms CV.Ans.C07.replay_bulk_suffix
#print axioms CV.Ans.C07.seek_restores_snapshot
#print axioms CV.Ans.C07.seek_is_idempotent
#print axioms CV.Ans.C07.seek_cursor_restores_snapshot
#print axioms CV.Ans.C07.seek_cursor_out_of_range
#print axioms CV.Ans.C07.seek_out_of_range_rejected
