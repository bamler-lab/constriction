import CV.Proofs.BitsInspect
/-!
# C08 (bit-level coders) — inspecting a coder never changes what it will output

The inspections of the bit coders are `get_compressed()` (`StackCoderGuard` /
`QueueEncoderGuard`: seal temporarily, show the words, restore on drop), `iter()` /
`as_decoder()`, `len()`, `is_empty()`.  (`StackCoder` / `QueueEncoder` are not `Clone`: the
derive needs `Stack: Clone`; `QueueDecoder::clone` is the identity on the model value.)

Dropping a `StackCoderGuard` may change the *representation* (a full current word moves to the
backend), so the theorems are stated on the abstraction `bits`: `bits` is unchanged and every
observer factors through `bits`.  All `W ≥ 2`, all states satisfying `Inv`, all histories.
-/
namespace CV.Bits.C08
open CV CV.Bits

theorem validW_one {W : Nat} (h : ValidW W) : 1 ≤ W := CV.Bits.validW_one h

/-- `StackCoderGuard`: the view is what `into_compressed()` would return at that moment, the drop
    cannot panic, and afterwards the coder holds the same bits (no side condition: also on an
    empty coder and with a full current word). -/
theorem stack_guard_noop {W : Nat} (hW : ValidW W) {c : Coder} (hI : Inv W c) :
    ∃ c', Stack.getCompressed W c = .ok (Stack.intoCompressed W c, c') ∧ Inv W c' ∧
      bits W c' = bits W c :=
  CV.Bits.stack_guard_noop (validW_one hW) hI

/-- `QueueEncoderGuard`: the view is what `into_compressed()` would return and the drop restores
    the coder *identically* — for every coder value, no invariant needed. -/
theorem queue_guard_noop (c : Coder) : Queue.getCompressed c = (Queue.intoCompressed c, c) :=
  CV.Bits.queue_guard_noop c

/-- `iter()` / `as_decoder()`: a function of the coder value that returns no new coder; yields the
    bits in pop order, never runs out of fuel. -/
theorem iter_pure {W : Nat} (hW : ValidW W) {c : Coder} (hI : Inv W c) :
    Stack.iter W c = .ok (bits W c).reverse :=
  iter_spec (validW_one hW) hI

/-- every observer factors through `bits`: two coders holding the same bits, whatever their
    representation, are indistinguishable -/
theorem observers_factor_through_bits {W : Nat} (hW : ValidW W) {c₁ c₂ : Coder}
    (h₁ : Inv W c₁) (h₂ : Inv W c₂) (h : bits W c₁ = bits W c₂) :
    ((bits W c₁).length < 2^64 → len W c₁ = len W c₂) ∧
    isEmpty c₁ = isEmpty c₂ ∧
    (readBit W c₁).1 = (readBit W c₂).1 ∧ bits W (readBit W c₁).2 = bits W (readBit W c₂).2 ∧
    (∀ b, bits W (writeBit W c₁ b) = bits W (writeBit W c₂ b)) ∧
    Stack.intoCompressed W c₁ = Stack.intoCompressed W c₂ ∧
    Queue.intoCompressed c₁ = Queue.intoCompressed c₂ ∧
    Stack.iter W c₁ = Stack.iter W c₂ := by
  have h1 := validW_one hW
  refine ⟨?_, ?_, ?_, ?_, ?_, ?_, ?_, ?_⟩
  · intro hl
    rw [len_spec c₁ hl, len_spec c₂ (by rw [← h]; exact hl), h]
  · rw [isEmpty_eq h1 c₁, isEmpty_eq h1 c₂, h]
  · rw [readBit_fst h1 h₁, readBit_fst h1 h₂, h]
  · rw [readBit_bits h1 h₁, readBit_bits h1 h₂, h]
  · intro b
    rw [writeBit_bits h1 h₁, writeBit_bits h1 h₂, h]
  · exact stack_export_factors h1 h₁ h₂ h
  · exact queue_export_factors h1 h₁ h₂ h
  · rw [iter_spec h1 h₁, iter_spec h1 h₂, h]

/-- the same for whole operations, including symbol encode / decode with any lawful codebook -/
theorem step_factors_through_bits {W : Nat} (hW : ValidW W) (op : SOp) (hop : op.Lawful)
    {c₁ c₂ : Coder} (h₁ : Inv W c₁) (h₂ : Inv W c₂) (h : bits W c₁ = bits W c₂) :
    (Stack.step W op c₁).1 = (Stack.step W op c₂).1 ∧
      bits W (Stack.step W op c₁).2 = bits W (Stack.step W op c₂).2 :=
  Stack.step_congr (validW_one hW) op hop h₁ h₂ h

/-- `inspect_erasure`: deleting all inspections (`len`, `is_empty`, `get_compressed`, `iter`) from
    any history leaves the outputs of the remaining operations, the bits the coder ends up with
    and hence its final export unchanged.  (`noFault`: a `len` on more than `2^64` bits panics and
    would end the history.) -/
theorem inspect_erasure {W : Nat} (hW : ValidW W) (ops : List SOp) (hops : ∀ op ∈ ops, op.Lawful)
    {c : Coder} (hI : Inv W c) (hnf : noFault (run (Stack.step W) ops c).1) :
    (run (Stack.step W) (ops.filter (fun o => !o.isInspection)) c).1 = (runObs W ops c).1 ∧
      bits W (run (Stack.step W) (ops.filter (fun o => !o.isInspection)) c).2 =
        bits W (run (Stack.step W) ops c).2 ∧
      Stack.intoCompressed W (run (Stack.step W) (ops.filter (fun o => !o.isInspection)) c).2 =
        Stack.intoCompressed W (run (Stack.step W) ops c).2 := by
  have h1 := validW_one hW
  have h := inspect_erasure_aux h1 ops hops c c hI hI rfl hnf
  have hb : bits W (run (Stack.step W) (ops.filter (fun o => !o.isInspection)) c).2 =
      bits W (run (Stack.step W) ops c).2 := by rw [h.2.1, h.2.2]
  have hops' : ∀ op ∈ ops.filter (fun o => !o.isInspection), op.Lawful :=
    fun op hop => hops op (List.mem_filter.mp hop).1
  exact ⟨h.1, hb, stack_export_factors h1 (stack_run_refines h1 _ hops' hI).2.1
    (stack_run_refines h1 ops hops hI).2.1 hb⟩

/-- the queue encoder's inspections: the guard restores the coder identically and `len`,
    `is_empty` return no new coder, so any number of inspections is literally the identity -/
def inspectQ : Nat → Coder → Coder
  | 0, c => c
  | n + 1, c => inspectQ n (Queue.getCompressed c).2

theorem queue_inspect_erasure (n : Nat) (c : Coder) : inspectQ n c = c := by
  induction n with
  | zero => rfl
  | succ n ih => simp only [inspectQ, CV.Bits.queue_guard_noop]; exact ih

/-- a coder with a *full* current word: the guard changes the representation, not the bits -/
example : Stack.getCompressed 8 (writeBits 8 empty (List.replicate 8 true)) =
    .ok ([1, 255], { backend := [255], cw := 0, mask := 0 }) := by decide +kernel

example : writeBits 8 empty (List.replicate 8 true) = { backend := [], cw := 255, mask := 128 } := by
  decide +kernel

example : Inv 8 (writeBits 8 empty (List.replicate 8 true)) :=
  (writeBits_spec (by decide) _ (inv_empty 8)).1

/-- a history with inspections directly after a word boundary and on the empty coder -/
example :
    noFault (run (Stack.step 8) [SOp.len, .getCompressed, .encode (.ok (List.replicate 8 true)),
      .getCompressed, .iter, .write false, .isEmpty, .read, .read] empty).1 := by
  unfold noFault
  decide +kernel

end CV.Bits.C08

#print axioms CV.Bits.C08.stack_guard_noop
#print axioms CV.Bits.C08.queue_guard_noop
#print axioms CV.Bits.C08.iter_pure
#print axioms CV.Bits.C08.observers_factor_through_bits
#print axioms CV.Bits.C08.step_factors_through_bits
#print axioms CV.Bits.C08.inspect_erasure
#print axioms CV.Bits.C08.queue_inspect_erasure
