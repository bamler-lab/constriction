import CV.Proofs.QuantExamples
/-!
# C09 (component `quant`): impossible symbols are rejected by the float-derived models

`left_cumulative_and_probability` returns `None` for every symbol outside the declared support,
for **every** value of the symbol type, and the test precedes any narrowing conversion:

* lazy and eager categorical models compare the `usize` index with the table length;
* the leakily quantised model compares in `Symbol` (`symbol < min || symbol > max`) — symbols
  are integers in the model, so "every value of the symbol type" is "every integer";
* a support that does not fit `Probability` cannot be created at all (`C09_leaky_no_wide_support`,
  D10), so no in-support symbol can alias an out-of-support one after narrowing.

`C09_{lazy,eager,leaky}_out_of_support` are the first test of the respective model function: the
range test precedes everything else, so they hold for arbitrary tables / distributions, with the
result `.ok none`, not merely "no `some`".  That every in-support symbol is encodable and that no
aliasing support can be constructed is `C09_leaky_in_support` / `C09_leaky_no_wide_support` (and
C03 for the categorical models).

(The coders' part of C09 — a failed encode leaves the coder intact — is in `C09_ans`, `C09_range`,
`C09_chain`.)  Label: **full**.
-/
namespace CV.Quant
open CV

/-- **C09, lazy categorical model** (no hypothesis on the float pipeline is needed) -/
theorem C09_lazy_out_of_support {B P n free : Nat} {h : Nat → Nat} {s : Nat} (hs : n ≤ s) :
    lazyEnc B P n free h s = .ok none := by
  unfold lazyEnc; rw [if_pos hs]

/-- **C09, eager categorical model built by `…_fast`** -/
theorem C09_eager_out_of_support {B : Nat} {cdf : List Nat} {s : Nat} (hs : cdf.length - 1 ≤ s) :
    eagerEnc B cdf s = .ok none := by
  unfold eagerEnc; rw [if_pos hs]

example : lazyEnc 16 12 4 4092 exH (2 ^ 32 + 3) = .ok none := C09_lazy_out_of_support (by decide)

/-- **C09, leakily quantised model**: zero probability outside `[min, max]`, whatever the
    distribution (`gl`, `gr` arbitrary, even faulty) -/
theorem C09_leaky_out_of_support {m : LQ} {gl gr : Ext} {s : Int} (hs : s < m.min ∨ s > m.max) :
    m.enc gl gr s = .ok none := by
  unfold LQ.enc; rw [if_pos hs]

example : exLQ.enc (extL exG) (extR exG) 4 = .ok none := C09_leaky_out_of_support (by decide)
example : exLQ.enc (extL exG) (extR exG) (-128) = .ok none := C09_leaky_out_of_support (by decide)

/-- … and conversely every symbol of the support is encodable (leakiness) -/
theorem C09_leaky_in_support {m : LQ} {g : Int → Nat} (ok : m.Ok) (gk : GOk m g) {s : Int}
    (h1 : m.min ≤ s) (h2 : s ≤ m.max) :
    ∃ c p, m.enc (extL g) (extR g) s = .ok (some (c, p)) ∧ 0 < p := by
  exact ⟨leftQ m g s, widthQ m g s, enc_in ok gk h1 h2, (widthQ_bounds ok gk h1 h2).1⟩

example : ∃ c p, exLQ.enc (extL exG) (extR exG) 3 = .ok (some (c, p)) ∧ 0 < p :=
  C09_leaky_in_support exLQ_ok exG_ok (by decide) (by decide)

/-- **C09 / D10**: `LeakyQuantizer::new` refuses every support with more than `2^P` elements
    (in particular wider than `2^B`): the size is compared in a wide type, before narrowing -/
theorem C09_leaky_no_wide_support {t : SymTy} {B P : Nat} {min max : Int} (hPB : P ≤ B)
    (h : 2 ^ P < (max - min).toNat + 1) : ∃ f, LQ.new t B P min max = .error f :=
  LQ.new_rejects hPB (by omega)

example : ∃ f, LQ.new ⟨32, true⟩ 16 12 0 65541 = .error f :=
  C09_leaky_no_wide_support (by decide) (by decide)

end CV.Quant

#print axioms CV.Quant.C09_lazy_out_of_support
#print axioms CV.Quant.C09_eager_out_of_support
#print axioms CV.Quant.C09_leaky_out_of_support
#print axioms CV.Quant.C09_leaky_in_support
#print axioms CV.Quant.C09_leaky_no_wide_support
