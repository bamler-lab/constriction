import CV.Proofs.HuffMain
/-!
# C20 (Huffman part) — the unsafe-block obligations of `src/symbol/huffman.rs`

Property theorems only.  The file has four `get_unchecked` sites; each is a `Fault.ub` branch of
the Impl model (`CV/Model/Huff.lean`):

* `huff.enc.new.index0`, `huff.enc.new.index1` — `nodes.get_unchecked_mut(index0/1)` in
  `EncoderHuffmanTree::try_from_probabilities`;
* `huff.suffix.get_unchecked` — `self.nodes.get_unchecked(node_index)` in `encode_symbol_suffix`;
* `huff.decode.get_unchecked` — `self.nodes.get_unchecked(node_index - num_symbols)` in
  `decode_symbol`.

The theorems say that no input reaches them, for **every** weight type (`WeightOps`: any order,
any addition): checked integers (sums that overflow panic before indexing), **wrapping**
integers (`wrappingOps n`: a release build, where `prob0 + prob1` wraps silently — nothing here
is "only correct because release wraps", and nothing becomes unsafe when it does), floats whose
sums round or become infinite.  The constructors are total functions of every weight list
(empty, too long); the walks are stated for every tree a constructor can return, every symbol
value and every bit source.  (`EncoderHuffmanTree`/`DecoderHuffmanTree` have private fields and
no other constructor, so "every tree a constructor can return" is every tree safe code can hold.)
-/
namespace CV.Huff.C20
open CV CV.Huff

variable {α : Type} (ops : WeightOps α)

/-- constructor sites: unreachable for every weight list and every weight type -/
theorem constructors_no_ub (ws : List α) (site : String) :
    encTree ops ws ≠ .error (.ub site) ∧ decTree ops ws ≠ .error (.ub site) :=
  ⟨encTree_no_ub ops ws site, decTree_no_ub ops ws site⟩

/-- the same through `try_from_probabilities` / `from_float_probabilities` (NaN / `Err` items) -/
theorem try_constructors_no_ub (ws : List (Option α)) (site : String) :
    tryEncTree ops ws ≠ .error (.fault (.ub site)) ∧
      tryDecTree ops ws ≠ .error (.fault (.ub site)) :=
  ⟨fun h => (tryEncTree_fault h).elim fun v hv => encTree_no_ub ops v site hv,
    fun h => (tryDecTree_fault h).elim fun v hv => decTree_no_ub ops v site hv⟩

variable {ops}

/-- `encode_symbol_suffix` / `encode_symbol_prefix` on a constructed tree: for *every* symbol
value the result is a codeword or `ImpossibleSymbol` — never a fault (no out-of-bounds index,
and the unbounded `loop` terminates) -/
theorem encode_no_fault {ws : List α} {en : List Nat} (hen : encTree ops ws = .ok en)
    (s : Nat) (f : Fault) :
    encodeSuffix en s ≠ .error (.fault f) ∧ encodePrefix en s ≠ .error (.fault f) := by
  obtain ⟨dn, T, _, _, B⟩ := built_of_enc hen
  rcases Nat.lt_or_ge s ws.length with hs | hs
  · obtain ⟨w, hpre, hsuf⟩ := B.accepts hs
    rw [hpre, hsuf]
    exact ⟨nofun, nofun⟩
  · rw [(B.rejects hs).1, (B.rejects hs).2]
    exact ⟨nofun, nofun⟩

/-- `decode_symbol` on a constructed tree, for *every* bit source (arbitrary bits, truncated,
failing): a symbol of the alphabet, `OutOfCompressedData`, or the source's error — never a
fault.  (`ws.length ≤ usize::MAX / 4`: a `Vec` of more elements cannot exist.) -/
theorem decode_no_fault {ws : List α} {dn : List (Nat × Nat)} (hdn : decTree ops ws = .ok dn)
    (hmax : ws.length ≤ usizeMax / 4) (src : List (Option Bool)) :
    (∃ s rest, decode dn src = .ok (s, rest) ∧ s < ws.length) ∨
      decode dn src = .error .outOfData ∨ decode dn src = .error .backend := by
  obtain ⟨en, T, _, _, B⟩ := built_of_dec hdn hmax
  rcases B.decode_total src with ⟨s, p, rest, h1, h2, _, _⟩ | h | h
  · exact Or.inl ⟨s, rest, h1, h2⟩
  · exact Or.inr (Or.inl h)
  · exact Or.inr (Or.inr h)

/-- non-vacuity -/
example : decTree (checkedOps 32) [2, 2, 4, 1, 1] = .ok [(3, 4), (0, 1), (5, 2), (6, 7)] := by rfl
example : encTree (checkedOps 8) [200, 100] = .error (.overflow "huff.add") := by rfl
example : encTree (wrappingOps 8) [200, 100] = .ok [5, 4, 0] := by rfl
example : decode [(3, 4), (0, 1), (5, 2), (6, 7)] [some true, some false] = .error .outOfData := by
  rfl

end CV.Huff.C20

#print axioms CV.Huff.C20.constructors_no_ub
#print axioms CV.Huff.C20.try_constructors_no_ub
#print axioms CV.Huff.C20.encode_no_fault
#print axioms CV.Huff.C20.decode_no_fault
