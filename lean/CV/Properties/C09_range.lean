import CV.Proofs.RangeExamples
import CV.Proofs.RangeInspect
/-!
# C09 — Impossible symbols are rejected and leave the range encoder intact (component `range`)

The model functions are pure: `encode` returns *either* a new encoder *or* an error, so an
error result carries no encoder — the caller still holds the encoder it passed in, bit for
bit.  (In the Rust code the model lookup `left_cumulative_and_probability(..).ok_or_else(..)?`
precedes every assignment to `self`; the correspondence runs compare the raw parts after
every `encnone` op and the oracle after every out-of-support attempt.)

**Scope:** "coder intact after a failed call" is about `ImpossibleSymbol` only.  A failed
*backend write* may leave `range` updated (`queue.rs:572` assigns `self.state.range` before the
writes at 592/629); the modelled backend is a `Vec`, whose writes cannot fail, and C09 requires
write-failure atomicity only of the ANS coder.  `Fits`/`MsgFits`: head-room of the 64-bit
`usize` counters (see C02_range).
-/
namespace CV.Range

/-- **C09**: a symbol of probability zero is rejected with `ImpossibleSymbol` in every encoder
    state whatsoever; no new encoder is produced -/
theorem C09_range_impossible_rejected {Sym : Type} (c : Cfg) (m : Model Sym) (e : Encoder)
    (s : Sym) (hs : m.enc s = none) : encode c m s e = .error .impossible :=
  encode_impossible hs

/-- conversely, on states satisfying the invariant `ImpossibleSymbol` is returned *only* for
    such symbols: the code's second `ImpossibleSymbol` exit (`scale · probability = 0`) is dead -/
theorem C09_range_impossible_iff {Sym : Type} {c : Cfg} (hc : RValid c) {m : Model Sym}
    (hm : m.WellFormed c.P) {e : Encoder} (hI : Inv c e) (hf : Fits c e 1) (s : Sym) :
    encode c m s e = .error .impossible ↔ m.enc s = none := by
  refine ⟨fun h => ?_, encode_impossible⟩
  cases hs : m.enc s with
  | none => rfl
  | some cp =>
    obtain ⟨e', he', _⟩ := encode_ok hc hm hI hf (cum := cp.1) (p := cp.2) hs
    rw [he'] at h; cases h

/-- **history level**: the caller carries on with the same encoder after each rejection; the
    rejected attempts can be erased -/
theorem C09_range_attempts_erasure {Sym : Type} {c : Cfg} (xs : List (MStep Sym)) (e : Encoder)
    (hI : Inv c e) (hf : Fits c e (xs.filter MStep.possible).length)
    (hv : ∀ x ∈ xs, x.DecValid c) :
    encodeAttempts c e xs = encodeMsg c e (xs.filter MStep.possible) :=
  attempts_erasure xs e hI hf hv

/-- … hence everything encoded before, between and after rejected attempts still round-trips -/
theorem C09_range_roundtrip_after_rejections {Sym : Type} {c : Cfg} (hc : RValid c)
    (xs : List (MStep Sym)) (hn : MsgFits c (xs.filter MStep.possible).length)
    (hv : ∀ x ∈ xs, x.DecValid c) :
    ∃ e ws d0 d, encodeAttempts c (Encoder.empty c) xs = .ok e ∧
      intoCompressed c e = .ok ws ∧
      Decoder.fromCompressed c ws = .ok d0 ∧
      decodeMsg c d0 (xs.filter MStep.possible)
        = .ok ((xs.filter MStep.possible).map (·.sym), d) ∧
      d.maybeExhausted c = .ok true := by
  have hvalid : ∀ x ∈ xs.filter MStep.possible, x.Valid c := by
    intro x hx
    obtain ⟨h1, h2⟩ := List.mem_filter.mp hx
    exact MStep.valid_of_possible (hv x h1) h2
  obtain ⟨e, ws, d0, d, h1, h2, h3, h4, h5, _⟩ := roundtrip hc _ hn hvalid
  refine ⟨e, ws, d0, d, ?_, h2, h3, h4, h5⟩
  rw [attempts_erasure xs _ (inv_empty hc) (fits_empty hn) hv]; exact h1

/-- **batch forms** (`encode_symbols`, `try_encode_symbols`, `encode_iid_symbols`): an `Err` item
    or an impossible symbol stops the batch, and the encoder is exactly the one the prefix left -/
theorem C09_range_batch_partway_keeps_prefix {Sym : Type} (c : Cfg) (pre : List (Sym × Model Sym))
    (e ePre : Encoder) (h : encodeSymbols c e (pre.map some) = (ePre, .ok ()))
    (rest : List (Option (Sym × Model Sym))) :
    encodeSymbols c e (pre.map some ++ none :: rest) = (ePre, .error .model) ∧
    ∀ s m, m.enc s = none →
      encodeSymbols c e (pre.map some ++ some (s, m) :: rest)
        = (ePre, .error (.coding .impossible)) := by
  induction pre generalizing e with
  | nil =>
    simp only [List.map_nil, encodeSymbols] at h
    cases h
    refine ⟨rfl, ?_⟩
    intro s m hs
    simp only [List.map_nil, List.nil_append, encodeSymbols, encode_impossible hs]
  | cons a pre ih =>
    obtain ⟨s0, m0⟩ := a
    simp only [List.map_cons, encodeSymbols] at h
    cases h0 : encode c m0 s0 e with
    | error err => rw [h0] at h; cases h
    | ok e1 =>
      rw [h0] at h
      simp only at h
      obtain ⟨h1, h2⟩ := ih e1 h
      refine ⟨?_, ?_⟩
      · simp only [List.map_cons, List.cons_append, encodeSymbols, h0]; exact h1
      · intro s m hs
        simp only [List.map_cons, List.cons_append, encodeSymbols, h0]; exact h2 s m hs

/-! non-vacuity: symbol 0 of `cutModel 0 3 4`-style models has an empty interval; symbol 7 is
outside every `cutModel`; rejected while the encoder holds back a word -/
example : (cutModel 127 129 256).enc 7 = none := rfl
example : (cutModel 0 129 256).enc 0 = none := rfl
example : encode exCfg (cutModel 127 129 256) 7 exInverted = .error .impossible := rfl
example : Inv exCfg exInverted := exInverted_inv
example : ∀ x ∈ (exMsg.take 2 ++ [{ B := 8, P := 8, model := cutModel 0 129 256, sym := 0 }]
    ++ exMsg.drop 2 : List (MStep Nat)), x.DecValid exCfg := by
  intro x hx
  simp only [List.mem_append, List.mem_cons, List.mem_nil_iff, or_false] at hx
  rcases hx with (h | rfl) | h
  · exact (exMsg_valid x (List.mem_of_mem_take h)).decValid
  · exact ⟨by decide, cutModel_wf (P := 8) (by decide)⟩
  · exact (exMsg_valid x (List.mem_of_mem_drop h)).decValid

end CV.Range

#print axioms CV.Range.C09_range_impossible_rejected
#print axioms CV.Range.C09_range_impossible_iff
#print axioms CV.Range.C09_range_attempts_erasure
#print axioms CV.Range.C09_range_roundtrip_after_rejections
#print axioms CV.Range.C09_range_batch_partway_keeps_prefix
