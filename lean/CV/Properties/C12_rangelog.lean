import CV.Properties.C12_range
import CV.Proofs.LogBound
import Mathlib.Tactic.Ring
/-!
# C12 (range coder) — logarithmic form of the size bound

`C12_range_size_bound_S` is multiplicative on naturals; here it is converted once to
`num_bits ≤ Σ log2(2^P_i/p_i) + Σ log2(1 + 2^-(S-W-P_i)) + S + 2W`, with the same rounding term as
the stack coder (`CV.LogBound`).
-/
namespace CV.Range
open CV.LogBound

/-- `(p, P, k)` summaries of the reference-coder steps `(P, cum, p)` -/
def summaries (c : Cfg) (l : List (Nat × Nat × Nat)) : List (ℕ × ℕ × ℕ) :=
  l.map (fun e => (e.2.2, e.1, c.S - c.W - e.1))

theorem sizeA_eq (c : Cfg) (l : List (Nat × Nat × Nat)) :
    sizeA c l = prodP (summaries c l) * prodK (summaries c l) := by
  induction l with
  | nil => simp [sizeA, summaries, prodP, prodK]
  | cons e l ih =>
    obtain ⟨P, cum, p⟩ := e
    simp only [sizeA, summaries, List.map_cons, prodP, prodK] at ih ⊢
    rw [ih]; ring

theorem sizeB_eq (c : Cfg) (l : List (Nat × Nat × Nat)) :
    sizeB c l = prodPrec (summaries c l) * prodK1 (summaries c l) := by
  induction l with
  | nil => simp [sizeB, summaries, prodPrec, prodK1]
  | cons e l ih =>
    obtain ⟨P, cum, p⟩ := e
    simp only [sizeB, summaries, List.map_cons, prodPrec, prodK1] at ih ⊢
    rw [ih]; ring

/-- **C12, range coder, logarithmic form.** -/
theorem C12_range_size_bound_log {Sym : Type} {c : Cfg} (hc : RValid c) (msg : List (MStep Sym))
    (hn : MsgFits c msg.length) (hv : ∀ x ∈ msg, x.Valid c) :
    ∃ e nb, encodeMsg c (Encoder.empty c) msg = .ok e ∧ numBits c e = .ok nb ∧
      (nb : ℝ) ≤ info (summaries c (msg.map MStep.spec)) + rounding (summaries c (msg.map MStep.spec))
        + (c.S + 2 * c.W : ℕ) := by
  obtain ⟨e, nb, he, hnb, hle⟩ := C12_range_size_bound_S hc msg hn hv
  refine ⟨e, nb, he, hnb, ?_⟩
  rw [sizeA_eq, sizeB_eq] at hle
  have hp : ∀ s ∈ summaries c (msg.map MStep.spec), 0 < s.1 := by
    intro s hs
    simp only [summaries, List.mem_map] at hs
    obtain ⟨t, ⟨x, hx, rfl⟩, rfl⟩ := hs
    exact (MStep.Valid.cp_ok (hv x hx)).1
  exact log_bound_two_pow nb _ _ hp (by rwa [← Nat.mul_assoc, ← Nat.mul_assoc] at hle)

end CV.Range

#print axioms CV.Range.C12_range_size_bound_log
#print axioms CV.Range.sizeA_eq
#print axioms CV.Range.sizeB_eq
