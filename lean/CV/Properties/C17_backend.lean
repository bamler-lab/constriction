import CV.Proofs.Backend
import CV.Proofs.BackendMisc
/-!
# C17 — word sources and sinks honour their read/write/bounds/position contracts
(component `backend`: `src/backends.rs` after the repairs D11 `7b329fc`, D12 `ca8abce`)

All statements are about the Impl model `CV.Backend` (`Cur.step`/`Cur.run` for `Cursor` and
`Reverse<Cursor>` over any buffer type, `Backend.step`/`Backend.run` for `Vec`, `SmallVec`,
the iterator and callback adapters) — the functions the correspondence driver executes.
Words are arbitrary naturals, so every statement holds for every `Word` type.
`s.Inv` is the documented invariant `pos ≤ buf.len()`; `C17_cursor_inv_preserved` shows that
every trait method preserves it, the constructors establish it (`C17_constructors_inv`).

Clause "positions reported can be sought back to": for `Cursor` / `Reverse<Cursor>` it holds
at any later time (`C17_cursor_seek_back_history`; the buffer length never changes), reads
after the seek return what the buffer holds there (`C17_cursor_reads_view`), and intervening
writes overwrite those cells (`C17_cursor_write_overwrites`).  For `Vec` / `SmallVec` the
clause holds only for seeking *back* after appends (`C17_vec_seek_back`); seeking forward to a
position whose words have been read is refused (`C17_vec_seek_forward_refused`): `Vec::seek`
is `truncate` and reads pop — the documented stack semantics, not a defect.

`C17_smallvec_refines_vec` is true by construction: the `SmallVec` model *is* the `Vec` model
plus the `spilled` flag, because `backends.rs` implements the traits for both by the same
`push`/`pop`/`truncate`/`len` calls.  That the real `SmallVec` behaves like the real `Vec`
(including across the inline-capacity boundary, lengths 3/4/5 with `N = 4`) is established by
the correspondence and the oracles only, not by a theorem.
-/
namespace CV.Backend.C17

/-! ## `Cursor` and `Reverse<Cursor>` -/

/-- constructors establish the invariant (`new_at_pos` refuses exactly `pos > len`) -/
theorem C17_constructors_inv (buf : List Nat) (p : Nat) :
    (Cursor.newAtWriteBeginning buf).Inv ∧ (Cursor.newAtWriteEnd buf).Inv ∧
    (Cursor.newAtPos buf p = none ↔ p > buf.length) ∧
    (∀ c, Cursor.newAtPos buf p = some c → c.Inv ∧ c = ⟨buf, p⟩) := by
  refine ⟨Nat.zero_le _, Nat.le_refl _, ?_, ?_⟩
  · by_cases h : p > buf.length <;> simp [Cursor.newAtPos, h]
  · intro c hc
    by_cases h : p > buf.length
    · simp [Cursor.newAtPos, h] at hc
    · simp [Cursor.newAtPos, h] at hc
      subst hc
      exact ⟨by simp [Cursor.Inv]; omega, rfl⟩

/-- every trait method (everything except handing out `buf_mut`) preserves `pos ≤ len` and
    returns normally, along every history -/
theorem C17_cursor_inv_preserved (wr : Bool) (s : Cur) (hI : s.Inv) (ops : List Op)
    (h : ∀ op ∈ ops, ∀ ws, op ≠ .bmSet ws) :
    ∃ outs s', Cur.run wr s ops = (outs, .ok s') ∧ s'.Inv ∧ outs.length = ops.length :=
  let ⟨outs, s', h1, h2, h3, _⟩ := Cur.run_ok wr ops s hI h
  ⟨outs, s', h1, h2, h3⟩

example : ∃ outs s', Cur.run true (.fwd ⟨[1, 2, 3], 1⟩)
      [.readS, .write 9, .intoReversed, .readQ, .seek 7, .extend [4, 5, 6]] = (outs, .ok s') ∧
    s'.Inv ∧ outs.length = 6 :=
  C17_cursor_inv_preserved true _ (by decide) _
    (fun op h ws e => by subst e; simp at h)

/-- **stack reads return writes in reverse**: `k ≤ space_left` writes then `k` stack reads -/
theorem C17_cursor_lifo (s : Cur) (hI : s.Inv) (n : Nat) (ws : List Nat)
    (hsp : Cur.step true s .spaceLeft = .ok (.num n, s)) (hle : ws.length ≤ n) :
    ∃ s', Cur.run true s (ws.map Op.write ++ List.replicate ws.length Op.readS) =
        (List.replicate ws.length Out.ok ++ ws.reverse.map (fun w => Out.word (some w)), .ok s')
      ∧ s'.Inv ∧ s'.inner.pos = s.inner.pos ∧ s'.inner.buf.length = s.inner.buf.length := by
  obtain ⟨rev, z, rfl⟩ := Cur.exists_ofZ s hI
  rw [Cur.spaceLeft_ofZ] at hsp
  cases hsp
  have hr := Cur.run_readS_ofZ true rev ws.reverse z.stk (z.ahd.drop ws.length)
  rw [List.length_reverse, List.reverse_reverse] at hr
  have hlen := length_append_drop hle
  refine ⟨Cur.ofZ rev ⟨z.stk, ws ++ z.ahd.drop ws.length⟩, ?_, Cur.ofZ_inv _ _,
    Cur.ofZ_same_shape rev rfl hlen⟩
  rw [Cur.run_append, Cur.run_writes_ofZ rev ws z hle]
  simp only [hr]

example :=
  C17_cursor_lifo (.rev ⟨⟨[1, 2, 3, 4], 3⟩⟩) (by simp [Cur.Inv, Cur.inner, Cursor.Inv]) 3 [7, 8] rfl
    (by decide)

/-- **queue reads return writes in order**: writes, seek back to the reported position, reads -/
theorem C17_cursor_fifo (s : Cur) (hI : s.Inv) (n p : Nat) (ws : List Nat)
    (hsp : Cur.step true s .spaceLeft = .ok (.num n, s)) (hle : ws.length ≤ n)
    (hp : Cur.step true s .pos = .ok (.num p, s)) :
    ∃ s', Cur.run true s (ws.map Op.write ++ ([Op.seek p] ++ List.replicate ws.length Op.readQ)) =
        (List.replicate ws.length Out.ok ++ ([Out.ok] ++ ws.map (fun w => Out.word (some w))), .ok s')
      ∧ s'.Inv := by
  obtain ⟨rev, z, rfl⟩ := Cur.exists_ofZ s hI
  rw [Cur.spaceLeft_ofZ] at hsp
  cases hsp
  rw [Cur.pos_ofZ] at hp
  cases hp
  -- the seek undoes the move of `ws` from the queue side to the stack side
  have hseek : Cur.step true (Cur.ofZ rev ⟨ws.reverse ++ z.stk, z.ahd.drop ws.length⟩)
      (.seek (posOf rev z)) = .ok (.ok, Cur.ofZ rev ⟨z.stk, ws ++ z.ahd.drop ws.length⟩) := by
    have hlen := length_append_drop hle
    rw [← Cur.inner_pos_ofZ,
      ← (Cur.ofZ_same_shape rev (z := z) (z' := ⟨z.stk, ws ++ z.ahd.drop ws.length⟩) rfl hlen).1,
      Cur.inner_pos_ofZ]
    refine Cur.seek_ofZ true rev _ _ ?_
    cases rev <;> simp [Cur.ofZ, Cur.inner, RevCursor.ofZ, Cursor.ofZ, Z.swap]
  refine ⟨Cur.ofZ rev ⟨ws.reverse ++ z.stk, z.ahd.drop ws.length⟩, ?_, Cur.ofZ_inv _ _⟩
  rw [Cur.run_append, Cur.run_writes_ofZ rev ws z hle]
  simp only [List.singleton_append, Cur.run_cons_ok hseek, Cur.run_readQ_ofZ]

example :=
  C17_cursor_fifo (.fwd ⟨[1, 2, 3, 4], 1⟩) (by simp [Cur.Inv, Cur.inner, Cursor.Inv]) 3 1 [7, 8] rfl
    (by decide) rfl

/-- **after the first end-of-data every read is end-of-data** (either semantics; no
    invariant needed) -/
theorem C17_cursor_fused (wr : Bool) (op : Op) (hop : op = .readS ∨ op = .readQ) (s s' : Cur)
    (h : Cur.step wr s op = .ok (.word none, s')) (m : Nat) :
    Cur.run wr s' (List.replicate m op) = (List.replicate m (Out.word none), .ok s') :=
  Cur.fused wr op hop s s' h m

example : Cur.run false (.fwd ⟨[1, 2], 2⟩) (List.replicate 3 .readQ) =
    (List.replicate 3 (Out.word none), .ok (.fwd ⟨[1, 2], 2⟩)) :=
  C17_cursor_fused false .readQ (Or.inr rfl) (.fwd ⟨[1, 2], 2⟩) _ rfl 3

/-- **`remaining` = number of reads that will succeed** (`Stack` semantics) -/
theorem C17_cursor_remaining_stack_exact (wr : Bool) (s : Cur) (hI : s.Inv) (n : Nat)
    (h : Cur.step wr s .remS = .ok (.num n, s)) (m : Nat) :
    ∃ (vs : List Nat) (s' : Cur), vs.length = n ∧ s'.Inv ∧
      Cur.run wr s (List.replicate (n + m) Op.readS) =
        (vs.map (fun w => Out.word (some w)) ++ List.replicate m (Out.word none), .ok s') := by
  obtain ⟨rev, z, rfl⟩ := Cur.exists_ofZ s hI
  rw [Cur.remS_ofZ] at h
  cases h
  exact ⟨z.stk, _, rfl, Cur.ofZ_inv _ _, Cur.run_readS_all wr rev z m⟩

/-- **`remaining` = number of reads that will succeed** (`Queue` semantics) -/
theorem C17_cursor_remaining_queue_exact (wr : Bool) (s : Cur) (hI : s.Inv) (n : Nat)
    (h : Cur.step wr s .remQ = .ok (.num n, s)) (m : Nat) :
    ∃ (vs : List Nat) (s' : Cur), vs.length = n ∧ s'.Inv ∧
      Cur.run wr s (List.replicate (n + m) Op.readQ) =
        (vs.map (fun w => Out.word (some w)) ++ List.replicate m (Out.word none), .ok s') := by
  obtain ⟨rev, z, rfl⟩ := Cur.exists_ofZ s hI
  rw [Cur.remQ_ofZ] at h
  cases h
  exact ⟨z.ahd, _, rfl, Cur.ofZ_inv _ _, Cur.run_readQ_all wr rev z m⟩

example :=
  C17_cursor_remaining_stack_exact false (.rev ⟨⟨[1, 2, 3, 4], 1⟩⟩)
    (by simp [Cur.Inv, Cur.inner, Cursor.Inv]) 3 rfl 2

/-- **`space_left` = number of writes that will succeed** — for `Cursor` and, after the D11
    repair, for `Reverse<Cursor>` -/
theorem C17_cursor_space_left_exact (s : Cur) (hI : s.Inv) (n : Nat)
    (h : Cur.step true s .spaceLeft = .ok (.num n, s)) (ws : List Nat) (hlen : ws.length = n)
    (w : Nat) :
    ∃ s', s'.Inv ∧
      Cur.run true s (ws.map Op.write ++ [Op.write w]) =
        (List.replicate n Out.ok ++ [Out.full], .ok s') := by
  obtain ⟨rev, z, rfl⟩ := Cur.exists_ofZ s hI
  rw [Cur.spaceLeft_ofZ] at h
  cases h
  refine ⟨Cur.ofZ rev ⟨ws.reverse ++ z.stk, []⟩, Cur.ofZ_inv _ _, ?_⟩
  rw [Cur.run_append, Cur.run_writes_ofZ rev ws z (Nat.le_of_eq hlen), hlen, List.drop_length]
  simp only [Cur.run_cons_ok (Cur.write_full_ofZ rev w _)]
  rfl

/-- the instance of D11: buffer of 8 words, `pos = 3` -/
example : ∃ s', s'.Inv ∧
    Cur.run true (.rev ⟨⟨List.replicate 8 0, 3⟩⟩) ([7, 7, 7].map Op.write ++ [Op.write 7]) =
      (List.replicate 3 Out.ok ++ [Out.full], .ok s') :=
  C17_cursor_space_left_exact (.rev ⟨⟨List.replicate 8 0, 3⟩⟩)
    (by decide) 3 rfl [7, 7, 7] rfl 7

/-- the failed obligation before the D11 repair: `space_left` said 8 where 3 writes succeed -/
theorem C17_d11_legacy_counterexample :
    ∃ r : RevCursor, r.inner.Inv ∧ r.spaceLeftLegacy = 8 ∧
      (Cur.run true (.rev r) (List.replicate 4 (Op.write 7))).1 = [.ok, .ok, .ok, .full] :=
  ⟨⟨⟨List.replicate 8 0, 3⟩⟩, by simp [Cursor.Inv], rfl, rfl⟩

/-- `space_left`, `remaining`, `pos` always answer under the invariant -/
theorem C17_cursor_queries_total (s : Cur) (hI : s.Inv) :
    (∃ n, Cur.step true s .spaceLeft = .ok (.num n, s)) ∧
    (∃ n, Cur.step true s .remS = .ok (.num n, s)) ∧
    (∃ n, Cur.step true s .remQ = .ok (.num n, s)) ∧
    (∃ p, Cur.step true s .pos = .ok (.num p, s)) := by
  obtain ⟨rev, z, rfl⟩ := Cur.exists_ofZ s hI
  exact ⟨⟨_, Cur.spaceLeft_ofZ rev z⟩, ⟨_, Cur.remS_ofZ true rev z⟩, ⟨_, Cur.remQ_ofZ true rev z⟩,
    ⟨_, Cur.pos_ofZ true rev z⟩⟩

/-- **positions reported can be sought back to** -/
theorem C17_cursor_seek_pos (wr : Bool) (s : Cur) (hI : s.Inv) (p : Nat)
    (hp : Cur.step wr s .pos = .ok (.num p, s)) :
    Cur.step wr s (.seek p) = .ok (.ok, s) := by
  obtain ⟨rev, z, rfl⟩ := Cur.exists_ofZ s hI
  rw [Cur.pos_ofZ] at hp
  cases hp
  exact Cur.seek_ofZ wr rev z z rfl

/-- **out-of-range positions are refused** (exactly those), leaving the state unchanged -/
theorem C17_cursor_seek_refused_iff (wr : Bool) (s : Cur) (q : Nat) :
    Cur.step wr s (.seek q) = .ok (.err, s) ↔ q > s.inner.buf.length := by
  refine ⟨fun h => ?_, Cur.step_seek_gt wr s q⟩
  rcases Nat.lt_or_ge s.inner.buf.length q with hq | hq
  · exact hq
  · rw [Cur.step_seek_le wr s q hq] at h; cases h

theorem C17_cursor_seek_accepted (wr : Bool) (s : Cur) (q : Nat) (h : q ≤ s.inner.buf.length) :
    ∃ s', Cur.step wr s (.seek q) = .ok (.ok, s') ∧ s'.inner.pos = q ∧
      s'.inner.buf = s.inner.buf ∧ s'.Inv := by
  refine ⟨s.setPos q, Cur.step_seek_le wr s q h, ?_⟩
  cases s <;> exact ⟨rfl, rfl, h⟩

example : Cur.step true (.fwd ⟨[1, 2, 3], 1⟩) (.seek 4) = .ok (.err, .fwd ⟨[1, 2, 3], 1⟩) :=
  (C17_cursor_seek_refused_iff true _ 4).mpr (by decide)

/-- the buffer length is constant along every history of trait methods -/
theorem C17_cursor_len_constant (wr : Bool) (ops : List Op) (s : Cur) (hI : s.Inv)
    (hops : ∀ op ∈ ops, ∀ ws, op ≠ .bmSet ws) :
    ∃ outs s', Cur.run wr s ops = (outs, .ok s') ∧ s'.Inv ∧
      s'.inner.buf.length = s.inner.buf.length :=
  let ⟨outs, s', h1, h2, _, h4⟩ := Cur.run_ok wr ops s hI hops
  ⟨outs, s', h1, h2, h4⟩

/-- **history form**: a position `p` reported at any point stays acceptable to `seek` after any
    later history of trait methods (reads with either semantics, writes, `extend_from_iter`,
    seeks, `into_reversed`, queries), because no trait method changes the buffer length; the
    seek sets exactly `p` and leaves the buffer as the history left it -/
theorem C17_cursor_seek_back_history (wr : Bool) (s : Cur) (hI : s.Inv) (p : Nat)
    (hp : Cur.step wr s .pos = .ok (.num p, s)) (ops : List Op)
    (hops : ∀ op ∈ ops, ∀ ws, op ≠ .bmSet ws) :
    ∃ outs s1 s2, Cur.run wr s ops = (outs, .ok s1) ∧
      Cur.step wr s1 (.seek p) = .ok (.ok, s2) ∧
      s2.inner.pos = p ∧ s2.inner.buf = s1.inner.buf ∧ s2.Inv := by
  have hple : p ≤ s.inner.buf.length := by
    cases s
    · cases hp
      exact hI
    · cases hp
      exact hI
  obtain ⟨outs, s1, h1, _, hl⟩ := C17_cursor_len_constant wr ops s hI hops
  obtain ⟨s2, h2, h3, h4, h5⟩ := C17_cursor_seek_accepted wr s1 p (hl ▸ hple)
  exact ⟨outs, s1, s2, h1, h2, h3, h4, h5⟩

example := C17_cursor_seek_back_history true (.fwd ⟨[1, 2, 3, 4], 2⟩)
  (by simp [Cur.Inv, Cur.inner, Cursor.Inv]) 2 rfl
  [.readS, .write 9, .write 8, .seek 0, .readQ, .intoReversed, .extend [5, 6, 7]] (by simp)

/-- **what reads return after a seek (or at any time)**: exactly the words the buffer holds
    below the position going down (`Stack`) / from the position going up (`Queue`) — for a
    `Reverse<Cursor>` the two swap — and `Ok(None)` afterwards -/
theorem C17_cursor_reads_view (wr : Bool) (s : Cur) (hI : s.Inv) (m : Nat) :
    (Cur.run wr s (List.replicate (s.stackView.length + m) Op.readS)).1 =
      s.stackView.map (fun w => Out.word (some w)) ++ List.replicate m (Out.word none) ∧
    (Cur.run wr s (List.replicate (s.queueView.length + m) Op.readQ)).1 =
      s.queueView.map (fun w => Out.word (some w)) ++ List.replicate m (Out.word none) := by
  obtain ⟨rev, z, rfl⟩ := Cur.exists_ofZ s hI
  rw [(Cur.views_ofZ rev z).1, (Cur.views_ofZ rev z).2, Cur.run_readS_all, Cur.run_readQ_all]
  exact ⟨rfl, rfl⟩

example : (Cur.run false (.fwd ⟨[1, 2, 3, 4], 3⟩) (List.replicate (3 + 1) Op.readS)).1 =
    [.word (some 3), .word (some 2), .word (some 1), .word none] :=
  (C17_cursor_reads_view false (.fwd ⟨[1, 2, 3, 4], 3⟩) (by decide) 1).1

/-- later **writes overwrite**: a write replaces the cell at the position (`pos` for a `Cursor`,
    `pos − 1` for a `Reverse<Cursor>`), so a seek back followed by a read shows the new word -/
theorem C17_cursor_write_overwrites (c c' : Cursor) (r r' : RevCursor) (w : Nat) :
    (c.write w = .ok c' → c'.buf = c.buf.set c.pos w ∧ c'.pos = c.pos + 1) ∧
    (r.write w = .ok r' →
      r'.inner.buf = r.inner.buf.set (r.inner.pos - 1) w ∧ r'.inner.pos = r.inner.pos - 1) := by
  refine ⟨Cursor.write_overwrites c c' w, fun h => ?_⟩
  unfold RevCursor.write at h
  split at h
  · cases h
  · split at h
    · cases h; exact ⟨rfl, rfl⟩
    · cases h

example : Cur.run true (.fwd ⟨[1, 2, 3, 4], 1⟩) [.pos, .write 9, .readQ, .seek 1, .readQ] =
    ([.num 1, .ok, .word (some 3), .ok, .word (some 9)], .ok (.fwd ⟨[1, 9, 3, 4], 2⟩)) := rfl

/-- `into_reversed` yields the mirror image and cannot fail under the invariant -/
theorem C17_into_reversed_mirror (c : Cursor) (hI : c.Inv) :
    ∃ r, c.intoReversed = .ok r ∧ Mirror c r := by
  rw [← Cursor.ofZ_toZ c hI]
  exact ⟨_, Cursor.intoReversed_ofZ _, mirror_ofZ _⟩

/-- **reverse_bisim: reversing a cursor in place is observationally a no-op.**  A `Cursor`
    and the `Reverse<Cursor>` over the reversed buffer at `len − pos` (`Mirror`) give the same
    outputs for every history of reads (both semantics), writes, `extend_from_iter`,
    `remaining`, `space_left`, `is_exhausted`, `is_full`, further `into_reversed` calls, and
    end mirrored again.  (`pos`/`seek`/`buf` show the flipped direction by design, see
    `mirror_pos`.) -/
theorem C17_reverse_bisim (wr : Bool) (c : Cursor) (r : RevCursor) (h : Mirror c r)
    (ops : List Op) (hs : ∀ op ∈ ops, op.Sym = true) :
    (Cur.run wr (.fwd c) ops).1 = (Cur.run wr (.rev r) ops).1 ∧
    ∃ sa sb, (Cur.run wr (.fwd c) ops).2 = .ok sa ∧ (Cur.run wr (.rev r) ops).2 = .ok sb ∧
      Cur.Mirror sa sb :=
  Cur.reverse_bisim wr c r h ops hs

example : (Cur.run true (.fwd ⟨[1, 2, 3, 4], 1⟩) [.readQ, .write 9, .readS, .spaceLeft, .remS]).1 =
    (Cur.run true (.rev ⟨⟨[4, 3, 2, 1], 3⟩⟩) [.readQ, .write 9, .readS, .spaceLeft, .remS]).1 :=
  (C17_reverse_bisim true ⟨[1, 2, 3, 4], 1⟩ ⟨⟨[4, 3, 2, 1], 3⟩⟩ ⟨rfl, rfl⟩ _ (by decide)).1

/-- the protocol driver's machine on the cursor kinds is `Cur.run` -/
theorem C17_driver_runs_cur (wr : Bool) (ops : List Op) (s : Cur) :
    (Backend.run (.cur wr s) ops).1 = (Cur.run wr s ops).1 := by
  rw [Backend.run_cur]

/-! ## `Vec`, `SmallVec` -/

/-- LIFO for `Vec`: never refuses a write; `k` writes then `k` reads restore it exactly -/
theorem C17_vec_lifo (v : VecB) (ws : List Nat) :
    Backend.run (.vec v) (ws.map Op.write ++ List.replicate ws.length Op.readS) =
      (List.replicate ws.length Out.ok ++ ws.reverse.map (fun w => Out.word (some w)),
        .ok (.vec v)) := by
  have := Backend.run_vec_reads ws.reverse v.data
  rw [List.reverse_reverse, List.length_reverse] at this
  rw [Backend.run_append, Backend.run_vec_writes]
  simp only [this]

/-- `remaining` is exact and reads are fused for `Vec` -/
theorem C17_vec_remaining_exact_fused (v : VecB) (m : Nat) :
    Backend.run (.vec v) (List.replicate (v.remaining + m) Op.readS) =
      (v.data.reverse.map (fun w => Out.word (some w)) ++ List.replicate m (Out.word none),
        .ok (.vec ⟨[]⟩)) := by
  have h := Backend.run_vec_reads v.data.reverse []
  rw [List.reverse_reverse, List.length_reverse, List.nil_append] at h
  rw [← List.replicate_append_replicate, Backend.run_append]
  simp only [VecB.remaining, h, Backend.run_vec_empty]

/-- seek laws for `Vec` (seeking truncates) -/
theorem C17_vec_seek (v : VecB) (p : Nat) :
    v.seek v.pos = some v ∧ (v.seek p = none ↔ p > v.data.length) ∧
    (p ≤ v.data.length → v.seek p = some ⟨v.data.take p⟩ ∧ (VecB.mk (v.data.take p)).pos = p) :=
  ⟨VecB.seek_pos v, VecB.seek_none_iff v p, VecB.seek_some v p⟩

/-- for `Vec`: a position taken before appending can be sought back to, which restores the
    vector exactly -/
theorem C17_vec_seek_back (v : VecB) (ws : List Nat) :
    (VecB.mk (v.data ++ ws)).seek v.pos = some v ∧
    Backend.run (.vec v) (ws.map Op.write ++ [Op.seek v.pos]) =
      (List.replicate ws.length Out.ok ++ [Out.ok], .ok (.vec v)) := by
  refine ⟨VecB.seek_back_after_writes v ws, ?_⟩
  rw [Backend.run_append, Backend.run_vec_writes]
  simp only [Backend.run, Backend.step_vec_seek, VecB.seek_back_after_writes]

/-- the negative fact (documented stack semantics of `Vec`: `seek` truncates, reads pop): after
    a successful read the previously reported position is refused.
    `backend.vec 8 | data 1,2,3 | pos | read_s | seek 3` → `ok | 3 | 3 | err` on the real code. -/
theorem C17_vec_seek_forward_refused :
    (∀ v : VecB, v.data ≠ [] → ((v.read).2).seek v.pos = none) ∧
    Backend.run (.vec ⟨[1, 2, 3]⟩) [.pos, .readS, .seek 3] =
      ([.num 3, .word (some 3), .err], .ok (.vec ⟨[1, 2]⟩)) :=
  ⟨VecB.seek_forward_refused, rfl⟩

example : Backend.run (.vec ⟨[1, 2]⟩) ([7, 8, 9].map Op.write ++ List.replicate 3 Op.readS) =
    ([.ok, .ok, .ok, .word (some 9), .word (some 8), .word (some 7)], .ok (.vec ⟨[1, 2]⟩)) :=
  C17_vec_lifo ⟨[1, 2]⟩ [7, 8, 9]

/-- `SmallVec` is observationally a `Vec` on every history (`raw` shows the `spilled` flag) -/
theorem C17_smallvec_refines_vec (ops : List Op) (v : SmallVecB) (h : ∀ op ∈ ops, op ≠ .raw) :
    ∃ v', Backend.run (.smallvec v) ops = ((Backend.run (.vec v.toVec) ops).1, .ok (.smallvec v')) ∧
      (Backend.run (.vec v.toVec) ops).2 = .ok (.vec v'.toVec) := by
  induction ops generalizing v with
  | nil => exact ⟨v, rfl, rfl⟩
  | cons op ops ih =>
    obtain ⟨o, v1, h1, h2⟩ := SmallVecB.step_refines_vec v op (h op List.mem_cons_self)
    obtain ⟨v2, h3, h4⟩ := ih v1 (fun o ho => h o (List.mem_cons_of_mem _ ho))
    rw [Backend.run_cons_ok h1, Backend.run_cons_ok h2, h3]
    exact ⟨v2, rfl, h4⟩

/-! ## iterator adapters (fused around an arbitrary, possibly non-fused iterator) -/

/-- `FallibleIteratorReadWords`: items in order up to the wrapped iterator's first `None`
    (exactly `remaining` of them), then `Ok(None)` forever, whatever the iterator would do -/
theorem C17_iter_fallible (s : List (Option Item)) (m : Nat) :
    (FallibleIter.mk ⟨s, false⟩).remaining = (Fuse.pending s).length ∧
    (Backend.run (.iterF ⟨⟨s, false⟩⟩)
        (List.replicate ((Fuse.pending s).length + m) Op.readQ)).1 =
      (Fuse.pending s).map itemOutF ++ List.replicate m (Out.word none) :=
  ⟨FallibleIter.remaining_live s, Backend.iter_outs _ nextOutF Backend.iterF_read s m⟩

theorem C17_iter_infallible (s : List (Option Item)) (m : Nat) :
    (Backend.run (.iterI ⟨⟨s, false⟩⟩)
        (List.replicate ((Fuse.pending s).length + m) Op.readQ)).1 =
      (Fuse.pending s).map itemOutI ++ List.replicate m (Out.item none) :=
  Backend.iter_outs (fun f => .iterI ⟨f⟩) .item (fun _ => rfl) s m

/-- the first `Ok(None)` is final -/
theorem C17_iter_fused (r : FallibleIter) (h : (r.read).1 = .ok none) (m : Nat) :
    (r.read).2.inner.done = true ∧
    (Backend.run (.iterF ⟨⟨(r.read).2.inner.script, true⟩⟩) (List.replicate m Op.readQ)).1 =
      List.replicate m (Out.word none) :=
  ⟨FallibleIter.read_none_done r h, Backend.iter_done_outs _ nextOutF Backend.iterF_read _ m⟩

/-- a non-fused iterator: a hole after the first word, more items behind it -/
example : (Backend.run (.iterF ⟨⟨[some (.word 1), some .err, none, some (.word 3)], false⟩⟩)
      (List.replicate (2 + 3) Op.readQ)).1 =
    [.word (some 1), .readErr, .word none, .word none, .word none] :=
  (C17_iter_fallible [some (.word 1), some .err, none, some (.word 3)] 3).2

/-! ## callback adapters -/

/-- every word reaches the callback exactly once and in order; `extend_from_iter` is the
    sequence of writes and stops at the first failing call -/
theorem C17_callback (cb : Callback) (ws : List Nat)
    (h : ∀ i, i < ws.length → cb.failAt.contains (cb.calls + i) = false) :
    Backend.run (.cbF cb) (ws.map Op.write) =
      (List.replicate ws.length Out.ok,
        .ok (.cbF { cb with log := cb.log ++ ws, calls := cb.calls + ws.length })) ∧
    cb.extend ws = (.ok, { cb with log := cb.log ++ ws, calls := cb.calls + ws.length }) := by
  have hok := (Callback.okFor_iff cb ws.length).2 h
  rw [← Callback.fed_eq]
  exact ⟨Backend.cb_writes .cbF (fun cb w hw => by rw [Backend.step_cbF_write, if_pos hw]) ws cb hok,
    Callback.extend_ok ws cb hok⟩

/-- `extend_from_iter` stops at the k-th call when that is the first to fail (`k = pre.length`):
    the words before it are delivered, the failing word is consumed and lost, `post` stays in
    the iterator -/
theorem C17_callback_extend_stops (cb : Callback) (pre : List Nat) (w : Nat) (post : List Nat)
    (hpre : ∀ i, i < pre.length → cb.failAt.contains (cb.calls + i) = false)
    (hk : cb.failAt.contains (cb.calls + pre.length) = true) :
    cb.extend (pre ++ w :: post) =
      (.extCbErr post.length,
        { cb with log := cb.log ++ pre, calls := cb.calls + pre.length + 1 }) := by
  rw [Callback.extend_append pre cb _ ((Callback.okFor_iff cb pre.length).2 hpre),
    Callback.extend_fail_first _ w post hk]
  rfl

example : (Callback.mk [] 0 [2]).extend ([1, 2] ++ 3 :: [4, 5]) = (.extCbErr 2, ⟨[1, 2], 3, [2]⟩) :=
  C17_callback_extend_stops ⟨[], 0, [2]⟩ [1, 2] 3 [4, 5] (by decide) (by decide)

/-- `InfallibleCallbackWriteWords`: writes and `extend_from_iter` cannot fail and deliver every
    word once, in order -/
theorem C17_callback_infallible (cb : Callback) (h : cb.failAt = []) (ws : List Nat) :
    Backend.run (.cbI cb) (ws.map Op.write) =
      (List.replicate ws.length Out.ok,
        .ok (.cbI { cb with log := cb.log ++ ws, calls := cb.calls + ws.length })) ∧
    Backend.step (.cbI cb) (.extend ws) =
      .ok (.ok, .cbI { cb with log := cb.log ++ ws, calls := cb.calls + ws.length }) := by
  have hok : cb.OkFor ws.length := fun i _ => by simp [h]
  rw [← Callback.fed_eq]
  refine ⟨Backend.cb_writes .cbI (fun _ _ _ => rfl) ws cb hok, ?_⟩
  show Except.ok ((cb.extend ws).1, Backend.cbI (cb.extend ws).2) = _
  rw [Callback.extend_ok ws cb hok]

example := C17_callback_infallible ⟨[9], 1, []⟩ rfl [1, 2, 3]

example :=
  C17_callback ⟨[], 0, [5]⟩ [1, 2, 3] (by decide)

/-! ## temporary views, `…_mut` constructors, conversion traits, `into_inner`

`Backend.xstep` is what the driver runs for `as_view` / `as_mut_view` / `cloned` /
`into_inner`; the model functions are `Cursor.asView`, `asMutView`, `cloned`, `newAtPosMut`,
`newAtWriteEndMut`, `intoReadWords…`, `asReadWords…`, `…SeekReadWords…`, `Callback.intoInner`.
That the real methods behave like these functions is checked by correspondence (families
"views", "conversions") and by the oracles; the theorems state what the model says. -/

/-- `new_at_pos_mut` / `new_at_write_end_mut` are `new_at_pos` / `new_at_write_end` -/
theorem C17_new_at_mut_eq (buf : List Nat) (p : Nat) :
    Cursor.newAtPosMut buf p = Cursor.newAtPos buf p ∧
    Cursor.newAtWriteEndMut buf = Cursor.newAtWriteEnd buf :=
  ⟨rfl, rfl⟩

/-- a view / copy starts as the same words at the same position -/
theorem C17_view_start (k : Backend.ViewKind) (c : Cursor) : Backend.viewStart k c = c := by
  cases k <;> rfl

/-- **`as_view` and `cloned` read / seek (and, for the copy, write) exactly like the original
    at the same position, and leave the original untouched** -/
theorem C17_view_like_original (k : Backend.ViewKind) (hk : k ≠ .mutable) (s : Cur) (prog : List Op) :
    Backend.Cur.viewStep k s prog =
      match Cur.run (Backend.viewWritable k) (.fwd s.inner) prog with
      | (outs, .ok _) => .ok (outs, s)
      | (_, .error f) => .error f := by
  unfold Backend.Cur.viewStep
  rw [C17_view_start]
  cases h : Cur.run (Backend.viewWritable k) (.fwd s.inner) prog with
  | mk outs r =>
    cases r with
    | error f => rfl
    | ok final =>
      cases k with
      | mutable => exact absurd rfl hk
      | shared => cases s <;> rfl
      | cloned => cases s <;> rfl

/-- **writes through `as_mut_view` land in the parent buffer**: the view answers like a writable
    cursor at the same position; afterwards the parent holds the words the view ended with, at
    its own unchanged position -/
theorem C17_as_mut_view_writes_land (s : Cur) (prog : List Op) :
    Backend.Cur.viewStep .mutable s prog =
      match Cur.run true (.fwd s.inner) prog with
      | (outs, .ok final) =>
        .ok (outs, match s with
          | .fwd c => .fwd { c with buf := final.inner.buf }
          | .rev r => .rev ⟨{ r.inner with buf := final.inner.buf }⟩)
      | (_, .error f) => .error f := by
  unfold Backend.Cur.viewStep
  rw [C17_view_start]
  rfl

/-- under the invariant a view program of trait methods never faults, and the parent keeps
    its invariant (the view cannot change the buffer length) -/
theorem C17_as_mut_view_keeps_inv (s : Cur) (hI : s.Inv) (prog : List Op)
    (hp : ∀ op ∈ prog, ∀ ws, op ≠ .bmSet ws) :
    ∃ outs s', Backend.Cur.viewStep .mutable s prog = .ok (outs, s') ∧ s'.Inv ∧
      s'.inner.pos = s.inner.pos ∧ s'.inner.buf.length = s.inner.buf.length := by
  have hI' : (Cur.fwd s.inner).Inv := hI
  obtain ⟨outs, final, h1, _, h3⟩ := C17_cursor_len_constant true prog (.fwd s.inner) hI' hp
  have h3' : final.inner.buf.length = s.inner.buf.length := h3
  rw [C17_as_mut_view_writes_land, h1]
  have hpos : s.inner.pos ≤ final.inner.buf.length := by rw [h3']; exact hI
  cases s <;> exact ⟨outs, _, rfl, hpos, rfl, h3'⟩

example : Backend.xstep (.cur true (.fwd ⟨[1, 2, 3, 4], 1⟩)) (.view .mutable [.write 9, .readS, .raw]) =
    .ok (.many [.ok, .word (some 9), .dump "fwd" [1, 9, 3, 4] 1], .cur true (.fwd ⟨[1, 9, 3, 4], 1⟩)) := rfl

/-- **conversion traits**: the `Stack` flavours of `IntoReadWords`, `AsReadWords`,
    `IntoSeekReadWords`, `AsSeekReadWords` are `Cursor::new_at_write_end`, the `Queue` flavours
    `Cursor::new_at_write_beginning` -/
theorem C17_conversions (buf : List Nat) :
    Cursor.intoReadWordsStack buf = Cursor.newAtWriteEnd buf ∧
    Cursor.asReadWordsStack buf = Cursor.newAtWriteEnd buf ∧
    Cursor.intoSeekReadWordsStack buf = Cursor.newAtWriteEnd buf ∧
    Cursor.asSeekReadWordsStack buf = Cursor.newAtWriteEnd buf ∧
    Cursor.intoReadWordsQueue buf = Cursor.newAtWriteBeginning buf ∧
    Cursor.asReadWordsQueue buf = Cursor.newAtWriteBeginning buf ∧
    Cursor.intoSeekReadWordsQueue buf = Cursor.newAtWriteBeginning buf ∧
    Cursor.asSeekReadWordsQueue buf = Cursor.newAtWriteBeginning buf :=
  ⟨rfl, rfl, rfl, rfl, rfl, rfl, rfl, rfl⟩

/-- `as_read_words` (Stack) of a `Vec` reads it as a stack from its end, the `Queue` flavour
    reads it in order from the start; then end-of-data -/
theorem C17_as_read_words_reads (buf : List Nat) (m : Nat) :
    (Cur.run false (.fwd (Cursor.asReadWordsStack buf)) (List.replicate (buf.length + m) Op.readS)).1 =
      buf.reverse.map (fun w => Out.word (some w)) ++ List.replicate m (Out.word none) ∧
    (Cur.run false (.fwd (Cursor.asReadWordsQueue buf)) (List.replicate (buf.length + m) Op.readQ)).1 =
      buf.map (fun w => Out.word (some w)) ++ List.replicate m (Out.word none) := by
  have hs := (C17_cursor_reads_view false (.fwd (Cursor.asReadWordsStack buf))
    (Nat.le_refl _) m).1
  have hq := (C17_cursor_reads_view false (.fwd (Cursor.asReadWordsQueue buf))
    (Nat.zero_le _) m).2
  simp only [Cur.stackView, Cursor.asReadWordsStack, Cursor.newAtWriteEnd, List.take_length,
    List.length_reverse] at hs
  simp only [Cur.queueView, Cursor.asReadWordsQueue, Cursor.newAtWriteBeginning, List.drop_zero] at hq
  exact ⟨hs, hq⟩

example : (Cur.run false (.fwd (Cursor.asReadWordsStack [1, 2, 3])) (List.replicate (3 + 1) Op.readS)).1 =
    [.word (some 3), .word (some 2), .word (some 1), .word none] :=
  (C17_as_read_words_reads [1, 2, 3] 1).1

/-- `into_inner` returns the callback intact: calling it directly is the adapter's `write` -/
theorem C17_callback_into_inner (cb : Callback) (w : Nat) :
    Backend.xstep (.cbF cb) (.intoInnerCall w) = Backend.xstep (.cbF cb) (.base (.write w)) ∧
    Backend.xstep (.cbI cb) (.intoInnerCall w) = Backend.xstep (.cbI cb) (.base (.write w)) := by
  refine ⟨?_, rfl⟩
  have hs := Backend.step_cbF_write cb w
  show (if (cb.write w).1 = true then _ else _) = _
  unfold Backend.xstep
  by_cases h : (cb.write w).1 = true
  · rw [if_pos h] at hs; simp only [hs, if_pos h]; rfl
  · rw [if_neg h] at hs; simp only [hs, if_neg h]; rfl

end CV.Backend.C17

#print axioms CV.Backend.C17.C17_constructors_inv
#print axioms CV.Backend.C17.C17_cursor_inv_preserved
#print axioms CV.Backend.C17.C17_cursor_lifo
#print axioms CV.Backend.C17.C17_cursor_fifo
#print axioms CV.Backend.C17.C17_cursor_fused
#print axioms CV.Backend.C17.C17_cursor_remaining_stack_exact
#print axioms CV.Backend.C17.C17_cursor_remaining_queue_exact
#print axioms CV.Backend.C17.C17_cursor_space_left_exact
#print axioms CV.Backend.C17.C17_d11_legacy_counterexample
#print axioms CV.Backend.C17.C17_cursor_queries_total
#print axioms CV.Backend.C17.C17_cursor_seek_pos
#print axioms CV.Backend.C17.C17_cursor_seek_refused_iff
#print axioms CV.Backend.C17.C17_cursor_seek_accepted
#print axioms CV.Backend.C17.C17_into_reversed_mirror
#print axioms CV.Backend.C17.C17_reverse_bisim
#print axioms CV.Backend.C17.C17_driver_runs_cur
#print axioms CV.Backend.C17.C17_vec_lifo
#print axioms CV.Backend.C17.C17_vec_remaining_exact_fused
#print axioms CV.Backend.C17.C17_vec_seek
#print axioms CV.Backend.C17.C17_smallvec_refines_vec
#print axioms CV.Backend.C17.C17_iter_fallible
#print axioms CV.Backend.C17.C17_iter_infallible
#print axioms CV.Backend.C17.C17_iter_fused
#print axioms CV.Backend.C17.C17_callback
#print axioms CV.Backend.C17.C17_callback_extend_stops
#print axioms CV.Backend.C17.C17_callback_infallible
#print axioms CV.Backend.C17.C17_cursor_seek_back_history
#print axioms CV.Backend.C17.C17_cursor_len_constant
#print axioms CV.Backend.C17.C17_cursor_reads_view
#print axioms CV.Backend.C17.C17_cursor_write_overwrites
#print axioms CV.Backend.C17.C17_vec_seek_back
#print axioms CV.Backend.C17.C17_vec_seek_forward_refused
#print axioms CV.Backend.C17.C17_new_at_mut_eq
#print axioms CV.Backend.C17.C17_view_start
#print axioms CV.Backend.C17.C17_view_like_original
#print axioms CV.Backend.C17.C17_as_mut_view_writes_land
#print axioms CV.Backend.C17.C17_as_mut_view_keeps_inv
#print axioms CV.Backend.C17.C17_conversions
#print axioms CV.Backend.C17.C17_as_read_words_reads
#print axioms CV.Backend.C17.C17_callback_into_inner
