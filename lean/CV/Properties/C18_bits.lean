import CV.Proofs.BitsInspect
/-!
# C18 (bit-level coders) — size, emptiness and exhaustion queries report exactly what is there

`len` is the exact number of bits and determines the number of exported words (`⌈len / W⌉` for
the queue, `⌊len / W⌋ + 1` for the stack, whose export carries the terminator bit); `is_empty` ⇔
no bits ⇔ the export carries no payload.  For the **queue** "no payload" is the empty word list;
for the **stack** it is the single word `1`: `StackCoder::new().into_compressed()` is `[1]`,
never `[]`, by design of the sealed format.  All `W ≥ 2`, all states satisfying `Inv`, hence at
every step of every history (`sizes_after_history`).
-/
namespace CV.Bits.C18
open CV CV.Bits

theorem validW_one {W : Nat} (h : ValidW W) : 1 ≤ W := CV.Bits.validW_one h

/-- `len` is exact (the only failure is `usize` overflow of the bit count) -/
theorem len_eq_bits_length {W : Nat} (c : Coder) (h : (bits W c).length < 2^64) :
    len W c = .ok (bits W c).length :=
  len_spec c h

/-- `len` agrees with what the stack export returns: `len / W + 1` words (never none), which
    hold exactly `len` payload bits below the terminator -/
theorem stack_len_vs_export {W : Nat} (hW : ValidW W) {c : Coder} (hI : Inv W c) {n : Nat}
    (hn : len W c = .ok n) :
    (Stack.intoCompressed W c).length = n / W + 1 ∧
    ∃ p, p < W ∧ wordBits W (Stack.intoCompressed W c) = bits W c ++ [true] ++ List.replicate p false ∧
      (bits W c).length = n := by
  obtain ⟨p, hp, hf, _, _, _, hl⟩ := stack_export_format (validW_one hW) hI
  exact ⟨by rw [hl, len_ok hn], p, hp, hf, len_ok hn⟩

/-- `len` agrees with what the queue export returns: `⌈len / W⌉` words -/
theorem queue_len_vs_export {W : Nat} (hW : ValidW W) {c : Coder} (hI : Inv W c) {n : Nat}
    (hn : len W c = .ok n) :
    (Queue.intoCompressed c).length = (n + W - 1) / W ∧
      wordBits W (Queue.intoCompressed c) = padTo W (bits W c) ∧ (bits W c).length = n := by
  obtain ⟨hf, _, hl⟩ := queue_export_format (validW_one hW) hI
  exact ⟨by rw [hl, len_ok hn], hf, len_ok hn⟩

set_option linter.unusedVariables false in
/-- `is_empty` ⇔ there are no bits ⇔ `len = 0` -/
theorem isEmpty_iff_no_bits {W : Nat} (hW : ValidW W) {c : Coder} (hI : Inv W c) :
    (isEmpty c = true ↔ bits W c = []) ∧ (isEmpty c = true ↔ len W c = .ok 0) := by
  have h1 := isEmpty_iff (W := W) (validW_one hW) (c := c)
  refine ⟨h1, ?_⟩
  rw [h1]
  constructor
  · intro h
    rw [len_spec c (by rw [h]; decide), h]
    rfl
  · exact fun h => List.length_eq_zero_iff.mp (len_ok h)

/-- queue: a coder reports empty exactly when exporting it returns nothing -/
theorem queue_isEmpty_iff_export_nil {W : Nat} (hW : ValidW W) {c : Coder} (hI : Inv W c) :
    isEmpty c = true ↔ Queue.intoCompressed c = [] := by
  -- compare with the empty coder, whose bits and export are both `[]`
  have h1 := validW_one hW
  rw [isEmpty_iff h1, ← bits_empty W]
  constructor
  · exact fun h => queue_export_factors h1 hI (inv_empty W) h
  · intro h
    have hf := (queue_export_format h1 hI).1
    rw [h, wordBits_nil, padTo] at hf
    rw [bits_empty]
    exact (List.append_eq_nil_iff.mp hf.symm).1

set_option linter.unusedVariables false in
theorem stack_export_empty {W : Nat} (hW : ValidW W) : Stack.intoCompressed W empty = [1] := by
  simp [Stack.intoCompressed, writeBit, empty]

/-- stack: a coder reports empty exactly when its export carries no payload, i.e. is the single
    terminator word `[1]` (the sealed format never exports `[]`) -/
theorem stack_isEmpty_iff_export_terminator {W : Nat} (hW : ValidW W) {c : Coder} (hI : Inv W c) :
    isEmpty c = true ↔ Stack.intoCompressed W c = [1] := by
  have h1 := validW_one hW
  rw [isEmpty_iff h1, ← stack_export_empty hW]
  constructor
  · intro h
    exact stack_export_factors h1 hI (inv_empty W) (by rw [h, bits_empty])
  · intro h
    obtain ⟨c', hc', _, hb'⟩ := stack_export_import_bits h1 hI
    obtain ⟨e', he', _, hbe'⟩ := stack_export_import_bits h1 (inv_empty W)
    rw [h, he'] at hc'
    have : e' = c' := Except.ok.inj hc'
    rw [← hb', ← this, hbe', bits_empty]

/-- the state after any operation sequence satisfies the invariant, so all of the above applies
    to it; in particular `len` is then the length of the Spec list -/
theorem sizes_after_history {W : Nat} (hW : ValidW W) (ops : List SOp)
    (hops : ∀ op ∈ ops, op.Lawful) {c : Coder} (hI : Inv W c) :
    Inv W (run (Stack.step W) ops c).2 ∧
    (((run (Stack.spec W) ops (bits W c)).2).length < 2^64 →
      len W (run (Stack.step W) ops c).2 = .ok ((run (Stack.spec W) ops (bits W c)).2).length) := by
  have h := stack_run_refines (validW_one hW) ops hops hI
  refine ⟨h.2.1, ?_⟩
  intro hl
  rw [← h.2.2] at hl ⊢
  exact len_spec _ hl

/-- a queue decoder that has consumed exactly the payload — only zero padding of the current
    word is left — reports that it may be exhausted … -/
theorem maybe_exhausted_after_payload {W : Nat} (hW : ValidW W) {d : QDecoder}
    (hI : QDecoder.Inv W d) {p : Nat} (hp : p < W)
    (hb : QDecoder.bits W d = List.replicate p false) :
    QDecoder.maybeExhausted W d = true := by
  have h1 := validW_one hW
  apply maybeExhausted_of_zero_tail h1 hI
  · exact QDecoder.rest_eq_nil (by rw [hb, List.length_replicate]; exact hp)
  · intro b hbm
    rw [hb] at hbm
    exact (List.mem_replicate.mp hbm).2

/-- … and one with whole words left reports that it is not exhausted -/
theorem maybe_exhausted_false_with_words {W : Nat} {d : QDecoder} (h : d.rest ≠ []) :
    QDecoder.maybeExhausted W d = false := by
  cases hr : d.rest with
  | nil => exact absurd hr h
  | cons w r => simp [QDecoder.maybeExhausted, hr]

/-! ## non-vacuity -/

example : len 8 (writeBits 8 empty [true, false, true, true, false, false, true, true, true, false, true])
    = .ok 11 := by decide +kernel

example : Stack.intoCompressed 8 (writeBits 8 empty (List.replicate 16 false)) = [1, 0, 0] := by
  decide +kernel

example : Queue.intoCompressed (writeBits 8 empty (List.replicate 16 false)) = [0, 0] := by decide +kernel

example : isEmpty (writeBits 8 empty [false]) = false ∧ isEmpty (empty) = true := by decide +kernel

/-- a decoder that has read the 3 payload bits of a one-word queue: 5 padding zeros are left -/
example :
    let d := (QDecoder.readBit 8 (QDecoder.readBit 8 (QDecoder.readBit 8
      (Queue.intoDecoder (writeBits 8 empty [true, true, false]))).2).2).2
    QDecoder.bits 8 d = List.replicate 5 false ∧ QDecoder.maybeExhausted 8 d = true := by
  decide +kernel

end CV.Bits.C18

#print axioms CV.Bits.C18.len_eq_bits_length
#print axioms CV.Bits.C18.stack_len_vs_export
#print axioms CV.Bits.C18.queue_len_vs_export
#print axioms CV.Bits.C18.isEmpty_iff_no_bits
#print axioms CV.Bits.C18.queue_isEmpty_iff_export_nil
#print axioms CV.Bits.C18.stack_export_empty
#print axioms CV.Bits.C18.stack_isEmpty_iff_export_terminator
#print axioms CV.Bits.C18.sizes_after_history
#print axioms CV.Bits.C18.maybe_exhausted_after_payload
#print axioms CV.Bits.C18.maybe_exhausted_false_with_words
