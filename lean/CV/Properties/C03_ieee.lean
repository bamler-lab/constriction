import CV.Proofs.SoftFloatMono
import CV.Properties.C19_quant
import CV.Properties.C03_quant
/-!
# C03 / C19 (component `quant`), float layer with **no float hypothesis**

`C03_quant` and `C19_quant` prove validity of the `…_fast` float constructors *from* TB-F1
(`TBF1Fast`).  Here `fastSetup` — the prologue of `fast_quantized_cdf` and of the lazy model's
constructor, generic in the float operations — runs on the software IEEE-754 model
`CV.Model.SoftFloat` (any binary format, in particular `binary32` and `binary64`), and TB-F1 is the
theorem `soft_tbf1`: for every table (NaN, negative, infinite, subnormal entries included), every
normalisation, every `1 ≤ P ≤ B ≤ 64`.

What ties the software model to the crate's hardware floats: the driver answers every `quant.fast` /
`quant.lazy` line (and the `g` values of every `quant.leaky` line) with the software model *and* the
native replica and reports any difference (`CV/Driver/Quant.lean`); single operations are sampled
by `quant.sfop` lines.  Remaining trusted assumption for this clause: the platform's `f32`/`f64`
`+ * /`, comparisons and conversions are IEEE-754 round-to-nearest-even outside the sampled inputs.
The lazy decoder's float-only skip phase (TB-F2) is *not* covered here.
-/
namespace CV.Quant
open CV

/-- **TB-F1 proved**: for any binary format with a significand, any table, any normalisation -/
theorem C03_ieee_tbf1 (f : Fmt) (hp : 1 ≤ f.p) {B P : Nat} {probs : List SF} {norm : Option SF}
    {ctx : FastCtx SF} (h : fastSetup f.ops B P probs norm = some ctx) :
    TBF1Fast (ctx.hE f.ops B) ctx.n :=
  soft_tbf1 f hp h

/-- **C03/C19, `…_fast` constructors on IEEE floats, unconditionally**: accepted ⇒ no fault, a
    valid cdf, a well-formed model -/
theorem C03_ieee_fast_cdf_valid (f : Fmt) (hp : 1 ≤ f.p) {B P : Nat} {probs : List SF}
    {norm : Option SF} {ctx : FastCtx SF} (hP1 : 1 ≤ P) (hPB : P ≤ B) (hB : B ≤ 64)
    (hacc : fastSetup f.ops B P probs norm = some ctx) :
    ∃ cdf, fastCdf B P ctx.n ctx.free (ctx.hE f.ops B) = .ok cdf ∧ Cat.ValidCdf B P cdf ∧
      (contiguousModel B cdf).WellFormed P := by
  obtain ⟨hlen, _, hn, hfree, _, _⟩ := fastSetup_some f.ops hacc
  rw [hn, hfree]
  exact C03_fast_cdf_valid hP1 hPB hB hlen (hn ▸ soft_tbf1 f hp hacc)

/-- the two formats the crate uses -/
theorem C03_ieee_f32_f64 {B P : Nat} {probs : List SF} {norm : Option SF} {ctx : FastCtx SF}
    (hP1 : 1 ≤ P) (hPB : P ≤ B) (hB : B ≤ 64) :
    (fastSetup sf32Ops B P probs norm = some ctx →
      ∃ cdf, fastCdf B P ctx.n ctx.free (ctx.hE sf32Ops B) = .ok cdf ∧ Cat.ValidCdf B P cdf) ∧
    (fastSetup sf64Ops B P probs norm = some ctx →
      ∃ cdf, fastCdf B P ctx.n ctx.free (ctx.hE sf64Ops B) = .ok cdf ∧ Cat.ValidCdf B P cdf) :=
  ⟨fun h => (C03_ieee_fast_cdf_valid binary32 (by decide) hP1 hPB hB h).imp fun _ h => ⟨h.1, h.2.1⟩,
   fun h => (C03_ieee_fast_cdf_valid binary64 (by decide) hP1 hPB hB h).imp fun _ h => ⟨h.1, h.2.1⟩⟩

/-- **round-to-nearest-even is monotone** (fractions compared by cross-multiplication; overflow
    to infinity is the top element) -/
theorem C03_ieee_round_mono (f : Fmt) (hp : 1 ≤ f.p) {a b c d : Nat} (hb : 0 < b) (hd : 0 < d)
    (h : a * d ≤ c * b) : MagLe (roundMag f a b) (roundMag f c d) :=
  roundMag_mono f hp hb hd h

/-- **a value of the format rounds to itself**, and every rounded result is a value of the format -/
theorem C03_ieee_round_self (f : Fmt) (hp : 1 ≤ f.p) :
    (∀ k, Rep f k → roundMag f k 1 = some k) ∧
    (∀ a b k, 0 < b → roundMag f a b = some k → Rep f k) :=
  ⟨fun _ hk => roundMag_self f hk, fun _ _ _ hb h => roundMag_rep f hp hb h⟩

/-- **C03, `LeakilyQuantizedDistribution` from the contract of the caller's `Distribution`**: if the
    values `distribution(s - 0.5)` (floats of the format: `cdf s`) lie in `[0, 1]` and do not
    decrease along the support — what a cumulative distribution function is — then the quantised
    model is `WellFormed` for every hint function, on IEEE arithmetic, with no hypothesis about the
    integer sequence.  (`free < 2^p`: `free_weight` is converted with the lossless `Into<F>`, so
    `Probability` has at most `p` bits: `u32`/`f64`, `u16`/`f32`.) -/
theorem C03_ieee_leaky_wellFormed (f : Fmt) (hp : 1 ≤ f.p) (hM : f.M ≤ f.expMask - 2) {m : LQ}
    (ok : m.Ok) (hfree : m.free < 2 ^ f.p) (cdf : Int → SF)
    (h01 : ∀ s, m.min < s → s ≤ m.max + 1 → SF.Unit01 f (cdf s))
    (hmono : ∀ s, m.min < s → s < m.max → SF.nnLe (cdf s) (cdf (s + 1))) (hint : Nat → Int) :
    (leakyModel m (fun s => f.toUInt m.B (f.mul (f.ofNat m.free) (cdf s))) hint).WellFormed m.P :=
  (C03_leaky_wellFormed ok (leaky_gok_of_cdf f hp hM hfree cdf h01 hmono) hint).1

/-- non-vacuity: a step-shaped CDF `(s + 3) / 8` (exact `binary64` values) on the support `-3..=3`
    at `i8`/`u16`/`P = 12` meets the hypotheses -/
example : (leakyModel exLQ (fun s => binary64.toUInt exLQ.B (binary64.mul (binary64.ofNat exLQ.free)
    (.fin false ((s + 3).toNat * 2 ^ (binary64.M - 3))))) (fun _ => 0)).WellFormed exLQ.P := by
  apply C03_ieee_leaky_wellFormed binary64 (by decide) (by decide) exLQ_ok (by decide)
  · intro s h1 h2
    have h1' : (-3 : Int) < s := h1
    have h2' : s ≤ 3 + 1 := h2
    show (s + 3).toNat * 2 ^ (binary64.M - 3) ≤ 2 ^ binary64.M
    have : (s + 3).toNat ≤ 8 := by omega
    calc (s + 3).toNat * 2 ^ (binary64.M - 3) ≤ 8 * 2 ^ (binary64.M - 3) := Nat.mul_le_mul_right _ this
      _ = 2 ^ (binary64.M - 3 + 3) := by rw [Nat.pow_add, Nat.mul_comm]
      _ = 2 ^ binary64.M := congrArg (2 ^ ·) (by decide : binary64.M - 3 + 3 = binary64.M)
  · intro s _ _
    exact Nat.mul_le_mul_right _ (Int.toNat_le_toNat (by omega))

/-- both formats the crate uses satisfy the side condition on the exponent range -/
example : binary32.M ≤ binary32.expMask - 2 ∧ binary64.M ≤ binary64.expMask - 2 := by decide

/-! ### non-vacuity: the D4 `f32` table is accepted by the software model, bit for bit -/

/-- `[70.591324, 0.4555307, 49.606285, 0.45611787, 0.0]` as `binary32` bit patterns -/
def d4soft : List SF :=
  [0x428d2ec2, 0x3ee93b54, 0x42466cd6, 0x3ee98848, 0].map binary32.ofBits

/-- the software model computes the same integer sequence as the hardware did on this table
    (`d4_unclamped_exceeds`: the last entry exceeds `free` by one — the D4 situation) -/
theorem d4soft_h : ((fastSetup sf32Ops 32 24 d4soft none).map
    fun c => (List.range 6).map (c.hE sf32Ops 32)) =
    some [0, 9778985, 9842089, 16714026, 16777212, 16777212] := by decide +kernel

theorem d4soft_accepted : (fastSetup sf32Ops 32 24 d4soft none).isSome = true := by
  cases h : fastSetup sf32Ops 32 24 d4soft none with
  | none => have := d4soft_h; rw [h] at this; cases this
  | some _ => rfl

example : ∃ ctx, fastSetup sf32Ops 32 24 d4soft none = some ctx ∧
    ∃ cdf, fastCdf 32 24 ctx.n ctx.free (ctx.hE sf32Ops 32) = .ok cdf ∧ Cat.ValidCdf 32 24 cdf := by
  have h := d4soft_accepted
  obtain ⟨ctx, hctx⟩ := Option.isSome_iff_exists.1 h
  exact ⟨ctx, hctx, (C03_ieee_f32_f64 (by decide) (by decide) (by decide)).1 hctx⟩

/-- rejected inputs are rejected by the software model too: a NaN entry, a negative entry -/
example : fastSetup sf32Ops 32 24 ([0x3f800000, 0x7fc00000, 0x3f800000].map binary32.ofBits) none = none := by
  decide +kernel
example : fastSetup sf32Ops 32 24 ([0x3f800000, 0xbf000000, 0x3f800000].map binary32.ofBits) none = none := by
  decide +kernel

end CV.Quant

#print axioms CV.Quant.C03_ieee_tbf1
#print axioms CV.Quant.C03_ieee_fast_cdf_valid
#print axioms CV.Quant.C03_ieee_f32_f64
#print axioms CV.Quant.C03_ieee_round_mono
#print axioms CV.Quant.C03_ieee_round_self
#print axioms CV.Quant.C03_ieee_leaky_wellFormed
#print axioms CV.Quant.d4soft_accepted
#print axioms CV.Quant.d4soft_h
