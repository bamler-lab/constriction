import CV.Proofs.AnsBinary
/-!
# C04 — ANS decoding is invertible on arbitrary bits (bits-back / surjectivity)

About the Impl model `CV.Ans`, for all coders satisfying `Inv`, in particular every coder that
`from_binary` makes from arbitrary words.
-/
namespace CV.Ans.C04
open CV CV.Ans

variable {Sym : Type}

/-- Decoding is total and is undone exactly by encoding the decoded symbol with the same model. -/
theorem encode_decode {c : Cfg} (hc : c.Valid) {m : Model Sym} (hm : m.WellFormed c.P)
    {x : Coder} (hx : Inv c x) (hcap : x.cap = none) :
    ∃ s y, decode c m x = .ok (s, y) ∧ Inv c y ∧ y.cap = none ∧ encode c m s y = .ok x := by
  obtain ⟨cum, p, henc, _, hinv, hback⟩ := encArith_decArith hc hm hx
  have hcap' := (cap_decArith c m x).trans hcap
  exact ⟨_, _, decode_spec hc hm hx, hinv, hcap', (encode_spec hc hm hinv hcap' henc).trans (congrArg _ hback)⟩

/-! ## Sequences -/

structure MEntry (Sym : Type) where
  P : Nat
  B : Nat
  m : Model Sym

def MEntry.cfg (W S : Nat) (e : MEntry Sym) : Cfg := { W := W, S := S, P := e.P, B := e.B }
def MEntry.OK (W S : Nat) (e : MEntry Sym) : Prop := (e.cfg W S).Valid ∧ e.m.WellFormed e.P

/-- decode one symbol per model, in order, stopping at the first fault -/
def decodeAll (W S : Nat) : Coder → List (MEntry Sym) → M (List Sym × Coder)
  | x, [] => .ok ([], x)
  | x, e :: es =>
    match decode (e.cfg W S) e.m x with
    | .error f => .error f
    | .ok (s, y) =>
      match decodeAll W S y es with
      | .error f => .error f
      | .ok (ss, z) => .ok (s :: ss, z)

def encodeSeq (W S : Nat) : Coder → List (MEntry Sym × Sym) → Except EncErr Coder
  | x, [] => .ok x
  | x, (e, s) :: l =>
    match encode (e.cfg W S) e.m s x with
    | .error err => .error err
    | .ok y => encodeSeq W S y l

theorem encodeSeq_append (W S : Nat) (x : Coder) (l₁ l₂ : List (MEntry Sym × Sym)) :
    encodeSeq W S x (l₁ ++ l₂) =
      match encodeSeq W S x l₁ with
      | .error err => .error err
      | .ok y => encodeSeq W S y l₂ := by
  induction l₁ generalizing x with
  | nil => rfl
  | cons a l ih =>
    obtain ⟨e, s⟩ := a
    simp only [List.cons_append, encodeSeq]
    cases encode (e.cfg W S) e.m s x with
    | error err => rfl
    | ok y => exact ih y

/-- **Bits back.** Decoding any number of symbols with any well-formed models never fails, and
    encoding them back in reverse order restores the coder exactly. -/
theorem bits_back {W S : Nat} (es : List (MEntry Sym)) (hes : ∀ e ∈ es, e.OK W S)
    (x : Coder) (hx : ∀ c : Cfg, c.W = W → c.S = S → Inv c x) (hcap : x.cap = none) :
    ∃ ss z, decodeAll W S x es = .ok (ss, z) ∧ ss.length = es.length ∧
      (∀ c : Cfg, c.W = W → c.S = S → Inv c z) ∧
      encodeSeq W S z (es.zip ss).reverse = .ok x := by
  induction es generalizing x with
  | nil => exact ⟨[], x, rfl, rfl, hx, rfl⟩
  | cons e es ih =>
    obtain ⟨hv, hm⟩ := hes e List.mem_cons_self
    obtain ⟨s, y, hd, hinv, hcapy, hback⟩ := encode_decode hv hm (hx (e.cfg W S) rfl rfl) hcap
    have hy : ∀ c : Cfg, c.W = W → c.S = S → Inv c y := fun c hW hS => hinv.congr hW.symm hS.symm
    obtain ⟨ss, z, h1, h2, h3, h4⟩ := ih (fun e' he' => hes e' (List.mem_cons_of_mem _ he')) y hy hcapy
    refine ⟨s :: ss, z, ?_, by simp [h2], h3, ?_⟩
    · simp only [decodeAll, hd, h1]
    · simp only [List.zip_cons_cons, List.reverse_cons]
      rw [encodeSeq_append, h4]
      simp only [encodeSeq, hback]

/-- **C04, raw binary data.** Load *any* words (zero words included) with `from_binary`, decode
    any number of symbols, encode them back in reverse: `get_binary` and `into_binary` return the
    original words, and `num_valid_bits` is the size of the data. -/
theorem binary_bits_back {W S : Nat} (hWS : 1 ≤ W ∧ 2 * W ≤ S)
    (ws : List Nat) (hws : ∀ w ∈ ws, w < 2^W)
    (es : List (MEntry Sym)) (hes : ∀ e ∈ es, e.OK W S) :
    let c0 : Cfg := { W := W, S := S, P := 1, B := 1 }
    numValidBits c0 (fromBinary c0 ws) = W * ws.length ∧
    ∃ ss z, decodeAll W S (fromBinary c0 ws) es = .ok (ss, z) ∧
      ∃ x', encodeSeq W S z (es.zip ss).reverse = .ok x' ∧
        getBinary c0 x' = .ok ws ∧ intoBinary c0 x' = .ok ws := by
  intro c0
  have hv : c0.Valid := valid_base hWS
  obtain ⟨k, v, hst, hvlt, hinv, hcap, hdig⟩ := fromBinary_spec hv ws hws
  have hx : ∀ c : Cfg, c.W = W → c.S = S → Inv c (fromBinary c0 ws) :=
    fun c hW hS => hinv.congr hW.symm hS.symm
  obtain ⟨ss, z, h1, _, _, h4⟩ := bits_back es hes (fromBinary c0 ws) hx hcap
  refine ⟨numValidBits_fromBinary hv ws hws, ss, z, h1, _, h4, ?_⟩
  rw [getBinary_marker hv hcap hst hvlt, intoBinary_marker hv hcap hst hvlt, hdig]
  exact ⟨rfl, rfl⟩

/-! ## Non-vacuity -/

/-- data ending in zero words, the case the pre-repair `into_binary` got wrong (D2) -/
example : intoBinary { W := 8, S := 16, P := 1, B := 1 } (fromBinary { W := 8, S := 16, P := 1, B := 1 } [0, 5])
    = .ok [0, 5] := by rfl

end CV.Ans.C04

#print axioms CV.Ans.C04.encode_decode
#print axioms CV.Ans.C04.bits_back
#print axioms CV.Ans.C04.binary_bits_back
#print axioms CV.Ans.C04.encodeSeq_append
