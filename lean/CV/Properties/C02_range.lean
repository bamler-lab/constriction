import CV.Proofs.RangeExamples
import CV.Proofs.RangeTableModel
import CV.Proofs.RangeInspect
/-!
# C02 — Range coder round trip (component `range`)

All statements are about the Impl model `CV.Range` (transcription of src/stream/queue.rs), for
every configuration allowed by the crate's static assertions (`RValid`: `1 ≤ P ≤ B ≤ W`,
`2W ≤ S`, `W ∣ S` — not only `u8 … u128`), with per-symbol `PRECISION`/probability type,
arbitrary well-formed models, all messages.

`usize` is a 64-bit machine integer in the model (`usizeBits`): `num_inverted + 1`,
`bulk.len() + num_inverted`, `num_words`, `num_bits` are checked operations.  `Fits c e k`
(`Word::BITS · (bulk.len() + num_inverted + k + 2) < 2^64`) says the counters have room for `k`
more symbols; for histories from `new()` it is `MsgFits c n` (`Word::BITS · (n + 2) < 2^64`,
`n` = number of symbols), stated as an explicit hypothesis.  Without it the theorems are false:
`from_raw_parts` with `num_inverted = usize::MAX` panics in `pos()` / `num_words()`.
-/
namespace CV.Range

/-- `encode_symbol` with an in-support symbol: no `Fault` (`scale·p ≠ 0`, no multiplication
    overflows, `first_inverted_lower_word + 1` fits, the unchecked non-zero shift is sound), and
    the invariant is preserved -/
theorem C02_range_encode_total {Sym : Type} {c : Cfg} (hc : RValid c) {m : Model Sym}
    (hm : m.WellFormed c.P) {e : Encoder} (hI : Inv c e) (hf : Fits c e 1) {s : Sym}
    {cum p : Nat} (hs : m.enc s = some (cum, p)) :
    ∃ e', encode c m s e = .ok e' ∧ Inv c e' ∧ Fits c e' 0 := by
  obtain ⟨hp, hcp, _, _⟩ := hm.1 s cum p hs
  exact ⟨_, encode_eq_pure hc hm hI hf hs, (encPure_spec hc hI hp hcp).1,
    encPure_fits hc hI hp hcp hf⟩

theorem C02_range_inv_new {c : Cfg} (hc : RValid c) : Inv c (Encoder.empty c) := inv_empty hc

/-- one `encode_symbol` is one step of the reference coder on `absE` (finalised words ++ held-back
    words ++ register as one big number): carries are ordinary addition there -/
theorem C02_range_encode_refines {c : Cfg} (hc : RValid c) {e : Encoder} (hI : Inv c e)
    (hf : Fits c e 1) {cum p : Nat} (hp : 0 < p) (hcp : cum + p ≤ 2^c.P) :
    ∃ e', encodeCP c e cum p = .ok e' ∧
      absE c e' = RangeSpec.step c.W c.S (absE c e) c.P cum p :=
  ⟨_, encodeCP_eq_pure hc hI hf hp hcp, (encPure_spec hc hI hp hcp).2⟩

/-- **round trip** (FIFO); the decoder then reports `maybe_exhausted`, and the empty message
    produces no words -/
theorem C02_range_roundtrip {Sym : Type} {c : Cfg} (hc : RValid c) (msg : List (MStep Sym))
    (hn : MsgFits c msg.length) (hv : ∀ x ∈ msg, x.Valid c) :
    ∃ e ws d0 d, encodeMsg c (Encoder.empty c) msg = .ok e ∧
      intoCompressed c e = .ok ws ∧
      Decoder.fromCompressed c ws = .ok d0 ∧
      decodeMsg c d0 msg = .ok (msg.map (·.sym), d) ∧
      d.maybeExhausted c = .ok true ∧
      (msg = [] → ws = []) :=
  roundtrip hc msg hn hv

/-- the round trip for exactly the kind of input the correspondence runs feed to the real
    coders: per symbol a probability type `B`, a precision `P`, a strictly increasing table
    `cdf` from `0` to `2^P` (checked executably by `strictCdfB`) and a symbol of the table -/
theorem C02_range_roundtrip_tables {c : Cfg} (hc : RValid c)
    (tbl : List (Nat × Nat × List Nat × Nat)) (hn : MsgFits c tbl.length)
    (hv : ∀ t ∈ tbl, RValid (cfgAt c t.1 t.2.1) ∧ strictCdfB t.2.1 t.2.2.1 = true ∧
      t.2.2.2 + 1 < t.2.2.1.length) :
    ∃ e ws d0 d,
      encodeMsg c (Encoder.empty c)
        (tbl.map (fun t => { B := t.1, P := t.2.1, model := tableModel t.2.2.1, sym := t.2.2.2 }))
        = .ok e ∧
      intoCompressed c e = .ok ws ∧ Decoder.fromCompressed c ws = .ok d0 ∧
      decodeMsg c d0
        (tbl.map (fun t => { B := t.1, P := t.2.1, model := tableModel t.2.2.1, sym := t.2.2.2 }))
        = .ok (tbl.map (·.2.2.2), d) ∧
      d.maybeExhausted c = .ok true := by
  have hvalid : ∀ x ∈ tbl.map (fun t =>
      ({ B := t.1, P := t.2.1, model := tableModel t.2.2.1, sym := t.2.2.2 } : MStep Nat)),
      x.Valid c := by
    intro x hx
    obtain ⟨t, ht, rfl⟩ := List.mem_map.mp hx
    obtain ⟨h1, h2, h3⟩ := hv t ht
    exact MStep.valid_of_table h1 (strictCdf_of_check h2) h3
  obtain ⟨e, ws, d0, d, h1, h2, h3, h4, h5, _⟩ :=
    roundtrip hc _ (by rw [List.length_map]; exact hn) hvalid
  refine ⟨e, ws, d0, d, h1, h2, h3, ?_, h5⟩
  rw [h4, List.map_map]
  rfl

/-- `seal_point`: the sealed words lie in the final interval, within `2^(S-W) − 1` of `Lo` -/
theorem C02_range_seal_point {c : Cfg} (hc : RValid c) {st : RangeSpec.St} (hI : SpecInv c st) :
    Contains c st (RangeSpec.sealWords c.W c.S st) ∧
    pre c.W (RangeSpec.sealWords c.W c.S st) (st.m + nW c) - st.Lo < 2^(c.S - c.W) :=
  seal_contains hc hI

/-- **`clear()` gives the state of `new()`**, whatever the encoder was before — in the middle of
    a message, with words held back (`Inverted`), with a non-empty sink, or outside `Inv`. -/
theorem C02_range_clear_eq_new (c : Cfg) (e : Encoder) : clear c e = Encoder.empty c := rfl

/-- … so a cleared and reused encoder is as good as a new one -/
theorem C02_range_clear_inv {c : Cfg} (hc : RValid c) (e : Encoder) {n : Nat} (hn : MsgFits c n) :
    Inv c (clear c e) ∧ Fits c (clear c e) n ∧ absE c (clear c e) = RangeSpec.init c.S :=
  ⟨inv_empty hc, fits_empty hn, absE_empty c⟩

/-- the words of any message encoded after `clear()` are the reference coder's words for that
    message alone (C06 for a reused encoder) … -/
theorem C02_range_clear_words_eq_spec {Sym : Type} {c : Cfg} (hc : RValid c) (e0 : Encoder)
    (msg : List (MStep Sym)) (hn : MsgFits c msg.length) (hv : ∀ x ∈ msg, x.Valid c) :
    ∃ e, encodeMsg c (clear c e0) msg = .ok e ∧
      intoCompressed c e = .ok (RangeSpec.words c.W c.S (msg.map MStep.spec)) := by
  obtain ⟨e, he, _, _, hw⟩ := words_eq_spec hc msg hn hv
  exact ⟨e, he, hw⟩

/-- … and they round-trip (C02 for a reused encoder) -/
theorem C02_range_clear_roundtrip {Sym : Type} {c : Cfg} (hc : RValid c) (e0 : Encoder)
    (msg : List (MStep Sym)) (hn : MsgFits c msg.length) (hv : ∀ x ∈ msg, x.Valid c) :
    ∃ e ws d0 d, encodeMsg c (clear c e0) msg = .ok e ∧
      intoCompressed c e = .ok ws ∧
      Decoder.fromCompressed c ws = .ok d0 ∧
      decodeMsg c d0 msg = .ok (msg.map (·.sym), d) ∧
      d.maybeExhausted c = .ok true ∧
      (msg = [] → ws = []) :=
  roundtrip hc msg hn hv

/-- **batch form = per-symbol loop** (`encode_symbols`, `try_encode_symbols` on `Ok` items), also
    on lists on which some symbol is impossible -/
theorem C02_range_encodeSymbols_batch_eq_perSymbolLoop {Sym : Type} (c : Cfg)
    (items : List (Sym × Model Sym)) (e : Encoder) :
    encodeSymbols c e (items.map some) =
      ((perSymbolLoop c e items).1,
        match (perSymbolLoop c e items).2 with
        | .ok () => .ok ()
        | .error err => .error (.coding err)) :=
  encodeSymbols_eq_perSymbolLoop c items e

/-- `encode_iid_symbols` likewise -/
theorem C02_range_encodeIidSymbols_batch_eq_perSymbolLoop {Sym : Type} (c : Cfg) (m : Model Sym)
    (syms : List Sym) (e : Encoder) :
    encodeIidSymbols c e m syms =
      ((perSymbolLoop c e (syms.map (fun s => (s, m)))).1,
        match (perSymbolLoop c e (syms.map (fun s => (s, m)))).2 with
        | .ok () => .ok ()
        | .error err => .error (.coding err)) := by
  have h := encodeSymbols_eq_perSymbolLoop c (syms.map (fun s => (s, m))) e
  rw [List.map_map] at h
  exact h

/-- `decode_symbols` / `try_decode_symbols` (on `Ok` items) / `decode_iid_symbols` likewise -/
theorem C02_range_decodeSymbols_batch_eq_perSymbolLoop {Sym : Type} (c : Cfg)
    (models : List (Model Sym)) (d : Decoder) :
    decodeSymbols c d (models.map some) [] =
      ((perSymbolDecLoop c d models []).1, (perSymbolDecLoop c d models []).2.1,
        match (perSymbolDecLoop c d models []).2.2 with
        | .ok () => .ok ()
        | .error err => .error (.coding err)) :=
  decodeSymbols_eq_perSymbolLoop c models d []

/-- a batch on which every call succeeds is the message-level encoder of the round-trip theorem -/
theorem C02_range_batch_eq_encodeMsg {Sym : Type} (c : Cfg) (items : List (Sym × Model Sym))
    (e : Encoder) (h : (perSymbolLoop c e items).2 = .ok ()) :
    encodeMsg (cfgAt c c.B c.P) e
        (items.map (fun x => { B := c.B, P := c.P, model := x.2, sym := x.1 }))
      = .ok (perSymbolLoop c e items).1 := by
  induction items generalizing e with
  | nil => rfl
  | cons a rest ih =>
    obtain ⟨s, m⟩ := a
    have hc : cfgAt (cfgAt c c.B c.P) c.B c.P = c := rfl
    simp only [List.map_cons, encodeMsg, perSymbolLoop, hc] at h ⊢
    cases h0 : encode c m s e with
    | error err => rw [h0] at h; cases h
    | ok e1 =>
      rw [h0] at h
      simp only at h ⊢
      exact ih e1 h

/-! non-vacuity: `RangeEncoder<u8,u16>`, a five-symbol message with four different models and
three different precisions that passes through the inverted situation and resolves it with a
carry (`126 → 127`) -/
example : RValid exCfg := exCfg_valid
example : MsgFits exCfg exMsg.length := by decide
example : Fits exCfg exInverted 1 := by decide
example : ∀ x ∈ exMsg, x.Valid exCfg := exMsg_valid
example : encodeMsg exCfg (Encoder.empty exCfg) (exMsg.take 2) = .ok exInverted := ex_prefix
example : Inv exCfg exInverted := exInverted_inv
example : clear exCfg exInverted = Encoder.empty exCfg := rfl  -- cleared while a word is held back
example : sealedWords exCfg exMsg = some [127, 29, 86] := ex_sealed
example : decodedSyms exCfg [127, 29, 86] exMsg = some [1, 1, 2, 0, 1] := ex_decoded
example : (encodeSymbols exCfg (Encoder.empty exCfg)
    [some (1, cutModel 127 129 256), some (7, cutModel 127 129 256), some (1, cutModel 100 200 256)]).2
    = .error (.coding .impossible) := rfl

end CV.Range

#print axioms CV.Range.C02_range_encode_total
#print axioms CV.Range.C02_range_inv_new
#print axioms CV.Range.C02_range_encode_refines
#print axioms CV.Range.C02_range_roundtrip
#print axioms CV.Range.C02_range_roundtrip_tables
#print axioms CV.Range.C02_range_seal_point
#print axioms CV.Range.C02_range_clear_eq_new
#print axioms CV.Range.C02_range_clear_inv
#print axioms CV.Range.C02_range_clear_words_eq_spec
#print axioms CV.Range.C02_range_clear_roundtrip
#print axioms CV.Range.C02_range_encodeSymbols_batch_eq_perSymbolLoop
#print axioms CV.Range.C02_range_encodeIidSymbols_batch_eq_perSymbolLoop
#print axioms CV.Range.C02_range_decodeSymbols_batch_eq_perSymbolLoop
#print axioms CV.Range.C02_range_batch_eq_encodeMsg
