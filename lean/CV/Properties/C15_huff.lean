import CV.Proofs.HuffTies
/-!
# C15 — Huffman codebooks are prefix-free, complete, optimal and mutually consistent

All theorems are about the Impl model `CV.Huff`: `encTree`/`decTree` are the two constructors
(`EncoderHuffmanTree` / `DecoderHuffmanTree :: try_from_probabilities`), `encodeSuffix`,
`encodePrefix`, `decode` the codebook methods.

**Scope.**  The constructors are generic in the weight type; so is the model (`WeightOps α`).

* The *structural* theorems (§1) are proved for **every** `WeightOps` — arbitrary order, arbitrary
  addition — hence for integer weights in checked and in wrapping (release) builds and for
  `f32`/`f64` weights whose sums **round** (`f32Ops`, `f64Ops`, the instances the correspondence
  check runs), including zeros, `-0.0`, negative weights, infinities, denormals.  Their only
  hypothesis is that the constructor returned a tree; §2 says when it does.
* *Optimality* (§4) and tie-breaking (§3) are statements about sums and are proved for **exact
  addition** (`exactOps`) and for checked integer weights whose total fits the type.  For float
  weights whose sums round optimality holds only up to rounding and is not claimed
  (DESIGN §6 C15, §10).
-/
namespace CV.Huff.C15
open CV CV.Huff

variable {α : Type} {ops : WeightOps α} {ws : List α} {en : List Nat} {dn : List (Nat × Nat)}

/-! ## 1. Structure — every weight type -/

/-- the two constructors succeed together and report the right alphabet size -/
theorem constructors_agree (hen : encTree ops ws = .ok en) :
    ∃ dn, decTree ops ws = .ok dn ∧
      encNumSymbols en = ws.length ∧ decNumSymbols dn = ws.length := by
  obtain ⟨dn, T, hd, _, B⟩ := built_of_enc hen
  exact ⟨dn, hd, B.en_half, B.dn_len⟩

/-- … and conversely (`usize::MAX / 4` is the encoder's size guard, the decoder's is laxer) -/
theorem constructors_agree_conv (hdn : decTree ops ws = .ok dn) (hmax : ws.length ≤ usizeMax / 4) :
    ∃ en, encTree ops ws = .ok en := by
  obtain ⟨en, T, he, _, _⟩ := built_of_dec hdn hmax
  exact ⟨en, he⟩

/-- **same tree**: there is one binary tree `T` whose leaves are exactly the symbols
`0 … n-1` such that the encoder's parent array and the decoder's child table both describe `T`
(`EncDesc`: entry of child = `parent << 1 | bit`, root entry `0`; `DecDesc`: entry `i - n` =
the two children of internal node `i`), and every codeword is the root-to-leaf path in `T`. -/
theorem same_tree (hen : encTree ops ws = .ok en) (hdn : decTree ops ws = .ok dn) :
    ∃ T : Tree, T.IsCodeTree ws.length ∧
      EncDesc en T ∧ en[T.rootId]? = some 0 ∧ DecDesc dn ws.length T ∧
      ∀ s, s < ws.length → ∃ p, T.code s = some p ∧ encodePrefix en s = .ok p := by
  obtain ⟨T, _, B⟩ := built_of_both hen hdn
  refine ⟨T, B.leaves, B.encDesc, B.root0, B.decDesc, ?_⟩
  intro s hs
  obtain ⟨p, hp⟩ := B.code_of_lt hs
  exact ⟨p, hp, B.prefix hp⟩

/-- `encode_symbol_prefix` emits the reverse of what `encode_symbol_suffix` emits -/
theorem prefix_eq_reverse_suffix (hen : encTree ops ws = .ok en) {s : Nat} (hs : s < ws.length) :
    ∃ w, encodePrefix en s = .ok w ∧ encodeSuffix en s = .ok w.reverse := by
  obtain ⟨dn', T, _, _, B⟩ := built_of_enc hen
  exact B.accepts hs

/-- the decoder tree inverts the encoder tree, whatever follows the codeword:
`decode (prefix s ++ rest) = (s, rest)` -/
theorem decode_prefix (hen : encTree ops ws = .ok en) (hdn : decTree ops ws = .ok dn)
    {s : Nat} (hs : s < ws.length) :
    ∃ w, encodePrefix en s = .ok w ∧
      ∀ rest, decode dn (w.map some ++ rest) = .ok (s, rest) := by
  obtain ⟨T, _, B⟩ := built_of_both hen hdn
  obtain ⟨p, hp⟩ := B.code_of_lt hs
  exact ⟨p, B.prefix hp, fun rest => B.dec_word hp rest⟩

/-- conversely, whatever `decode` returns on arbitrary bits is a symbol of the alphabet whose
codeword is exactly what was consumed: the code is complete -/
theorem decode_sound (hen : encTree ops ws = .ok en) (hdn : decTree ops ws = .ok dn)
    (src : List (Option Bool)) :
    (∃ s w rest, decode dn src = .ok (s, rest) ∧ s < ws.length ∧ encodePrefix en s = .ok w ∧
        src = w.map some ++ rest) ∨
      decode dn src = .error .outOfData ∨ decode dn src = .error .backend := by
  obtain ⟨T, _, B⟩ := built_of_both hen hdn
  exact B.decode_total src

/-- a source that ends strictly inside a codeword gives `OutOfCompressedData` -/
theorem decode_truncated (hen : encTree ops ws = .ok en) (hdn : decTree ops ws = .ok dn)
    {s : Nat} {p q : List Bool} (hw : encodePrefix en s = .ok (p ++ q)) (hq : q ≠ []) :
    decode dn (p.map some) = .error .outOfData := by
  obtain ⟨T, _, B⟩ := built_of_both hen hdn
  exact B.dec_truncated (B.code_of_prefix hw) hq

/-- the code is prefix-free -/
theorem prefix_free (hen : encTree ops ws = .ok en) {s1 s2 : Nat}
    {w1 w2 : List Bool} (h1 : encodePrefix en s1 = .ok w1) (h2 : encodePrefix en s2 = .ok w2)
    (hp : w1 <+: w2) : s1 = s2 := by
  obtain ⟨dn', T, _, _, B⟩ := built_of_enc hen
  exact Tree.code_prefix_free T (B.code_of_prefix h1) (B.code_of_prefix h2) hp

/-- **Kraft equality** `Σ_s 2^(-len s) = 1`, stated on naturals with the common denominator
`2^n` (every codeword is shorter than `n`): the code is complete.  (For `n = 1` the single
codeword is empty and the equality reads `2^1 = 2^1`.) -/
theorem kraft_equality (hen : encTree ops ws = .ok en) :
    (∀ s, s < ws.length → wordLen en s < ws.length) ∧
    ((List.range ws.length).map (fun s => 2^(ws.length - wordLen en s))).sum = 2^ws.length := by
  obtain ⟨dn', T, _, _, B⟩ := built_of_enc hen
  constructor
  · intro s hs
    obtain ⟨p, hp⟩ := B.code_of_lt hs
    rw [B.wordLen_eq hs, Tree.depth_of_code hp]
    exact B.code_len hp
  · rw [← B.kraft]
    exact congrArg List.sum (List.map_congr_left fun s hs => by
      rw [B.wordLen_eq (List.mem_range.mp hs)])

/-- a single symbol gets the empty codeword (and decoding consumes nothing) -/
theorem single_symbol (w : α) (hen : encTree ops [w] = .ok en) (hdn : decTree ops [w] = .ok dn) :
    encodePrefix en 0 = .ok [] ∧ encodeSuffix en 0 = .ok [] ∧
      ∀ src, decode dn src = .ok (0, src) := by
  obtain ⟨T, _, B⟩ := built_of_both hen hdn
  obtain ⟨p, hp⟩ := B.code_of_lt (s := 0) (Nat.lt_succ_self 0)
  -- a codeword is shorter than the number of symbols
  obtain rfl : p = [] := List.eq_nil_of_length_eq_zero (Nat.le_zero.mp
    (Nat.le_of_succ_le_succ (B.code_len hp)))
  exact ⟨B.prefix hp, B.suffix hp, fun src => B.dec_word hp src⟩

/-- symbols outside the alphabet are rejected (see also `C09_huff`) -/
theorem out_of_alphabet (hen : encTree ops ws = .ok en) {s : Nat} (hs : ws.length ≤ s) :
    encodeSuffix en s = .error .impossible ∧ encodePrefix en s = .error .impossible := by
  obtain ⟨dn', T, _, _, B⟩ := built_of_enc hen
  exact B.rejects hs

/-! ## 2. When the constructors succeed -/

/-- a weight type whose `+` never panics (`exactOps`, `wrappingOps n`, and the float instances
as long as no `inf + -inf` occurs): both constructors succeed for 1 … `usize::MAX/4` symbols -/
theorem constructors_ok_total (ht : Total ops) (hs : SizeOK ws) :
    ∃ en dn, encTree ops ws = .ok en ∧ decTree ops ws = .ok dn := by
  obtain ⟨en, dn, _, he, hd, _, _⟩ := total_build ht hs
  exact ⟨en, dn, he, hd⟩

/-- checked `n`-bit integer weights: both constructors succeed whenever the total weight fits
(no panic, no overflow, no unchecked index out of bounds) and report the right alphabet size -/
theorem constructors_ok {n : Nat} {ws : List Nat} (hs : SizeOK ws) (hfit : WeightsFit n ws) :
    ∃ en dn, encTree (checkedOps n) ws = .ok en ∧ decTree (checkedOps n) ws = .ok dn ∧
      encNumSymbols en = ws.length ∧ decNumSymbols dn = ws.length := by
  obtain ⟨he, hd⟩ := checked_eq_exact hfit
  obtain ⟨en, dn, he', hd'⟩ := constructors_ok_total total_exact hs
  rw [← he] at he'
  obtain ⟨dn', hd'', h1, h2⟩ := constructors_agree he'
  exact ⟨en, dn', he', hd'', h1, h2⟩

/-- the weight type does not matter as long as the sums fit: checked integer types of any
width build the same arrays as exact arithmetic -/
theorem independent_of_weight_type {n : Nat} {ws : List Nat} (hfit : WeightsFit n ws) :
    encTree (checkedOps n) ws = encTree exactOps ws ∧
      decTree (checkedOps n) ws = decTree exactOps ws :=
  checked_eq_exact hfit

/-! ## 3. Determinism and tie-breaking by index (weights ordered like the naturals) -/

/-- `pop` returns the minimum of the lexicographic order on `(weight, index)` — among equal
weights the smaller index — and this does not depend on the layout of the heap -/
theorem pop_is_lexicographic_min {ops : WeightOps Nat} (hlt : NatOrder ops)
    {heap heap' : List (Nat × Nat)} (hp : heap.Perm heap') {m r m' r'}
    (e : popMin ops heap = some (m, r)) (e' : popMin ops heap' = some (m', r')) :
    m = m' ∧ r.Perm r' ∧
    ∀ x ∈ heap, m.1 < x.1 ∨ (m.1 = x.1 ∧ m.2 ≤ x.2) := by
  obtain ⟨h1, h2⟩ := popMin_layout hlt hp e e'
  exact ⟨h1, h2, popMin_le hlt e⟩

/-- **determinism**: the construction is a function of the weight list alone — modelling
`BinaryHeap` by a list loses nothing, because both loops return the same arrays for every
arrangement of the heap's entries -/
theorem deterministic {ops : WeightOps Nat} (hlt : NatOrder ops) {heap heap' : List (Nat × Nat)}
    (hp : heap.Perm heap') (fuel next : Nat) (arr : List Nat) (acc : List (Nat × Nat)) :
    encLoop ops fuel heap arr next = encLoop ops fuel heap' arr next ∧
    decLoop ops fuel heap acc next = decLoop ops fuel heap' acc next :=
  have h := loops_sim (step_layout hlt) fuel heap heap' hp
  ⟨h.1 arr next, h.2 acc next⟩

/-- **tie-breaking by index** (exact sums): codeword lengths are monotone in `(weight, index)`;
among symbols of equal weight the codeword length is non-increasing in the index -/
theorem ties_by_index {ws : List Nat} (hen : encTree exactOps ws = .ok en)
    {i j wi wj : Nat} (hi : ws[i]? = some wi) (hj : ws[j]? = some wj)
    (hle : wi < wj ∨ (wi = wj ∧ i ≤ j)) : wordLen en j ≤ wordLen en i := by
  obtain ⟨dn', T, _, hT, B⟩ := built_of_enc hen
  obtain ⟨hi', _⟩ := List.getElem?_eq_some_iff.mp hi
  obtain ⟨hj', _⟩ := List.getElem?_eq_some_iff.mp hj
  rw [B.wordLen_eq hi', B.wordLen_eq hj']
  exact huffTree_ties hT hi hj hle

/-- the same for checked integer weights whose total fits the type -/
theorem ties_by_index_checked {n : Nat} {ws : List Nat} (hfit : WeightsFit n ws)
    (hen : encTree (checkedOps n) ws = .ok en)
    {i j wi wj : Nat} (hi : ws[i]? = some wi) (hj : ws[j]? = some wj)
    (hle : wi < wj ∨ (wi = wj ∧ i ≤ j)) : wordLen en j ≤ wordLen en i := by
  rw [(checked_eq_exact hfit).1] at hen
  exact ties_by_index hen hi hj hle

/-! ## 4. Optimality (exact sums) -/

/-- the full optimality statement: the code emitted through the encoder array has minimum
`Σ_s w_s · |codeword_s|` among **all** prefix-free assignments of bit strings to the symbols
`0 … n-1`, for exact weights and for checked integer weights whose total fits -/
def HuffmanOptimal : Prop :=
  (∀ (ws : List Nat) (en : List Nat), encTree exactOps ws = .ok en →
    ∀ c : Nat → List Bool, PrefixFree ws.length c → codeCost ws en ≤ assignCost ws c) ∧
  (∀ (n : Nat) (ws : List Nat) (en : List Nat), WeightsFit n ws →
    encTree (checkedOps n) ws = .ok en →
    ∀ c : Nat → List Bool, PrefixFree ws.length c → codeCost ws en ≤ assignCost ws c)

/-- optimality among all code trees (full binary or not) on the same alphabet -/
theorem optimal_among_trees {ws : List Nat} (hen : encTree exactOps ws = .ok en)
    {U : Tree} (hU : U.IsCodeTree ws.length) : codeCost ws en ≤ U.wcost ws := by
  obtain ⟨dn', T, _, hT, B⟩ := built_of_enc hen
  rw [B.codeCost_eq]
  exact huffTree_optimal hT hU

/-- **optimality**, by the classical exchange argument (sibling lemma + induction over the merge
loop, after Blanchette's Isabelle proof) -/
theorem huffman_optimal : HuffmanOptimal := by
  have main : ∀ (ws : List Nat) (en : List Nat), encTree exactOps ws = .ok en →
      ∀ c : Nat → List Bool, PrefixFree ws.length c → codeCost ws en ≤ assignCost ws c := by
    intro ws en hen c hc
    obtain ⟨dn', T, _, hT, B⟩ := built_of_enc hen
    rw [B.codeCost_eq]
    exact huffTree_optimal_codes B.n_pos hT hc
  refine ⟨main, ?_⟩
  intro n ws en hfit hen c hc
  rw [(checked_eq_exact hfit).1] at hen
  exact main ws en hen c hc

/-- the cost the theorems speak about is that of the emitted codewords and, equivalently, the
weighted path length of the common tree of `same_tree` -/
theorem cost_is_tree_cost {ws : List Nat} (hen : encTree exactOps ws = .ok en) :
    ∃ T : Tree, huffTree exactOps ws = some T ∧ T.IsCodeTree ws.length ∧
      codeCost ws en = T.wcost ws := by
  obtain ⟨dn', T, _, hT, B⟩ := built_of_enc hen
  exact ⟨T, hT, B.leaves, B.codeCost_eq⟩

/-! ## 5. Non-vacuity: concrete instances satisfy the hypotheses -/

example : SizeOK [2, 2, 4, 1, 1] := ⟨by decide, by decide⟩
example : WeightsFit 32 [2, 2, 4, 1, 1] := by simp [WeightsFit]
example : Total exactOps := total_exact
example : Total (wrappingOps 8) := total_wrapping 8
example : NatOrder (checkedOps 16) := natOrder_checked 16
example : encTree (checkedOps 32) [2, 2, 4, 1, 1] = .ok [12, 13, 15, 10, 11, 14, 16, 17, 0] := by rfl
example : decTree (checkedOps 32) [2, 2, 4, 1, 1] = .ok [(3, 4), (0, 1), (5, 2), (6, 7)] := by rfl
example : encTree exactOps [2, 2, 4, 1, 1] = .ok [12, 13, 15, 10, 11, 14, 16, 17, 0] := by rfl
/-- a wrapping (release-build) `u8` sum: `150 + 150` wraps to `44` and is popped before `200`;
still a valid (no longer optimal) code tree, covered by the structural theorems -/
example : encTree (wrappingOps 8) [150, 150, 100, 100] = .ok [10, 11, 8, 9, 13, 12, 0] := by rfl
example : encTree exactOps [150, 150, 100, 100] = .ok [10, 11, 8, 9, 12, 13, 0] := by rfl
example : encTree (checkedOps 8) [150, 150, 100, 100] = .error (.overflow "huff.add") := by rfl
example : encodePrefix [12, 13, 15, 10, 11, 14, 16, 17, 0] 4 = .ok [true, false, true] := by rfl
example : encodeSuffix [12, 13, 15, 10, 11, 14, 16, 17, 0] 3 = .ok [false, false, true] := by rfl
example : decode [(3, 4), (0, 1), (5, 2), (6, 7)] [some true, some false, some true, none] =
    .ok (4, [none]) := by rfl
example : codeCost [2, 2, 4, 1, 1] [12, 13, 15, 10, 11, 14, 16, 17, 0] = 22 := by rfl
/-- ties are broken by index: `[1, 1]` gives symbol 0 the bit 0 -/
example : encTree (checkedOps 32) [1, 1] = .ok [4, 5, 0] := by rfl
example : ([2, 2, 4, 1, 1] : List Nat)[3]? = some 1 ∧ ([2, 2, 4, 1, 1] : List Nat)[4]? = some 1 := by
  decide
example : PrefixFree 2 (fun s => if s = 0 then [false] else [true]) := by
  intro s1 s2 h1 h2 hp
  have hs1 : s1 = 0 ∨ s1 = 1 := by omega
  have hs2 : s2 = 0 ∨ s2 = 1 := by omega
  rcases hs1 with rfl | rfl
  · rcases hs2 with rfl | rfl
    · rfl
    · simp at hp
  · rcases hs2 with rfl | rfl
    · simp at hp
    · rfl
example : (Tree.node 9 (.leaf 0) (.node 8 (.leaf 2) (.leaf 1))).IsCodeTree 3 := by
  unfold Tree.IsCodeTree
  decide

/-! ## 6. Outside `WeightsFit`: open finding D34

Integer weights whose total does not fit the weight type: with overflow checks the constructor
panics (`checkedOps`), without them the sums wrap (`wrappingOps`) and the code need not be
optimal.  `from_probabilities` is generic in `P : Ord + Clone + Add`, so it cannot detect the
overflow without an API change; recorded as an open known finding, not repaired. -/

/-- `u8` weights `[200, 100, 60, 250, 120]`: a checked build panics, a release build returns a
    code of cost 1650 while the optimum (what the same weights give as `u32`) costs 1620 -/
theorem D34_weight_total_overflow_counterexample :
    encTree (checkedOps 8) [200, 100, 60, 250, 120] = .error (.overflow "huff.add") ∧
    (∃ en, encTree (wrappingOps 8) [200, 100, 60, 250, 120] = .ok en ∧
      codeCost [200, 100, 60, 250, 120] en = 1650) ∧
    (∃ en, encTree (checkedOps 32) [200, 100, 60, 250, 120] = .ok en ∧
      codeCost [200, 100, 60, 250, 120] en = 1620) := by
  refine ⟨by rfl, ⟨_, rfl, by decide⟩, ⟨_, rfl, by decide⟩⟩

end CV.Huff.C15

#print axioms CV.Huff.C15.D34_weight_total_overflow_counterexample
#print axioms CV.Huff.C15.constructors_agree
#print axioms CV.Huff.C15.constructors_agree_conv
#print axioms CV.Huff.C15.same_tree
#print axioms CV.Huff.C15.prefix_eq_reverse_suffix
#print axioms CV.Huff.C15.decode_prefix
#print axioms CV.Huff.C15.decode_sound
#print axioms CV.Huff.C15.decode_truncated
#print axioms CV.Huff.C15.prefix_free
#print axioms CV.Huff.C15.kraft_equality
#print axioms CV.Huff.C15.single_symbol
#print axioms CV.Huff.C15.out_of_alphabet
#print axioms CV.Huff.C15.constructors_ok_total
#print axioms CV.Huff.C15.constructors_ok
#print axioms CV.Huff.C15.independent_of_weight_type
#print axioms CV.Huff.C15.pop_is_lexicographic_min
#print axioms CV.Huff.C15.deterministic
#print axioms CV.Huff.C15.ties_by_index
#print axioms CV.Huff.C15.ties_by_index_checked
#print axioms CV.Huff.C15.optimal_among_trees
#print axioms CV.Huff.C15.huffman_optimal
#print axioms CV.Huff.C15.cost_is_tree_cost
