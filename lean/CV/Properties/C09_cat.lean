import CV.Proofs.CatModels
/-!
# C09 (component `cat`): symbols outside the support are rejected before any narrowing

The Impl models take the symbol as an unbounded `Nat` (a `usize`, or any label type), so "for
every symbol value, however large" is literal.  The coder half of C09 (a failed encode leaves
the coder intact) belongs to the coder components and rests only on `enc s = none`.
`C09_generic_encoder` assumes pairwise distinct labels (`Nodup`); a generic encoder built from
a non-contiguous decoder with repeated symbols is the open known finding described in
`C05_cat.lean` (it still answers `None` outside the label list, but is not the decoder's model).
-/
namespace CV.Cat
open CV

/-- contiguous model: the comparison with `support_size` happens in `usize` -/
theorem C09_contiguous {B P : Nat} {m : Contiguous} (h : ValidCdf B P m.cdf) (hP : P ≤ B)
    (s : Nat) (hs : m.cdf.length - 1 ≤ s) : m.enc B s = .ok none := by
  have hl := h.length_eq
  rw [Contiguous.enc_eq h hP s, specEnc_none (by omega)]

/-- uniform model (after the D9 repair) -/
theorem C09_uniform {B P range : Nat} (hP : P ≤ B) (h2 : 2 ≤ range) (hle : range ≤ 2 ^ P)
    (s : Nat) (hs : range ≤ s) :
    Uniform.enc B P { ppb := 2 ^ P / range, last := range - 1 } s = .ok none := by
  rw [Uniform.enc_eq hP h2 hle s, specEnc_none (by rw [uniExt_length]; omega)]

/-- in particular a symbol that would alias an in-range one after truncation to `Probability` -/
theorem C09_uniform_alias {B P range : Nat} (hP : P ≤ B) (h2 : 2 ≤ range) (hle : range ≤ 2 ^ P)
    (s : Nat) (hbig : 2 ^ B ≤ s) (_halias : s % 2 ^ B < range) :
    Uniform.enc B P { ppb := 2 ^ P / range, last := range - 1 } s = .ok none :=
  C09_uniform hP h2 hle s (by have := pow_le_pow2 hP; omega)

/-- the same for whatever `UniformModel::new` returned -/
theorem C09_uniform_new {B P range : Nat} {u : Uniform} (hP1 : 1 ≤ P) (hP : P ≤ B) (hPU : P ≤ U)
    (hr : range < 2 ^ U) (h : Uniform.new B P range = .ok u) (s : Nat) (hs : range ≤ s) :
    u.enc B P s = .ok none := by
  obtain ⟨h2, hle, rfl⟩ := Uniform.new_inv hP1 hP hPU hr h
  exact C09_uniform hP h2 hle s hs

/-- hash-table encoder -/
theorem C09_ncenc {Sym : Type} [DecidableEq Sym] [Inhabited Sym] {B P : Nat}
    {syms : List Sym} {probs : List Nat} {infer : Bool} {m : NcEnc Sym}
    (hP1 : 1 ≤ P) (hP : P ≤ B) (hprobs : ∀ p ∈ probs, p < 2 ^ B)
    (h : NcEnc.fromSymbolsAndNonzeroFixedPoint B P syms probs infer = some m)
    (s : Sym) (hs : s ∉ syms) : m.enc s = none := by
  rw [(NcEnc.fromFixed_model hP1 hP hprobs h).2.2.2 s]
  simp only [labelledModel, if_neg hs]

/-- generic encoder (`to_generic_encoder_model`) of any model with table `specTable lab ext` -/
theorem C09_generic_encoder {Sym : Type} [DecidableEq Sym] [Inhabited Sym]
    (lab : Nat → Sym) (ext : List Nat) (hnd : (labelsOf lab (ext.length - 1)).Nodup)
    (s : Sym) (hs : s ∉ labelsOf lab (ext.length - 1)) :
    (NcEnc.fromTable (specTable lab ext)).enc s = none := by
  rw [generic_encoder lab ext hnd s]
  simp only [labelledModel, if_neg hs]

/-! non-vacuity: `UniformModel::<u8, 8>::new(10)` and the symbol `259 = 256 + 3` -/
example : Uniform.new 8 8 10 = .ok { ppb := 25, last := 9 } := by rfl
example : Uniform.enc 8 8 { ppb := 25, last := 9 } 259 = .ok none := by rfl
example : Uniform.enc 8 8 { ppb := 25, last := 9 } 3 = .ok (some (75, 25)) := by rfl
example : Contiguous.enc 8 { cdf := [0, 100, 200, 0] } (2 ^ 32 + 1) = .ok none := by rfl

#print axioms C09_contiguous
#print axioms C09_uniform
#print axioms C09_uniform_alias
#print axioms C09_uniform_new
#print axioms C09_ncenc
#print axioms C09_generic_encoder

end CV.Cat
