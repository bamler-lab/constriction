import CV.Properties.C10_ans
import CV.Properties.C09_ans
/-!
# C20 (ANS part) — no arithmetic that is only correct because release builds wrap

`src/stream/stack.rs` contains no `unsafe` block. What remains of C20 for the ANS coder is the
clause about arithmetic: every plain `+ - * <<` of `encode_symbol` / `decode_symbol` is a checked
operation in the Impl model (a `Fault` where a checked build would panic), and no reachable call
faults — so the checked and the wrapping build compute the same thing.
-/
namespace CV.Ans.C20
open CV CV.Ans

variable {Sym : Type}

/-- `encode_symbol` on an invariant coder never faults (the only non-`ok` outcome is the documented
    error of a bounded backend). -/
theorem encode_never_faults {c : Cfg} (hc : c.Valid) {x : Coder} (hx : Inv c x) {cum p : Nat}
    (hcp : CPok c.P cum p) : ∀ f, encodeCP c x cum p ≠ .error (.fault f) := by
  intro f h
  rcases C09.bounded_backend_error_or_ok hc hx hcp with ⟨h1, _, _⟩ | ⟨y, h1, _⟩
  · rw [h1] at h; cases h
  · rw [h1] at h; cases h

theorem decode_never_faults {c : Cfg} (hc : c.Valid) {m : Model Sym} (hm : m.WellFormed c.P)
    {x : Coder} (hx : Inv c x) : ∃ r, decode c m x = .ok r := by
  obtain ⟨s, y, h, _⟩ := C10.decode_total hc hm hx
  exact ⟨_, h⟩

end CV.Ans.C20

#print axioms CV.Ans.C20.encode_never_faults
#print axioms CV.Ans.C20.decode_never_faults
