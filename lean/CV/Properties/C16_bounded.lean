import CV.Proofs.BitsInspect
/-!
# C16 over sinks that can refuse a write (`SymbolCoder<Word, S, B>` with a bounded `B`)

`C16_bits` speaks about `Vec`-backed coders, whose writes never fail.  `write_bit` over a bounded
sink (`Cursor`, `Reverse<Cursor>`, callbacks, user sinks) can return `Err(WriteError)`; C16's
"bits written come back in exactly reverse / the same order; the reported bit length is exact"
then has to hold for the bits that were **accepted**.  An accepted `write_bit` is the unbounded
one; a refused one leaves the coder exactly as it was (the flush of the full word precedes every
assignment).  So after any sequence of attempts the coder is the `Vec`-model coder of the accepted
bits (`bounded_history`), and all of `C16_bits` applies to them.
-/
namespace CV.Bits.C16B
open CV CV.Bits

theorem bounded_accepted_is_write (W cap : Nat) (c : Coder) (b : Bool)
    (h : (writeBitB W cap c b).2 = true) : (writeBitB W cap c b).1 = writeBit W c b := by
  rw [writeBitB_eq] at h ⊢
  split
  · rename_i hr
    rw [if_pos hr] at h
    cases h
  · rfl

theorem bounded_refused_untouched (W cap : Nat) (c : Coder) (b : Bool)
    (h : (writeBitB W cap c b).2 = false) : (writeBitB W cap c b).1 = c := by
  rw [writeBitB_eq] at h ⊢
  split
  · rfl
  · rename_i hr
    rw [if_neg hr] at h
    cases h

theorem bounded_refusal_only_when_full (W cap : Nat) (c : Coder) (b : Bool) :
    (writeBitB W cap c b).2 = false ↔
      ((c.mask <<< 1) % 2 ^ W = 0 ∧ c.mask ≠ 0 ∧ cap ≤ c.backend.length) := by
  rw [writeBitB_eq]
  split <;> simp [*]

/-- the sink never holds more than `cap` words -/
theorem bounded_within_capacity (W cap : Nat) (c : Coder) (b : Bool)
    (h : c.backend.length ≤ cap) : (writeBitB W cap c b).1.backend.length ≤ cap := by
  rw [writeBitB_eq]
  split
  · exact h
  · rename_i hacc
    -- an accepted write flushes a word only if the sink has room for it
    show (writeBit W c b).backend.length ≤ cap
    rw [writeBit_backend]
    split
    · rename_i hflush
      have : ¬ cap ≤ c.backend.length := fun hc => hacc ⟨hflush.1, hflush.2, hc⟩
      rw [List.length_cons]
      omega
    · exact h

/-- **any sequence of attempts**: the coder afterwards is the `Vec`-model coder of the accepted
    bits, which are a prefix of the attempted ones (all of them iff none was refused) -/
theorem bounded_history (W cap : Nat) (bs : List Bool) (c : Coder) :
    (writeBitsB W cap c bs).1 = writeBits W c (writeBitsB W cap c bs).2.1 ∧
    (writeBitsB W cap c bs).2.1 <+: bs ∧
    ((writeBitsB W cap c bs).2.2 = true → (writeBitsB W cap c bs).2.1 = bs) := by
  induction bs generalizing c with
  | nil => exact ⟨rfl, List.prefix_refl _, fun _ => rfl⟩
  | cons b bs ih =>
    unfold writeBitsB
    cases hw : writeBitB W cap c b with
    | mk c' ok =>
      cases ok with
      | false => exact ⟨rfl, List.nil_prefix, nofun⟩
      | true =>
        have hacc := bounded_accepted_is_write W cap c b (by rw [hw])
        rw [hw] at hacc
        obtain ⟨h1, h2, h3⟩ := ih c'
        simp only
        exact ⟨by rw [writeBits, ← hacc]; exact h1, (List.prefix_cons_inj b).2 h2,
          fun h => by rw [h3 h]⟩

theorem bounded_bits {W : Nat} (hW : ValidW W) (cap : Nat) (bs : List Bool) {c : Coder}
    (hI : Inv W c) :
    Inv W (writeBitsB W cap c bs).1 ∧
    bits W (writeBitsB W cap c bs).1 = bits W c ++ (writeBitsB W cap c bs).2.1 := by
  rw [(bounded_history W cap bs c).1]
  exact writeBits_spec (validW_one hW) _ hI

/-- **LIFO after a refusal**: the bit read next is the last *accepted* bit (or the old top if
    nothing was accepted), and `len` counts exactly the accepted bits -/
theorem bounded_lifo {W : Nat} (hW : ValidW W) (cap : Nat) (bs : List Bool) {c : Coder}
    (hI : Inv W c) :
    (readBit W (writeBitsB W cap c bs).1).1 = (bits W c ++ (writeBitsB W cap c bs).2.1).getLast? ∧
    ((bits W c ++ (writeBitsB W cap c bs).2.1).length < 2 ^ 64 →
      len W (writeBitsB W cap c bs).1 = .ok ((bits W c).length + (writeBitsB W cap c bs).2.1.length)) := by
  obtain ⟨h1, h2⟩ := bounded_bits hW cap bs hI
  refine ⟨?_, fun hl => ?_⟩
  · rw [readBit_fst (validW_one hW) h1, h2]
  · rw [len_spec _ (by rw [h2]; exact hl), h2, List.length_append]

/-- **export over a bounded sink**, queue encoder: `into_compressed` is refused, or returns exactly
    the words the same coder exports into a `Vec` (never a truncated or padded stream) -/
theorem bounded_queue_export (cap : Nat) (c : Coder) {ws : List Nat}
    (h : Queue.intoCompressedB cap c = some ws) : ws = Queue.intoCompressed c := by
  rw [Queue.intoCompressedB_eq] at h
  split at h
  · cases h
  · exact (Option.some.inj h).symm

/-- the same for the stack coder, which first has to get its terminator bit accepted -/
theorem bounded_stack_export (W cap : Nat) (c : Coder) {ws : List Nat}
    (h : Stack.intoCompressedB W cap c = some ws) : ws = Stack.intoCompressed W c := by
  unfold Stack.intoCompressedB at h
  cases hw : writeBitB W cap c true with
  | mk c' ok =>
    rw [hw] at h
    cases ok with
    | false => cases h
    | true =>
      -- the terminator was accepted; what is left is the queue export of the resulting coder
      have hacc := bounded_accepted_is_write W cap c true (by rw [hw])
      rw [hw] at hacc
      rw [Stack.intoCompressed_eq, ← hacc]
      exact bounded_queue_export cap c' h

/-- non-vacuity: `u8` words, a sink of two words, 30 one-bits: the sink takes 16, the buffer word
    holds 8 more, so 24 are accepted and the rest is refused -/
example : (writeBitsB 8 2 empty (List.replicate 30 true)).2 = (List.replicate 24 true, false) := by
  decide +kernel

example : (writeBitsB 8 2 empty (List.replicate 30 true)).1 =
    { backend := [255, 255], cw := 255, mask := 128 } := by decide +kernel

end CV.Bits.C16B

#print axioms CV.Bits.C16B.bounded_accepted_is_write
#print axioms CV.Bits.C16B.bounded_refused_untouched
#print axioms CV.Bits.C16B.bounded_refusal_only_when_full
#print axioms CV.Bits.C16B.bounded_within_capacity
#print axioms CV.Bits.C16B.bounded_history
#print axioms CV.Bits.C16B.bounded_bits
#print axioms CV.Bits.C16B.bounded_lifo
#print axioms CV.Bits.C16B.bounded_stack_export
#print axioms CV.Bits.C16B.bounded_queue_export
