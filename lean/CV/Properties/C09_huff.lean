import CV.Proofs.HuffMain
/-!
# C09 (Huffman part) — symbols outside the alphabet are rejected

Property theorems only.  `encode_symbol_suffix` compares the `usize` symbol with
`nodes.len() / 2` before anything else, without any narrowing; so every symbol value `≥ n`
(including `2^32 + k`, `usize::MAX`) yields `ImpossibleSymbol` and no bit is emitted — in both
the suffix and the (default, `SmallBitStack`-based) prefix form.  Proved for every weight type
(`WeightOps`: integer, wrapping, rounding float sums), for every tree a constructor returns.
The codebook is immutable, so "everything encoded before still decodes" is the bit-coder's
statement (C16).
-/
namespace CV.Huff.C09
open CV CV.Huff

variable {α : Type} {ops : WeightOps α} {ws : List α} {en : List Nat}

/-- every symbol `≥ n` is rejected by both forms -/
theorem out_of_alphabet_rejected (hen : encTree ops ws = .ok en) {s : Nat} (hs : ws.length ≤ s) :
    encodeSuffix en s = .error .impossible ∧ encodePrefix en s = .error .impossible := by
  obtain ⟨dn, T, _, _, B⟩ := built_of_enc hen
  exact B.rejects hs

/-- … so neither form returns a word -/
theorem rejected_emits_nothing (hen : encTree ops ws = .ok en) {s : Nat} (hs : ws.length ≤ s) :
    ¬ ∃ w, encodeSuffix en s = .ok w ∨ encodePrefix en s = .ok w := by
  obtain ⟨h1, h2⟩ := out_of_alphabet_rejected hen hs
  rintro ⟨w, hw | hw⟩
  · rw [h1] at hw; cases hw
  · rw [h2] at hw; cases hw

/-- conversely every symbol of the alphabet is accepted (the rejection is exact) -/
theorem in_alphabet_accepted (hen : encTree ops ws = .ok en) {s : Nat} (hs : s < ws.length) :
    ∃ w, encodePrefix en s = .ok w ∧ encodeSuffix en s = .ok w.reverse := by
  obtain ⟨dn, T, _, _, B⟩ := built_of_enc hen
  exact B.accepts hs

/-- non-vacuity: a concrete codebook, a symbol aliasing symbol 3 modulo `2^32` -/
example : encTree (checkedOps 32) [2, 2, 4, 1, 1] = .ok [12, 13, 15, 10, 11, 14, 16, 17, 0] := by
  rfl
example : encodePrefix [12, 13, 15, 10, 11, 14, 16, 17, 0] (2^32 + 3) = .error .impossible := by
  rfl
example : encodePrefix [12, 13, 15, 10, 11, 14, 16, 17, 0] 3 = .ok [true, false, false] := by
  rfl

end CV.Huff.C09

#print axioms CV.Huff.C09.out_of_alphabet_rejected
#print axioms CV.Huff.C09.rejected_emits_nothing
#print axioms CV.Huff.C09.in_alphabet_accepted
