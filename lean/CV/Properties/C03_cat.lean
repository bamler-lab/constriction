import CV.Proofs.CatModels
/-!
# C03 (component `cat`): every constructible integer entropy model is valid and exactly
invertible

For each model family the two trait methods, packaged as a `Model` by `okEnc`/`okDec`, form a
`Model.WellFormed P` model: non-empty bins tiling `[0, 2^P)`, no bin of probability one,
`quantile_function` the exact inverse of `left_cumulative_and_probability`; symbols outside
the support have probability zero.  All `1 ≤ P ≤ B`, `P = B` included.

**Distinct symbols.**  `C03_noncontiguous` and `C03_nclookup` take an *accepted hash-table
encoder* for the same `(symbols, probabilities)` as hypothesis; that constructor accepts only
pairwise distinct symbols (`C19_ncenc`).  For a non-contiguous decoder / lookup decoder on its
own the proved statement is bin-level (`C19_ncdec`, `C19_nclookup`, `C05_noncontiguous`); it
is **not** claimed that its symbols form a support with one interval each, because the decoder
constructors accept repeated symbols — the open known finding described in `C05_cat.lean`.
-/
namespace CV.Cat
open CV

def Contiguous.toModel (B : Nat) (m : Contiguous) : Model Nat :=
  { enc := okEnc (m.enc B), dec := okDec (m.dec B) }

/-- **Representation invariant ⇒ C03** (used by every conversion that yields a contiguous
    model, e.g. `as_contiguous_categorical`) -/
theorem C03_contiguous_of_validCdf {B P : Nat} {m : Contiguous} (h : ValidCdf B P m.cdf)
    (hP : P ≤ B) :
    (m.toModel B).WellFormed P ∧
    (∀ s, m.cdf.length - 1 ≤ s → m.enc B s = .ok none) ∧
    (∀ s, s < m.cdf.length - 1 → ∃ c p, m.enc B s = .ok (some (c, p)) ∧ 0 < p ∧ p < 2 ^ P) := by
  have hl := h.length_eq
  refine ⟨?_, ?_, ?_⟩
  · exact wellFormed_of_spec h.2 (Contiguous.enc_eq h hP) (fun q hq => Contiguous.dec_eq h hP hq)
  · intro s hs
    rw [Contiguous.enc_eq h hP s, specEnc_none (by omega)]
  · intro s hs
    rw [Contiguous.enc_eq h hP s]
    unfold specEnc
    rw [if_pos (by omega)]
    obtain ⟨b1, b2, b3⟩ := h.2.bin (s := s) (by omega)
    exact ⟨_, _, rfl, by omega, b3⟩

/-- **C03, `ContiguousCategoricalEntropyModel::from_nonzero_fixed_point_probabilities`** (with
    and without `infer_last_probability`) -/
theorem C03_contiguous {B P : Nat} {probs : List Nat} {infer : Bool} {m : Contiguous}
    (hP1 : 1 ≤ P) (hP : P ≤ B) (hprobs : ∀ p ∈ probs, p < 2 ^ B)
    (h : Contiguous.fromNonzeroFixedPoint B P probs infer = some m) :
    (m.toModel B).WellFormed P ∧
    (∀ s, m.cdf.length - 1 ≤ s → m.enc B s = .ok none) ∧
    (∀ s, s < m.cdf.length - 1 → ∃ c p, m.enc B s = .ok (some (c, p)) ∧ 0 < p ∧ p < 2 ^ P) :=
  C03_contiguous_of_validCdf (Contiguous.fromNonzeroFixedPoint_valid hP1 hP hprobs h) hP

/-- **C03, non-contiguous encoder + decoder model built from the same input**; symbols not
    in the list have probability zero -/
theorem C03_noncontiguous {Sym : Type} [DecidableEq Sym] [Inhabited Sym] {B P : Nat}
    {syms : List Sym} {probs : List Nat} {infer : Bool} {me : NcEnc Sym} {md : NcDec Sym}
    (hP1 : 1 ≤ P) (hP : P ≤ B) (hprobs : ∀ p ∈ probs, p < 2 ^ B)
    (he : NcEnc.fromSymbolsAndNonzeroFixedPoint B P syms probs infer = some me)
    (hd : NcDec.fromSymbolsAndNonzeroFixedPoint B P syms probs infer = .ok (some md)) :
    ({ enc := me.enc, dec := okDec (md.dec B) } : Model Sym).WellFormed P ∧
    (∀ s, s ∉ syms → me.enc s = none) := by
  obtain ⟨hext, hlen, hnd, henc⟩ := NcEnc.fromFixed_model hP1 hP hprobs he
  refine ⟨WellFormed.congr henc (fun q hq => ?_) (labelledModel_wellFormed hext hlen hnd),
    fun s hs => ?_⟩
  · simp only [okDec, NcDec.fromFixed_dec hP1 hP hprobs hd hq]
  · rw [henc]
    simp only [labelledModel, if_neg hs]

/-- **C03, `ContiguousLookupDecoderModel`** (its encoder side is `as_contiguous_categorical`) -/
theorem C03_lookup {B P : Nat} {probs : List Nat} {infer : Bool} {m : Lookup}
    (hP1 : 1 ≤ P) (hP : P ≤ B) (hprobs : ∀ p ∈ probs, p < 2 ^ B)
    (h : Lookup.fromNonzeroFixedPoint B P probs infer = some m) :
    ({ enc := okEnc (m.asContiguous.enc B), dec := okDec (m.dec B P) } : Model Nat).WellFormed P := by
  obtain ⟨-, -, hv, hok⟩ := Lookup.fromFixed_some hP1 hP hprobs h
  exact wellFormed_of_spec hv.2 (Contiguous.enc_eq (m := m.asContiguous) hv hP)
    (fun q hq => Lookup.dec_eq hv hP hok hq)

/-- **C03, `NonContiguousLookupDecoderModel`** together with the hash-table encoder built from
    the same input -/
theorem C03_nclookup {Sym : Type} [DecidableEq Sym] [Inhabited Sym] {B P : Nat}
    {syms : List Sym} {probs : List Nat} {infer : Bool} {me : NcEnc Sym} {ml : NcLookup Sym}
    (hP1 : 1 ≤ P) (hP : P ≤ B) (hprobs : ∀ p ∈ probs, p < 2 ^ B)
    (he : NcEnc.fromSymbolsAndNonzeroFixedPoint B P syms probs infer = some me)
    (hl : NcLookup.fromSymbolsAndNonzeroFixedPoint B P syms probs infer = .ok (some ml)) :
    ({ enc := me.enc, dec := okDec (ml.dec B P) } : Model Sym).WellFormed P := by
  obtain ⟨hext, hlen, hnd, henc⟩ := NcEnc.fromFixed_model hP1 hP hprobs he
  refine WellFormed.congr henc (fun q hq => ?_) (labelledModel_wellFormed hext hlen hnd)
  simp only [okDec, NcLookup.fromFixed_dec hP1 hP hprobs hl hq]

/-- **C03, `UniformModel::new(range)`** for every representable range, including the
    `PRECISION == Probability::BITS` branch -/
theorem C03_uniform {B P range : Nat} (hP1 : 1 ≤ P) (hP : P ≤ B) (hPU : P ≤ U)
    (hr : range < 2 ^ U) (h2 : 2 ≤ range) (hle : range ≤ 2 ^ P) :
    ∃ u, Uniform.new B P range = .ok u ∧
      ({ enc := okEnc (u.enc B P), dec := okDec (u.dec B P) } : Model Nat).WellFormed P ∧
      (∀ s, range ≤ s → u.enc B P s = .ok none) := by
  refine ⟨_, Uniform.new_ok hP1 hP hPU hr h2 hle, ?_, ?_⟩
  · exact wellFormed_of_spec (uniExt_valid h2 hle) (Uniform.enc_eq hP h2 hle)
      (fun q hq => Uniform.dec_eq hP hr h2 hle hq)
  · intro s hs
    rw [Uniform.enc_eq hP h2 hle s, specEnc_none (by rw [uniExt_length]; omega)]

example : Contiguous.fromNonzeroFixedPoint 8 8 [100, 100] true = some { cdf := [0, 100, 200, 0] } := by
  decide
example : (Contiguous.dec 8 { cdf := [0, 100, 200, 0] } 255) = .ok (2, 200, 56) := by
  -- evaluation; `bsearchLoop` is by well-founded recursion, which `rfl`/`decide` do not unfold
  simp [Contiguous.dec, cdfQuantile, bsearch, bsearchLoop, csub, wsub]
example : (Contiguous.enc 8 { cdf := [0, 100, 200, 0] } 2) = .ok (some (200, 56)) := by rfl

/-- the hypotheses of `C03_noncontiguous`, `C03_lookup`, `C03_nclookup`, `C03_uniform` are
    satisfiable: -/
example : (NcEnc.fromSymbolsAndNonzeroFixedPoint 8 8 [7, 9, 4] [100, 100] true).isSome = true := by
  decide
example : ∃ m, NcDec.fromSymbolsAndNonzeroFixedPoint 8 8 [7, 9, 4] [100, 100] true = .ok (some m) :=
  ⟨_, rfl⟩
example : ∃ m, Lookup.fromNonzeroFixedPoint 8 2 [1, 3] false = some m := ⟨_, rfl⟩
example : ∃ m, NcLookup.fromSymbolsAndNonzeroFixedPoint 8 2 [7, 9] [1] true = .ok (some m) := ⟨_, rfl⟩
example : ValidExt 3 (uniExt 3 3) := uniExt_valid (by decide) (by decide)

#print axioms C03_contiguous_of_validCdf
#print axioms C03_contiguous
#print axioms C03_noncontiguous
#print axioms C03_lookup
#print axioms C03_nclookup
#print axioms C03_uniform

end CV.Cat
