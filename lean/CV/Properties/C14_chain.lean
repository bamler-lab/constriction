import CV.Proofs.ChainExample
import CV.Proofs.ChainBits
/-!
# C14 — Chain coder decoding is local: symbol `i` depends only on chunk `i` and model `i`

`CV.Chain.quantiles c n hc comp` (in `CV/Proofs/ChainLocal.lean`) lists the first `n`
`PRECISION`-bit chunks that the bit buffer `(hc, comp)` hands out.  It is defined from
`takeChunk` – the compressed half of `decode_symbol` – alone: neither an entropy model nor the
remainders side occurs in it.
-/
namespace CV.Chain.C14
open CV CV.Chain

variable {Sym : Type}

/-- **`locality`**: the symbols returned by `decode_symbols(models)` are exactly
    `zipWith (fun q m => m.quantile_function(q).symbol) (quantiles data) models`; the iterator
    reports an error iff `quantiles` runs out, and then it is `OutOfCompressedData`; the coder
    stays inside the invariant. -/
theorem locality {c : Cfg} (hc : c.Valid) (ms : List (Model Sym)) (x : Coder)
    (hms : ∀ m ∈ ms, m.WellFormed c.P) (hx : Inv c x) :
    (decodeSymbols c ms x).1 =
      List.zipWith (fun q m => (m.dec q).1)
        (quantiles c ms.length x.heads.compressed x.compressed) ms ∧
    ((decodeSymbols c ms x).2.2 = none ↔
      (quantiles c ms.length x.heads.compressed x.compressed).length = ms.length) ∧
    ((decodeSymbols c ms x).2.2 = none ∨ (decodeSymbols c ms x).2.2 = some .outOfData) ∧
    Inv c (decodeSymbols c ms x).2.1 :=
  CV.Chain.locality (CValid.of_valid hc) ms x hms hx

theorem symbol_i {c : Cfg} (hc : c.Valid) (ms : List (Model Sym)) (x : Coder)
    (hms : ∀ m ∈ ms, m.WellFormed c.P) (hx : Inv c x) (i : Nat) :
    (decodeSymbols c ms x).1[i]? =
      match (quantiles c ms.length x.heads.compressed x.compressed)[i]?, ms[i]? with
      | some q, some m => some (m.dec q).1
      | _, _ => none :=
  locality_get (CValid.of_valid hc) ms x hms hx i

/-- **Replacing the model at one position** changes at most the symbol at that position and
    never whether / when the coder runs out of data. -/
theorem replace_model {c : Cfg} (hc : c.Valid) (ms : List (Model Sym)) (x : Coder)
    (hms : ∀ m ∈ ms, m.WellFormed c.P) (hx : Inv c x) (j : Nat) (m' : Model Sym)
    (hm' : m'.WellFormed c.P) :
    (decodeSymbols c ms x).1.length = (decodeSymbols c (ms.set j m') x).1.length ∧
    (decodeSymbols c ms x).2.2 = (decodeSymbols c (ms.set j m') x).2.2 ∧
    ∀ i : Nat, i ≠ j → (decodeSymbols c ms x).1[i]? = (decodeSymbols c (ms.set j m') x).1[i]? := by
  have hms' : ∀ m ∈ ms.set j m', m.WellFormed c.P := by
    intro m hm
    rcases List.mem_or_eq_of_mem_set hm with h | h
    · exact hms m h
    · rw [h]; exact hm'
  have hlen : ms.length = (ms.set j m').length := by simp
  obtain ⟨h1, h2, h3⟩ := locality_compare (CValid.of_valid hc) ms (ms.set j m') x x hms hms' hx hx hlen rfl
  refine ⟨h1, h2, fun i hij => h3 i ?_ rfl⟩
  rw [List.getElem?_set_ne (Ne.symm hij)]

/-- **Changing the data inside one chunk**, abstract form: the hypothesis is on the
    decoder-derived chunk lists; `flip_bits_in_chunk` / `flip_bits_in_chunk_schedule` state it
    on the data's bit positions. -/
theorem change_chunk {c : Cfg} (hc : c.Valid) (ms : List (Model Sym)) (x x' : Coder)
    (hms : ∀ m ∈ ms, m.WellFormed c.P) (hx : Inv c x) (hx' : Inv c x') (j : Nat)
    (hlen : (quantiles c ms.length x.heads.compressed x.compressed).length =
            (quantiles c ms.length x'.heads.compressed x'.compressed).length)
    (hsame : ∀ i : Nat, i ≠ j →
      (quantiles c ms.length x.heads.compressed x.compressed)[i]? =
      (quantiles c ms.length x'.heads.compressed x'.compressed)[i]?) :
    (decodeSymbols c ms x).1.length = (decodeSymbols c ms x').1.length ∧
    (decodeSymbols c ms x).2.2 = (decodeSymbols c ms x').2.2 ∧
    ∀ i : Nat, i ≠ j → (decodeSymbols c ms x).1[i]? = (decodeSymbols c ms x').1[i]? := by
  obtain ⟨h1, h2, h3⟩ := locality_compare (CValid.of_valid hc) ms ms x x' hms hms hx hx' rfl hlen
  exact ⟨h1, h2, fun i hij => h3 i rfl (hsame i hij)⟩

/-- **Changing the contents of the data arbitrarily** (same shape – in particular two coders
    freshly built by the same constructor from equally long data): whether and when the coder
    runs out of data is unchanged, and so is the symbol at every position whose chunk is. -/
theorem change_data {c : Cfg} (hc : c.Valid) (ms : List (Model Sym)) (x x' : Coder)
    (hms : ∀ m ∈ ms, m.WellFormed c.P) (hx : Inv c x) (hx' : Inv c x')
    (hs : SameShape x.heads.compressed x'.heads.compressed)
    (hl : x.compressed.length = x'.compressed.length) :
    (decodeSymbols c ms x).1.length = (decodeSymbols c ms x').1.length ∧
    (decodeSymbols c ms x).2.2 = (decodeSymbols c ms x').2.2 ∧
    ∀ i : Nat,
      (quantiles c ms.length x.heads.compressed x.compressed)[i]? =
        (quantiles c ms.length x'.heads.compressed x'.compressed)[i]? →
      (decodeSymbols c ms x).1[i]? = (decodeSymbols c ms x').1[i]? := by
  have hv := CValid.of_valid hc
  have hlen := quantiles_length_shape hv ms.length hx.1.1 hx.1.2.1 hx'.1.2.1 hx.2.1 hx'.2.1 hs hl
  obtain ⟨h1, h2, h3⟩ := locality_compare hv ms ms x x' hms hms hx hx' rfl hlen
  exact ⟨h1, h2, fun i hq => h3 i rfl hq⟩

/-! ## literal form: which bits of the data make up chunk `i`

`Pos`, `bitOf`, `valOf`, `chunkPosV` are defined in `CV/Proofs/ChainBits.lean` on lists of bit
positions only.  The bit string is *not* cut into consecutive groups: the low `P` bits of a
freshly read word are used first, its upper `W - P` bits are kept below older leftover bits and
used up in groups of `P` from the low end, a group straddling into the older leftover bits when
they run short. -/

/-- the chunk positions for `n` symbols at the constant precision `c.P`, `k` leftover bits in
    the head, `m` words on the stack -/
def chunkPos (c : Cfg) (n k m : Nat) : List (List Pos) :=
  chunkPosV c.W (List.replicate n c.P) (headPos k) 0 m

/-- **`symbol_i`, literally**: the `i`-th decoded symbol is what the `i`-th model assigns to the
    number spelled by the data bits at the positions `chunkPos …[i]`; the coder reports
    `OutOfCompressedData` exactly when there are fewer position lists than models. -/
theorem symbol_i_literal {c : Cfg} (hc : c.Valid) (ms : List (Model Sym)) (x : Coder)
    (hms : ∀ m ∈ ms, m.WellFormed c.P) (hx : Inv c x) {k : Nat}
    (hlo : 2^k ≤ x.heads.compressed) (hhi : x.heads.compressed < 2^(k + 1)) :
    (∀ i : Nat, (decodeSymbols c ms x).1[i]? =
      match (chunkPos c ms.length k x.compressed.length)[i]?, ms[i]? with
      | some ps, some m => some (m.dec (valOf (bitOf x.heads.compressed x.compressed) ps)).1
      | _, _ => none) ∧
    ((decodeSymbols c ms x).2.2 = none ↔
      (chunkPos c ms.length k x.compressed.length).length = ms.length) := by
  have hv := CValid.of_valid hc
  have hq := quantiles_eq_chunks hv hlo hhi hx.1.2.1 hx.2.1 ms.length
  refine ⟨fun i => ?_, ?_⟩
  · rw [locality_get hv ms x hms hx i, hq, List.getElem?_map]
    unfold chunkPos
    cases (chunkPosV c.W (List.replicate ms.length c.P) (headPos k) 0 x.compressed.length)[i]? <;>
      cases ms[i]? <;> rfl
  · rw [(CV.Chain.locality hv ms x hms hx).2.1, hq]
    simp [chunkPos]

/-- **Structure of the chunks, per-symbol precisions**: for any precisions `Ps` (each `≤ W`),
    chunk `i` consists of exactly `Ps[i]` bit positions, all of them real bits of the data, none
    twice, and no data bit belongs to two chunks. -/
theorem chunk_structureV (W : Nat) (Ps : List Nat) (hPs : ∀ P ∈ Ps, P ≤ W) (k m : Nat) :
    (∀ (i : Nat) (ps : List Pos), (chunkPosV W Ps (headPos k) 0 m)[i]? = some ps →
      Ps[i]? = some ps.length ∧ ps.Nodup ∧
      ∀ q ∈ ps, (∃ b, q = .head b ∧ b < k) ∨ ∃ j t, q = .word j t ∧ j < m ∧ t < W) ∧
    (∀ (i j : Nat) (a b : List Pos), i ≠ j → (chunkPosV W Ps (headPos k) 0 m)[i]? = some a →
      (chunkPosV W Ps (headPos k) 0 m)[j]? = some b → ∀ q ∈ a, q ∉ b) := by
  refine ⟨?_, ?_⟩
  · intro i ps hps
    obtain ⟨hnd, hv⟩ := (chunkPosV_wf W Ps _ 0 m hPs (headPos_ok k 0).1 (headPos_ok k 0).2).2 ps
      (List.mem_of_getElem? hps)
    refine ⟨chunkPosV_length W Ps _ 0 m i ps hps, hnd, fun q hq => ?_⟩
    rcases hv q hq with h | ⟨j, t, rfl, _, h2, h3⟩
    · obtain ⟨t, ht, rfl⟩ := mem_seg.mp h
      exact Or.inl ⟨0 + t, rfl, by omega⟩
    · exact Or.inr ⟨j, t, rfl, by omega, h3⟩
  · intro i j a b hij ha hb
    exact chunkPosV_disjoint hPs (headPos_ok k 0).1 (headPos_ok k 0).2 hij ha hb

/-- **Structure of the chunks** at constant precision. -/
theorem chunk_structure {c : Cfg} (hc : c.Valid) (n k m : Nat) :
    (∀ (i : Nat) (ps : List Pos), (chunkPos c n k m)[i]? = some ps → ps.length = c.P ∧ ps.Nodup ∧
      ∀ q ∈ ps, (∃ b, q = .head b ∧ b < k) ∨ ∃ j t, q = .word j t ∧ j < m ∧ t < c.W) ∧
    (∀ (i j : Nat) (a b : List Pos), i ≠ j → (chunkPos c n k m)[i]? = some a →
      (chunkPos c n k m)[j]? = some b → ∀ q ∈ a, q ∉ b) := by
  obtain ⟨h1, h2⟩ := chunk_structureV c.W (List.replicate n c.P)
    (fun P hP => (replicate_prec_ok (CValid.of_valid hc) n P hP).2) k m
  refine ⟨fun i ps hps => ?_, h2⟩
  obtain ⟨hl, hnd, hv⟩ := h1 i ps hps
  refine ⟨?_, hnd, hv⟩
  rw [List.getElem?_replicate] at hl
  split at hl
  · injection hl with h; exact h.symm
  · cases hl

/-- **Flipping bits inside chunk `j`**: two coders with the same amount of data whose data agree
    on every bit position outside `chunkPos …[j]`: at most symbol `j` changes and never whether
    or when the coder runs out of data. -/
theorem flip_bits_in_chunk {c : Cfg} (hc : c.Valid) (ms : List (Model Sym)) (x x' : Coder)
    (hms : ∀ m ∈ ms, m.WellFormed c.P) (hx : Inv c x) (hx' : Inv c x') {k : Nat}
    (hlo : 2^k ≤ x.heads.compressed) (hhi : x.heads.compressed < 2^(k + 1))
    (hlo' : 2^k ≤ x'.heads.compressed) (hhi' : x'.heads.compressed < 2^(k + 1))
    (hlen : x.compressed.length = x'.compressed.length) (j : Nat)
    (hsame : ∀ q, q ∉ ((chunkPos c ms.length k x.compressed.length)[j]?).getD [] →
      bitOf x.heads.compressed x.compressed q = bitOf x'.heads.compressed x'.compressed q) :
    (decodeSymbols c ms x).1.length = (decodeSymbols c ms x').1.length ∧
    (decodeSymbols c ms x).2.2 = (decodeSymbols c ms x').2.2 ∧
    ∀ i : Nat, i ≠ j → (decodeSymbols c ms x).1[i]? = (decodeSymbols c ms x').1[i]? := by
  have hv := CValid.of_valid hc
  obtain ⟨hql, hqi⟩ := quantilesV_flip _ (replicate_prec_ok hv ms.length) hlo hhi hx.1.2.1 hx.2.1
    (.of_bits hlo hhi hlo' hhi') hx'.1.2.1 hx'.2.1 hlen j hsame
  rw [← quantiles_eq_quantilesV hv _ _ _ hx.1.1 hx.1.2.1 hx.2.1,
    ← quantiles_eq_quantilesV hv _ _ _ hx'.1.1 hx'.1.2.1 hx'.2.1] at hql hqi
  obtain ⟨h1, h2, h3⟩ := locality_compare hv ms ms x x' hms hms hx hx' rfl hql
  exact ⟨h1, h2, fun i hij => h3 i rfl (hqi i hij)⟩

/-- A coder fresh from `from_binary` / `from_compressed` has an empty bit buffer (`k = 0`: all
    chunk positions are bits of words) and its compressed stack is the bottom part of the
    data, `data = D ++ compressed`: the top words `D` went into the remainders head.
    `from_binary` (which supplies a leading 1 itself) takes exactly `⌈(S-W-P)/W⌉` words;
    `from_compressed` (whose topmost word carries the marker bit and must be non-zero) takes at
    least one and at most `1 + ⌈(S-W-P)/W⌉`.  So `Pos.word i b` of a fresh coder is bit `b` of
    the data word number `D.length + i` from the top. -/
theorem fresh_coder_data {c : Cfg} (hc : c.Valid) (data : List Nat) (hd : Words c.W data) (x : Coder) :
    (fromBinary c data = some x →
      Inv c x ∧ 2^0 ≤ x.heads.compressed ∧ x.heads.compressed < 2^(0 + 1) ∧
      ∃ D, data = D ++ x.compressed ∧ c.S - c.W - c.P ≤ c.W * D.length ∧
        (D.length ≠ 0 → c.W * (D.length - 1) < c.S - c.W - c.P)) ∧
    (fromCompressed c data = some x →
      Inv c x ∧ 2^0 ≤ x.heads.compressed ∧ x.heads.compressed < 2^(0 + 1) ∧
      ∃ D, data = D ++ x.compressed ∧ 1 ≤ D.length ∧
        (2 ≤ D.length → c.W * (D.length - 2) < c.S - c.W - c.P)) := by
  have hP := (CValid.of_valid hc).precOk
  refine ⟨fun h => ?_, fun h => ?_⟩
  · obtain ⟨hI, _, h1, D, hD, hn, _⟩ := fromBinary_spec hP hd h
    exact ⟨hI, by rw [h1]; decide, by rw [h1]; decide, D, hD, hn⟩
  · obtain ⟨hI, _, h1, D, hD, hn, _⟩ := fromCompressed_spec hP hd h
    exact ⟨hI, by rw [h1]; decide, by rw [h1]; decide, D, hD, hn⟩

/-- **Schedules that stop early, and where they stop** (`runDecE`: log of what was done + the
    error of the first failing step).  A decode step fails only with `OutOfCompressedData`, and
    exactly after `(chunkPosV …).length` symbols – a number that depends on the data only
    through its shape `(k, m)`; a precision change fails only with `OutOfRemainders`. -/
theorem schedule_runs_out {c : Cfg} (hc : c.Valid) (steps : List (Step Sym)) (x : Coder)
    (hs : StepsOk c steps) (hx : Inv c x) {k : Nat}
    (hlo : 2^k ≤ x.heads.compressed) (hhi : x.heads.compressed < 2^(k + 1)) :
    logSyms (runDecE c steps x).1 =
      (List.zipWith (fun q m => (m.dec q).1)
        ((chunkPosV c.W (decPrecs c.P steps) (headPos k) 0 x.compressed.length).map
          (valOf (bitOf x.heads.compressed x.compressed)))
        (decModels steps)).take (logSyms (runDecE c steps x).1).length ∧
    (∀ e, (runDecE c steps x).2.2.2 = some (.inl e) → e = .outOfData ∧
      (logSyms (runDecE c steps x).1).length =
        (chunkPosV c.W (decPrecs c.P steps) (headPos k) 0 x.compressed.length).length) ∧
    (∀ e, (runDecE c steps x).2.2.2 = some (.inr e) → e = .outOfRemainders) ∧
    ((runDecE c steps x).2.2.2 = none →
      (logSyms (runDecE c steps x).1).length = (decModels steps).length) := by
  have hP := (CValid.of_valid hc).precOk
  obtain ⟨h1, h2, h3, h4⟩ := locality_scheduleE steps c x hP hs hx
  rw [quantilesV_eq_chunkPos hlo hhi hx.1.2.1 hx.2.1 _ (decPrecs_ok steps c hs)] at h1 h2
  refine ⟨h1, ?_, h3, fun h => (h4 h).2⟩
  intro e he
  obtain ⟨a, b⟩ := h2 e he
  exact ⟨a, by simpa using b⟩

/-- **Flipping bits inside chunk `j`, per-symbol precisions.**  Two coders with data of the same
    shape that agree on every bit outside `chunkPosV …[j]`, run through the same schedule: every
    symbol at a position `i ≠ j` that both runs reach is the same, and if either run stops
    with `OutOfCompressedData` it does so after the same number of symbols as the other would. -/
theorem flip_bits_in_chunk_schedule {c : Cfg} (hc : c.Valid) (steps : List (Step Sym)) (x x' : Coder)
    (hs : StepsOk c steps) (hx : Inv c x) (hx' : Inv c x') {k : Nat}
    (hlo : 2^k ≤ x.heads.compressed) (hhi : x.heads.compressed < 2^(k + 1))
    (hlo' : 2^k ≤ x'.heads.compressed) (hhi' : x'.heads.compressed < 2^(k + 1))
    (hlen : x.compressed.length = x'.compressed.length) (j : Nat)
    (hsame : ∀ q,
      q ∉ ((chunkPosV c.W (decPrecs c.P steps) (headPos k) 0 x.compressed.length)[j]?).getD [] →
      bitOf x.heads.compressed x.compressed q = bitOf x'.heads.compressed x'.compressed q) :
    (∀ (i : Nat) (s s' : Sym), i ≠ j → (logSyms (runDecE c steps x).1)[i]? = some s →
      (logSyms (runDecE c steps x').1)[i]? = some s' → s = s') ∧
    (∀ e e', (runDecE c steps x).2.2.2 = some (.inl e) → (runDecE c steps x').2.2.2 = some (.inl e') →
      (logSyms (runDecE c steps x).1).length = (logSyms (runDecE c steps x').1).length) := by
  have hP := (CValid.of_valid hc).precOk
  obtain ⟨a1, a2, _, _⟩ := locality_scheduleE steps c x hP hs hx
  obtain ⟨b1, b2, _, _⟩ := locality_scheduleE steps c x' hP hs hx'
  obtain ⟨hql, hq⟩ := quantilesV_flip (c := c) (decPrecs c.P steps) (decPrecs_ok steps c hs)
    hlo hhi hx.1.2.1 hx.2.1 (.of_bits hlo hhi hlo' hhi') hx'.1.2.1 hx'.2.1 hlen j hsame
  refine ⟨?_, ?_⟩
  · intro i s s' hij hs1 hs2
    rw [a1] at hs1
    rw [b1] at hs2
    -- both are entries of the `zipWith` lists, which agree at `i`
    have z1 := getElem?_of_take hs1
    have z2 := getElem?_of_take hs2
    rw [List.getElem?_zipWith] at z1 z2
    rw [hq i hij] at z1
    rw [z1] at z2
    injection z2
  · intro e e' he he'
    rw [(a2 e he).2, (b2 e' he').2, hql]

/-- **Per-symbol precision**, for a schedule that runs to completion: the same bit-position
    machine, taking `Ps[i]` bits for chunk `i`.  Neither the remainders side nor the precision
    changes enter. -/
theorem locality_schedule_literal {c : Cfg} (hc : c.Valid) (steps : List (Step Sym)) (x : Coder)
    (hs : StepsOk c steps) (hx : Inv c x) {k : Nat}
    (hlo : 2^k ≤ x.heads.compressed) (hhi : x.heads.compressed < 2^(k + 1))
    {log : List (Done Sym)} {c' : Cfg} {y : Coder} (hrun : runDec c steps x = some (log, c', y)) :
    logSyms log = List.zipWith (fun q m => (m.dec q).1)
      ((chunkPosV c.W (decPrecs c.P steps) (headPos k) 0 x.compressed.length).map
        (valOf (bitOf x.heads.compressed x.compressed)))
      (decModels steps) := by
  obtain ⟨h1, _, _, h4⟩ := locality_scheduleE steps c x (CValid.of_valid hc).precOk hs hx
  -- a completed run decodes all of the `zipWith`
  rw [runDec_eq_runDecE] at hrun
  cases he : (runDecE c steps x).2.2.2 with
  | some e => simp [he] at hrun
  | none =>
    simp only [he, Option.some.injEq, Prod.mk.injEq] at hrun
    obtain ⟨hq, hl⟩ := h4 he
    rw [← hrun.1, h1, hl, List.take_of_length_le (by simp [hq]),
      quantilesV_eq_chunkPos hlo hhi hx.1.2.1 hx.2.1 _ (decPrecs_ok steps c hs)]

/-- For `PRECISION == Word::BITS` the chunks are the words of the compressed stack themselves,
    so "bits inside chunk `j`" are literally the bits of word `j`. -/
theorem chunks_word_aligned {c : Cfg} (hc : c.Valid) (hPW : c.P = c.W) (n hc' : Nat)
    (comp : List Nat) (hw : Words c.W comp) :
    quantiles c n hc' comp = comp.take n := by
  induction n generalizing hc' comp with
  | zero => simp [quantiles]
  | succ n ih =>
    cases comp with
    | nil => simp [quantiles, (takeChunk_aligned hPW hc').1]
    | cons w rest =>
      have hq : quantileOf c w = w := by
        rw [quantileOf_eq (CValid.of_valid hc) hw.head, hPW, Nat.mod_eq_of_lt hw.head]
      simp [quantiles, (takeChunk_aligned hPW hc').2, hq, ih hc' rest hw.tail]

/-- the chunk list has at most `n` entries; it is shorter only by running out of data -/
theorem chunks_bounded (c : Cfg) (n hc : Nat) (comp : List Nat) :
    (quantiles c n hc comp).length ≤ n :=
  quantiles_length_le c n hc comp

/-! ## non-vacuity -/

example : exCfg.Valid ∧ Inv exCfg exCoder ∧
    (∀ m ∈ [tableModel [0, 1, 8], tableModel [0, 7, 8], tableModel [0, 4, 8]],
      m.WellFormed exCfg.P) := by
  refine ⟨exCfg_valid, exCoder_inv, ?_⟩
  intro m hm
  simp at hm
  rcases hm with rfl | rfl | rfl <;> exact wf_two (P := 3) (by decide) (by decide)

/-- the example coder (3 leftover bits in the head, two words on the stack) hands out six
    chunks and runs dry on the seventh request -/
example : quantiles exCfg 8 exCoder.heads.compressed exCoder.compressed = [0, 2, 2, 0, 0, 0] := by
  decide

/-- the chunk positions of the example coder (`W = 8`, `P = 3`, 3 leftover bits in the head, two
    words): chunk 0 is the head's three leftover bits, chunk 1 the low three bits of word 0,
    chunk 2 its bits 5…3, then word 1 is read (chunks 3 and 4); chunk 5 straddles: the one old
    bit 6 of word 0, then bits 7 and 6 of word 1.  The data at these positions spell the chunks
    `[0, 2, 2, 0, 0, 0]` of the example above. -/
example : chunkPos exCfg 8 3 2 =
    [[.head 2, .head 1, .head 0], [.word 0 2, .word 0 1, .word 0 0],
     [.word 0 5, .word 0 4, .word 0 3], [.word 1 2, .word 1 1, .word 1 0],
     [.word 1 5, .word 1 4, .word 1 3], [.word 0 6, .word 1 7, .word 1 6]] := by decide

example : 2^3 ≤ exCoder.heads.compressed ∧ exCoder.heads.compressed < 2^(3 + 1) := by decide

end CV.Chain.C14

#print axioms CV.Chain.C14.locality
#print axioms CV.Chain.C14.symbol_i
#print axioms CV.Chain.C14.replace_model
#print axioms CV.Chain.C14.change_chunk
#print axioms CV.Chain.C14.change_data
#print axioms CV.Chain.C14.symbol_i_literal
#print axioms CV.Chain.C14.chunk_structure
#print axioms CV.Chain.C14.flip_bits_in_chunk
#print axioms CV.Chain.C14.fresh_coder_data
#print axioms CV.Chain.C14.locality_schedule_literal
#print axioms CV.Chain.C14.chunk_structureV
#print axioms CV.Chain.C14.schedule_runs_out
#print axioms CV.Chain.C14.flip_bits_in_chunk_schedule
#print axioms CV.Chain.C14.chunks_word_aligned
#print axioms CV.Chain.C14.chunks_bounded
