import CV.Proofs.AnsExport
import CV.Proofs.AnsBinary
import CV.Properties.C01_ans
/-!
# C18 (ANS part) — size, emptiness and exhaustion queries report exactly what is there
-/
namespace CV.Ans.C18
open CV CV.Ans

/-- `num_words`, `num_bits` and `iter_compressed` agree with what `into_compressed` returns at
    that moment. -/
theorem sizes_exact (c : Cfg) {x : Coder} (hcap : x.cap = none) :
    ∃ ws, intoCompressed c x = some ws ∧ numWords c x = ws.length ∧
      numBits c x = c.W * ws.length ∧ iterCompressed c x = ws.reverse := by
  refine ⟨_, intoCompressed_none hcap, ?_, ?_, ?_⟩
  · simp [numWords, chunksBE, Nat.add_comm]
  · simp [numBits, numWords, chunksBE, Nat.add_comm]
  · exact iterCompressed_eq c x

/-- a coder reports empty exactly when exporting it returns nothing
    (`maybe_exhausted` of the ANS decoder is `is_empty`) -/
theorem empty_iff_no_words {c : Cfg} (hc : c.Valid) {x : Coder} (hx : Inv c x) (hcap : x.cap = none) :
    isEmpty x = true ↔ intoCompressed c x = some [] := by
  simp only [isEmpty, beq_iff_eq]
  rcases intoCompressed_cases hc hx hcap with ⟨h0, _, h'⟩ | ⟨n, top, _, h0, _, _, h'⟩
  · exact ⟨fun _ => h', fun _ => h0⟩
  · rw [h']; exact ⟨fun h => absurd h (Nat.ne_of_gt h0), fun h => nomatch h⟩

/-- `num_valid_bits` of a coder loaded from raw binary data is the size of that data (zero words
    included) -/
theorem valid_bits_of_binary {c : Cfg} (hc : c.Valid) (ws : List Nat) (hws : ∀ w ∈ ws, w < 2^c.W) :
    numValidBits c (fromBinary c ws) = c.W * ws.length :=
  numValidBits_fromBinary hc ws hws

/-- the history contains no pop below the base -/
def noPopBelow {Sym : Type} : List (C01.Op Sym) → Prop
  | [] => True
  | .popBelow _ :: _ => False
  | _ :: ops => noPopBelow ops

theorem run_base_unchanged {Sym : Type} (W S : Nat) (ops : List (C01.Op Sym)) (h : noPopBelow ops)
    (st fin : C01.RunState Sym) (hr : C01.run W S st ops = .ok fin) : fin.base = st.base := by
  induction ops generalizing st with
  | nil => cases hr; rfl
  | cons op ops ih =>
    simp only [C01.run] at hr
    split at hr
    · next st' hstep =>
      -- every operation but `popBelow` returns `{ st with .. }` without touching `base`
      have hb : st'.base = st.base ∧ noPopBelow ops := by
        cases op with
        | popBelow e => exact absurd h id
        | clone =>
          cases hstep
          exact ⟨rfl, h⟩
        | push e =>
          simp only [C01.step] at hstep
          split at hstep
          · cases hstep
            exact ⟨rfl, h⟩
          · cases hstep
        | pop =>
          simp only [C01.step] at hstep
          split at hstep
          · cases hstep
            exact ⟨rfl, h⟩
          · split at hstep
            · cases hstep
              exact ⟨rfl, h⟩
            · cases hstep
        | reload =>
          simp only [C01.step] at hstep
          split at hstep
          · split at hstep
            · cases hstep
              exact ⟨rfl, h⟩
            · cases hstep
          · cases hstep
      rw [ih hb.2 st' hr, hb.1]
    · cases hr

/-- **`maybe_exhausted` / `is_empty` after popping everything pushed onto an empty coder**: in any
    history of pushes, pops, reloads and clones from `AnsCoder::new()`, whenever every pushed
    symbol has been popped again the coder reports empty and exports nothing. -/
theorem empty_after_popping_everything {Sym : Type} {W S : Nat} (hWS : 1 ≤ W ∧ 2 * W ≤ S)
    (ops : List (C01.Op Sym)) (hops : ∀ op ∈ ops, op.OK W S) (hnp : noPopBelow ops) :
    ∃ fin, C01.run W S { coder := Ans.empty, base := Ans.empty, ghost := [], outs := [] } ops = .ok fin ∧
      (fin.ghost = [] → isEmpty fin.coder = true ∧
        intoCompressed { W := W, S := S, P := 1, B := 1 } fin.coder = some []) := by
  obtain ⟨fin, h1, h2, _, _, h5⟩ := C01.run_refines_stack hWS ops hops
    { coder := Ans.empty, base := Ans.empty, ghost := [], outs := [] } (inv_empty _) rfl
    (by intro e he; cases he) rfl
  refine ⟨fin, h1, fun hg => ?_⟩
  have hb := run_base_unchanged W S ops hnp _ fin h1
  have hc : fin.coder = Ans.empty := by rw [h5 hg, hb]
  rw [hc]
  refine ⟨rfl, ?_⟩
  rw [intoCompressed_none (c := { W := W, S := S, P := 1, B := 1 }) (x := Ans.empty) rfl]
  exact congrArg (fun l => some (l ++ [])) (chunksBE_zero (C := W) hWS.1)

example : numValidBits { W := 8, S := 32, P := 1, B := 1 } (fromBinary { W := 8, S := 32, P := 1, B := 1 } [0, 0, 0, 7, 9]) = 40 := by
  rfl

end CV.Ans.C18

#print axioms CV.Ans.C18.sizes_exact
#print axioms CV.Ans.C18.empty_iff_no_words
#print axioms CV.Ans.C18.valid_bits_of_binary
#print axioms CV.Ans.C18.run_base_unchanged
#print axioms CV.Ans.C18.empty_after_popping_everything
