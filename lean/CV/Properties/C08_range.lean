import CV.Proofs.RangeExamples
import CV.Proofs.RangeInspect
/-!
# C08 — Inspecting a range encoder is a no-op (component `range`)

`Fits c e k`: the 64-bit `usize` counters have room for `k` more symbols (see C02_range).

`clear()` puts the encoder into the state of `new()` (`C02_range_clear_eq_new`), which satisfies
`Inv`, so every theorem below applies to a cleared encoder as well.
-/
namespace CV.Range

/-- `get_compressed()` + drop of the guard: the view is what `into_compressed()` would return at
    that moment, and the encoder afterwards is the encoder before (also while words are held back) -/
theorem C08_range_guard_noop {c : Cfg} (hc : RValid c) {e : Encoder} (hI : Inv c e)
    (hf : Fits c e 0) :
    ∃ ws, intoCompressed c e = .ok ws ∧ getCompressed c e = .ok (ws, e) :=
  ⟨_, intoCompressed_eq hc hI, getCompressed_eq hc hI hf⟩

/-- `decoder()`: a decoder over what sealing now would return; the encoder is untouched -/
theorem C08_range_decoder_noop {c : Cfg} (hc : RValid c) {e : Encoder} (hI : Inv c e)
    (hf : Fits c e 0) :
    ∃ ws d, intoCompressed c e = .ok ws ∧ Decoder.fromCompressed c ws = .ok d ∧
      tempDecoder c e = .ok (d, e) := by
  obtain ⟨d, hd, hfc⟩ := tempDecoder_eq hc hI hf
  exact ⟨_, d, intoCompressed_eq hc hI, hfc, hd⟩

/-- `num_seal_words()` is the number of words `seal` appends, `unseal ∘ seal = id` -/
theorem C08_range_unseal_seal {c : Cfg} (hc : RValid c) {e : Encoder} (hI : Inv c e)
    (hf : Fits c e 0) :
    ∃ e', sealEnc c e = .ok e' ∧ numSealWords c e = .ok (e'.bulk.length - e.bulk.length) ∧
      unsealEnc c e' = .ok e := by
  refine ⟨_, sealEnc_eq hc hI, ?_, unseal_seal hc hI hf⟩
  rw [numSealWords_eq hc hI hf]
  simp

/-- **inspect erasure**: inspections (`get_compressed`, `decoder`, `num_words`, `num_bits`,
    `is_empty`, `pos`, `clone`) inserted anywhere in a history leave the final encoder — hence
    everything it will ever output — as it is without them -/
theorem C08_range_inspect_erasure {Sym : Type} {c : Cfg} (hc : RValid c) (ops : List (Op Sym))
    (e : Encoder) (hI : Inv c e) (hf : Fits c e (encSteps ops).length)
    (hv : ∀ x ∈ encSteps ops, x.Valid c) :
    runOps c e ops = encodeMsg c e (encSteps ops) :=
  inspect_erasure hc ops e hI hf hv

example : Inv exCfg exInverted := exInverted_inv
example : Fits exCfg exInverted 3 := by decide
example : getCompressed exCfg exInverted = .ok ([126, 229], exInverted) := rfl
example : ∀ x ∈ encSteps [Op.getCompressed, Op.enc exMsg[0], Op.decoder, Op.enc exMsg[1], Op.numWords],
    x.Valid exCfg := by
  intro x hx
  simp only [encSteps, List.mem_cons, List.mem_nil_iff, or_false] at hx
  rcases hx with rfl | rfl <;> exact exMsg_valid _ (List.getElem_mem _)

end CV.Range

#print axioms CV.Range.C08_range_guard_noop
#print axioms CV.Range.C08_range_decoder_noop
#print axioms CV.Range.C08_range_unseal_seal
#print axioms CV.Range.C08_range_inspect_erasure
