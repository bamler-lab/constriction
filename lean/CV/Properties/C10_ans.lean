import CV.Properties.C04_ans
import CV.Properties.C01_ans
/-!
# C10 (ANS part) — decoding arbitrary data is total and stays inside the model
-/
namespace CV.Ans.C10
open CV CV.Ans

variable {Sym : Type}

/-- Whatever words an ANS coder is constructed from (`from_compressed`, when it accepts them, or
    `from_binary`), the invariant holds — so the totality theorems below apply. -/
theorem constructors_establish_inv {c : Cfg} (hc : c.Valid) (ws : List Nat) (hws : ∀ w ∈ ws, w < 2^c.W) :
    (∀ x, fromCompressed c ws = some x → Inv c x ∧ x.cap = none) ∧
    (Inv c (fromBinary c ws) ∧ (fromBinary c ws).cap = none) := by
  refine ⟨fun x h => fromCompressed_inv hc ws hws h, ?_⟩
  obtain ⟨_, _, _, _, hinv, hcap, _⟩ := fromBinary_spec hc ws hws
  exact ⟨hinv, hcap⟩

/-- One decoding step on an invariant coder never faults (no overflow, no truncation, no failed
    read), and the returned symbol lies in the support of the model. -/
theorem decode_total {c : Cfg} (hc : c.Valid) {m : Model Sym} (hm : m.WellFormed c.P)
    {x : Coder} (hx : Inv c x) :
    ∃ s y, decode c m x = .ok (s, y) ∧ Inv c y ∧ y.cap = x.cap ∧
      ∃ cum p, m.enc s = some (cum, p) ∧ 0 < p := by
  obtain ⟨cum, p, henc, hcp, hinv, _⟩ := encArith_decArith hc hm hx
  exact ⟨_, _, decode_spec hc hm hx, hinv, cap_decArith c m x, _, _, henc, hcp.1⟩

/-- Any number of decoding steps with any well-formed models on any data: always succeeds. -/
theorem decodeAll_total {W S : Nat} (es : List (C04.MEntry Sym)) (hes : ∀ e ∈ es, e.OK W S)
    (x : Coder) (hx : ∀ c : Cfg, c.W = W → c.S = S → Inv c x) (hcap : x.cap = none) :
    ∃ ss z, C04.decodeAll W S x es = .ok (ss, z) ∧ ss.length = es.length := by
  obtain ⟨ss, z, h1, h2, _, _⟩ := C04.bits_back es hes x hx hcap
  exact ⟨ss, z, h1, h2⟩

end CV.Ans.C10

#print axioms CV.Ans.C10.constructors_establish_inv
#print axioms CV.Ans.C10.decode_total
#print axioms CV.Ans.C10.decodeAll_total
