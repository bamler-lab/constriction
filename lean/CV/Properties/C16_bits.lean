import CV.Proofs.BitsInspect
/-!
# C16 — bit-level stack and queue coders are faithful LIFO/FIFO containers

All theorems are about the Impl model `CV.Bits` (`CV/Model/Bits.lean`,
`CV/Model/BitsExpGolomb.lean`), for every word width `W ≥ 2` (`ValidW`; the crate's `BitArray`
types have 8 … 128 bits) and every coder value satisfying the documented representation
invariant `Inv` (every state reachable through the API does: `inv_reachable`).
`bits W c : List Bool` is the abstraction (all bits on the coder, first written first).
Exp-Golomb: every symbol width `1 ≤ N < 2^32` (`EG.ValidN`).
-/
namespace CV.Bits.C16
open CV CV.Bits

theorem validW_one {W : Nat} (h : ValidW W) : 1 ≤ W := CV.Bits.validW_one h

/-- every state reachable from `new()` / `from_compressed` by writes and reads satisfies `Inv` -/
theorem inv_reachable {W : Nat} (hW : ValidW W) :
    Inv W empty ∧
    (∀ c b, Inv W c → Inv W (writeBit W c b)) ∧
    (∀ c, Inv W c → Inv W (readBit W c).2) ∧
    (∀ ws, (∀ w ∈ ws, w < 2^W) → ws.head? ≠ some 0 → ∃ c, Stack.fromCompressed W ws = .ok c ∧ Inv W c) ∧
    (∀ ws, (∀ w ∈ ws, w < 2^W) → Inv W (Queue.fromCompressed ws)) :=
  ⟨inv_empty W, fun _ b h => writeBit_inv (validW_one hW) h b,
   fun _ h => readBit_inv (validW_one hW) h,
   fun _ h hz => stack_import_inv h hz,
   fun _ h => (queue_fromCompressed_inv h).1⟩

/-- LIFO, one step: `write_bit(b)` then `read_bit()` returns `b` and restores the content. -/
theorem stack_lifo {W : Nat} (hW : ValidW W) {c : Coder} (hI : Inv W c) (b : Bool) :
    (readBit W (writeBit W c b)).1 = some b ∧ Inv W (readBit W (writeBit W c b)).2 ∧
      bits W (readBit W (writeBit W c b)).2 = bits W c :=
  readBit_writeBit (validW_one hW) hI b

/-- the abstraction: a write appends, a read removes the last bit (`none` iff there is none,
    and then the coder is untouched) -/
theorem stack_write_read {W : Nat} (hW : ValidW W) {c : Coder} (hI : Inv W c) :
    (∀ b, bits W (writeBit W c b) = bits W c ++ [b]) ∧
    (readBit W c).1 = (bits W c).getLast? ∧ bits W (readBit W c).2 = (bits W c).dropLast ∧
    (bits W c = [] → readBit W c = (none, c)) :=
  ⟨fun b => writeBit_bits (validW_one hW) hI b, readBit_fst (validW_one hW) hI,
   readBit_bits (validW_one hW) hI, readBit_none (validW_one hW)⟩

/-- LIFO over arbitrary interleavings: any sequence of the operations `SOp` (`decode_symbol` with
    any lawful codebook, e.g. Exp-Golomb: `EG.decBook_lawful`) on the Impl model produces exactly
    the outputs of the same sequence on a plain list used as a stack, and ends with the same
    content.  A panic ends both runs. -/
theorem stack_lifo_history {W : Nat} (hW : ValidW W) (ops : List SOp)
    (hops : ∀ op ∈ ops, op.Lawful) {c : Coder} (hI : Inv W c) :
    (run (Stack.step W) ops c).1 = (run (Stack.spec W) ops (bits W c)).1 ∧
      Inv W (run (Stack.step W) ops c).2 ∧
      bits W (run (Stack.step W) ops c).2 = (run (Stack.spec W) ops (bits W c)).2 :=
  stack_run_refines (validW_one hW) ops hops hI

/-- FIFO over arbitrary interleavings, encoder side … -/
theorem queue_encoder_history {W : Nat} (hW : ValidW W) (ops : List QOp) {c : Coder}
    (hI : Inv W c) :
    (run (Queue.step W) ops c).1 = (run (Queue.spec W) ops (bits W c)).1 ∧
      Inv W (run (Queue.step W) ops c).2 ∧
      bits W (run (Queue.step W) ops c).2 = (run (Queue.spec W) ops (bits W c)).2 :=
  queue_run_refines (validW_one hW) ops hI

/-- … and the whole life of a queue: any encoder history, `into_decoder`, any decoder history;
    the decoder sees the written bits first, then zero padding to the word boundary. -/
theorem queue_fifo_history {W : Nat} (hW : ValidW W) (ops : List QOp) (dops : List DOp)
    (hd : ∀ op ∈ dops, op.Lawful) {c : Coder} (hI : Inv W c) :
    (run (Queue.step W) ops c).1 = (run (Queue.spec W) ops (bits W c)).1 ∧
    (run (QDecoder.step W) dops (Queue.intoDecoder (run (Queue.step W) ops c).2)).1 =
      (run QDecoder.spec dops (padTo W (run (Queue.spec W) ops (bits W c)).2)).1 := by
  have h1 := validW_one hW
  have he := queue_run_refines h1 ops hI
  have hdec := queue_intoDecoder_padTo h1 he.2.1
  have hr := qdecoder_run_refines h1 dops hd hdec.1
  refine ⟨he.1, ?_⟩
  rw [hr.1, hdec.2, he.2.2]

/-- FIFO, basic form: the decoder made from an encoder hands out exactly the written bits, in
    order, followed by fewer than `W` zero bits; then it is at its end. -/
theorem queue_fifo {W : Nat} (hW : ValidW W) {c : Coder} (hI : Inv W c) :
    ∃ p d', p < W ∧ ((bits W c).length + p) % W = 0 ∧
      QDecoder.iter W (Queue.intoDecoder c) = .ok (bits W c ++ List.replicate p false, d') ∧
      QDecoder.bits W d' = [] := by
  have h1 := validW_one hW
  obtain ⟨hId, hb⟩ := queue_intoDecoder_padTo h1 hI
  obtain ⟨d', hit, _, hn⟩ := QDecoder.iter_spec h1 hId
  refine ⟨_, d', Nat.mod_lt _ h1, ?_, by rw [hit, hb]; rfl, hn⟩
  have hlen := congrArg List.length (queue_export_format h1 hI).1
  rw [wordBits_length, padTo, List.length_append, List.length_replicate] at hlen
  rw [← hlen]
  exact Nat.mul_mod_left _ _

/-- one read of a queue decoder: the head of what is left -/
theorem qdecoder_read {W : Nat} (hW : ValidW W) {d : QDecoder} (hI : QDecoder.Inv W d) :
    (QDecoder.readBit W d).1 = (QDecoder.bits W d).head? ∧
      QDecoder.bits W (QDecoder.readBit W d).2 = (QDecoder.bits W d).tail :=
  ⟨(QDecoder.readBit_spec (validW_one hW) hI).1, (QDecoder.readBit_spec (validW_one hW) hI).2.2⟩

/-- the reported length is exact at every fill level (`usize` overflow is the only failure) -/
theorem len_exact {W : Nat} (c : Coder) (h : (bits W c).length < 2^64) :
    len W c = .ok (bits W c).length :=
  len_spec c h

/-- export → re-import of a stack preserves the content, for every bit pattern and every fill
    level of the last word: no fault, never rejected.  (False before the D5 repair, see
    `stack_export_import_D5_counterexample`.) -/
theorem stack_export_import {W : Nat} (hW : ValidW W) {c : Coder} (hI : Inv W c) :
    ∃ c', Stack.fromCompressed W (Stack.intoCompressed W c) = .ok c' ∧ Inv W c' ∧
      bits W c' = bits W c :=
  stack_export_import_bits (validW_one hW) hI

/-- the failed obligation of the unrepaired code (`trailing_zeros`): the bits `1,0,1,1,0` export
    as `[0x2d]` and re-import as the empty stack -/
theorem stack_export_import_D5_counterexample :
    ∃ c, Inv 8 c ∧ bits 8 c = [true, false, true, true, false] ∧
      Stack.intoCompressed 8 c = [0x2d] ∧
      ∃ c', Stack.fromCompressedD5 8 (Stack.intoCompressed 8 c) = .ok c' ∧ bits 8 c' = [] := by
  have h := writeBits_spec (W := 8) (by decide) [true, false, true, true, false] (inv_empty 8)
  refine ⟨writeBits 8 empty [true, false, true, true, false], h.1, by simpa using h.2, by decide,
    { backend := [], cw := 44, mask := 0 }, by decide, by decide⟩

/-- format of the stack export: payload bits, the terminator `1`, zero padding; no zero last
    word; `len / W + 1` words -/
theorem stack_export_format {W : Nat} (hW : ValidW W) {c : Coder} (hI : Inv W c) :
    ∃ p, p < W ∧
      wordBits W (Stack.intoCompressed W c) = bits W c ++ [true] ++ List.replicate p false ∧
      (∀ w ∈ Stack.intoCompressed W c, w < 2^W) ∧
      (Stack.intoCompressed W c).head? ≠ some 0 ∧ (Stack.intoCompressed W c) ≠ [] ∧
      (Stack.intoCompressed W c).length = (bits W c).length / W + 1 :=
  CV.Bits.stack_export_format (validW_one hW) hI

/-- the queue export is the bit string zero padded to whole words -/
theorem queue_export_zero_padded {W : Nat} (hW : ValidW W) {c : Coder} (hI : Inv W c) :
    wordBits W (Queue.intoCompressed c) = padTo W (bits W c) ∧
      (∀ w ∈ Queue.intoCompressed c, w < 2^W) :=
  ⟨(queue_export_format (validW_one hW) hI).1, (queue_export_format (validW_one hW) hI).2.1⟩

/-- `StackCoder::into_iterator()` yields exactly the bits on the stack, last written first, then
    ends (no fault, never out of fuel) -/
theorem stack_into_iterator {W : Nat} (hW : ValidW W) {c : Coder} (hI : Inv W c) :
    Stack.intoIterator W c = .ok (bits W c).reverse :=
  iter_spec (validW_one hW) hI

/-- … and that is what repeated `read_bit()` returns: as many `some`s as the iterator has items,
    the same bits, then `none` -/
theorem stack_into_iterator_eq_reads {W : Nat} (hW : ValidW W) {c : Coder} (hI : Inv W c) :
    ∃ bs, Stack.intoIterator W c = .ok bs ∧
      (run (Stack.step W) (List.replicate bs.length SOp.read) c).1 =
        bs.map (fun b => Out.bit (some b)) ∧
      (readBit W (run (Stack.step W) (List.replicate bs.length SOp.read) c).2).1 = none := by
  have h1 := validW_one hW
  refine ⟨(bits W c).reverse, iter_spec h1 hI, ?_⟩
  have hr := stack_run_refines h1 (List.replicate (bits W c).reverse.length SOp.read)
    (fun op h => by rw [(List.mem_replicate.mp h).2]; trivial) hI
  have hs := stack_spec_reads W (bits W c).reverse.length (bits W c) (by simp)
  rw [hs] at hr
  refine ⟨hr.1, ?_⟩
  rw [readBit_fst h1 hr.2.1, hr.2.2]
  rfl

/-- `QueueEncoder::into_overshooting_iter()` yields the written bits in order, then overshoots
    with exactly the zero padding up to the next word boundary (`padTo`), then ends -/
theorem queue_overshooting_iter {W : Nat} (hW : ValidW W) {c : Coder} (hI : Inv W c) :
    ∃ d', Queue.intoOvershootingIter W c = .ok (padTo W (bits W c), d') ∧
      QDecoder.bits W d' = [] := by
  obtain ⟨d', h, _, hn⟩ := Queue.intoOvershootingIter_spec (validW_one hW) hI
  exact ⟨d', h, hn⟩

/-- … and that is what repeated `read_bit()` on `into_decoder()` returns, followed by `none` -/
theorem queue_overshooting_iter_eq_reads {W : Nat} (hW : ValidW W) {c : Coder} (hI : Inv W c) :
    ∃ bs d', Queue.intoOvershootingIter W c = .ok (bs, d') ∧
      (run (QDecoder.step W) (List.replicate bs.length DOp.read) (Queue.intoDecoder c)).1 =
        bs.map (fun b => Out.bit (some b)) ∧
      (QDecoder.readBit W
        (run (QDecoder.step W) (List.replicate bs.length DOp.read) (Queue.intoDecoder c)).2).1 = none := by
  have h1 := validW_one hW
  obtain ⟨d', h, _, _⟩ := Queue.intoOvershootingIter_spec h1 hI
  have hd := queue_intoDecoder_padTo h1 hI
  refine ⟨padTo W (bits W c), d', h, ?_⟩
  have hr := qdecoder_run_refines h1 (List.replicate (padTo W (bits W c)).length DOp.read)
    (fun op h => by rw [(List.mem_replicate.mp h).2]; trivial) hd.1
  rw [hd.2, qdecoder_spec_reads] at hr
  refine ⟨hr.1, ?_⟩
  rw [(QDecoder.readBit_spec h1 hr.2.1).1, hr.2.2]
  rfl

/-! ## Exp-Golomb, generic in the integer width `N` -/

/-- round trip for every `v < 2^N` **including** `2^N - 1` (whose codeword is `N` zeros, `1`,
    `N` zeros), trailing bits preserved; the suffix form mirrors the prefix form. -/
theorem expgolomb_roundtrip {N v : Nat} (hN : EG.ValidN N) (hv : v < 2^N) (rest : List Bool) :
    ∃ p, EG.prefixBits N v = .ok p ∧ EG.suffixBits N v = .ok p.reverse ∧
      ∀ fuel, p.length ≤ fuel → EG.decode N listSrc fuel (p ++ rest) = .ok (rest, .ok v) := by
  refine ⟨EG.code v, EG.prefixBits_spec hv, EG.suffixBits_spec hv, ?_⟩
  intro fuel hf
  exact EG.decode_code hN hv rest fuel (Nat.lt_of_lt_of_le (log2_lt_length_code v) hf)

theorem expgolomb_max (N : Nat) :
    EG.code (2^N - 1) = List.replicate N false ++ [true] ++ List.replicate N false :=
  EG.code_max N

/-- invalid codewords are rejected: whatever `decode_symbol` accepts starts with the codeword of
    the returned symbol, and it stops right behind it -/
theorem expgolomb_rejects_invalid {N : Nat} (hN : EG.ValidN N) {fuel : Nat} {l rest : List Bool}
    {v : Nat} (h : EG.decode N listSrc fuel l = .ok (rest, .ok v)) :
    v < 2^N ∧ l = EG.code v ++ rest :=
  EG.decode_sound hN h

/-- decoding arbitrary bits (fewer than `2^32`) never panics; the only error is `InvalidCodeword` -/
theorem expgolomb_total {N fuel : Nat} {l : List Bool} (hf : l.length < fuel)
    (h32 : l.length < 2^32) :
    ∃ rest r, EG.decode N listSrc fuel l = .ok (rest, r) ∧ r ≠ .error .outOfCompressedData :=
  EG.decode_total hf h32

/-- through the stack coder: `encode_symbol` then `decode_symbol` returns the symbol and restores
    everything below it -/
theorem stack_expgolomb {W N v : Nat} (hW : ValidW W) (hN : EG.ValidN N) (hv : v < 2^N)
    {c : Coder} (hI : Inv W c) :
    ∃ c₁ c₂, Stack.encodeSymbol W (EG.encBook N) v c = .ok c₁ ∧
      bits W c₁ = bits W c ++ (EG.code v).reverse ∧
      Stack.decodeSymbol W (EG.decBook N) c₁ = .ok (c₂, .ok v) ∧ Inv W c₂ ∧
      bits W c₂ = bits W c := by
  have h1 := validW_one hW
  have hw := writeBits_spec h1 (EG.code v).reverse hI
  have henc : Stack.encodeSymbol W (EG.encBook N) v c = .ok (writeBits W c (EG.code v).reverse) := by
    simp only [Stack.encodeSymbol, EG.encBook, EG.suffixBits_spec hv]
  generalize writeBits W c (EG.code v).reverse = c₁ at hw henc
  -- the decoder reads the stack top first: it sees the codeword, then the old bits
  have hview : (bits W c₁).reverse = EG.code v ++ (bits W c).reverse := by
    rw [hw.2, List.reverse_append, List.reverse_reverse]
  have hfuel : (bits W c₁).reverse.length < Stack.fuel W c₁ := by
    rw [List.length_reverse]; exact fuel_gt hw.1
  obtain ⟨c₂, hd, hI₂, hb₂⟩ := EG.decode_src (stackSrc_refines h1) hN hv hw.1 hview hfuel
  exact ⟨c₁, c₂, henc, hw.2, hd, hI₂, List.reverse_inj.mp hb₂⟩

/-- through the queue coders -/
theorem queue_expgolomb {W N v : Nat} (hW : ValidW W) (hN : EG.ValidN N) (hv : v < 2^N) :
    (∀ {c : Coder}, Inv W c → ∃ c₁, Queue.encodeSymbol W (EG.encBook N) v c = .ok c₁ ∧ Inv W c₁ ∧
      bits W c₁ = bits W c ++ EG.code v) ∧
    (∀ {d : QDecoder} (rest : List Bool), QDecoder.Inv W d →
      QDecoder.bits W d = EG.code v ++ rest →
      ∃ d', QDecoder.decodeSymbol W (EG.decBook N) d = .ok (d', .ok v) ∧ QDecoder.Inv W d' ∧
        QDecoder.bits W d' = rest) :=
  ⟨fun {c} hI => ⟨writeBits W c (EG.code v),
      by simp only [Queue.encodeSymbol, EG.encBook, EG.prefixBits_spec hv],
      writeBits_spec (validW_one hW) (EG.code v) hI⟩,
   fun {d} _ hI hb =>
      EG.decode_src (queueSrc_refines (validW_one hW)) hN hv hI hb (QDecoder.bits_length_le d)⟩

/-- the default trait methods of `EncoderCodebook` (via `SmallBitStack`) mirror the codeword -/
theorem default_methods_mirror (bs : List Bool) : viaSmallBitStack bs = .ok bs.reverse :=
  viaSmallBitStack_spec bs

/-! ## non-vacuity -/

example : ValidW 8 ∧ ValidW 64 ∧ EG.ValidN 8 ∧ EG.ValidN 128 := by decide

/-- a coder with one full word in the backend and a partly filled current word -/
example : Inv 8 (writeBits 8 empty [true, false, true, true, false, false, true, true, true, false, true]) :=
  (writeBits_spec (by decide) _ (inv_empty 8)).1

example : writeBits 8 empty [true, false, true, true, false, false, true, true, true, false, true]
    = { backend := [0xcd], cw := 5, mask := 4 } := by decide +kernel

example : Stack.fromCompressed 8 (Stack.intoCompressed 8 (writeBits 8 empty [true, false, true, true, false]))
    = .ok (writeBits 8 empty [true, false, true, true, false]) := by decide +kernel

example : EG.prefixBits 8 255 = .ok (List.replicate 8 false ++ [true] ++ List.replicate 8 false) := by
  decide +kernel

example : EG.decode 8 listSrc 30 (List.replicate 8 false ++ [true] ++ List.replicate 8 false ++ [true, false])
    = .ok ([true, false], .ok 255) := by decide +kernel

/-- an invalid codeword (8 zeros, `1`, then a non-zero tail) is rejected at `u8` -/
example : EG.decode 8 listSrc 30 (List.replicate 8 false ++ [true] ++ List.replicate 7 false ++ [true])
    = .ok ([], .error .invalidCodeword) := by decide +kernel

example : (EG.decBook 32).Lawful := EG.decBook_lawful 32

/-- 11 bits in `u8` words: the stack iterator reverses them, the queue iterator overshoots by 5 zeros -/
example : Stack.intoIterator 8 (writeBits 8 empty [true, false, true, true, false, false, true, true, true, false, true])
    = .ok [true, false, true, true, true, false, false, true, true, false, true] := by decide +kernel

example : (Queue.intoOvershootingIter 8 (writeBits 8 empty [true, false, true, true, false, false, true, true, true, false, true])).map (·.1)
    = .ok ([true, false, true, true, false, false, true, true, true, false, true] ++ List.replicate 5 false) := by decide +kernel

/-- a concrete mixed history (bits, the maximum `u8` symbol, a guard, an export/re-import)
    satisfies the hypotheses of `stack_lifo_history` and produces the expected outputs -/
example :
    (∀ op ∈ [SOp.write true, .encode (EG.suffixBits 8 255), .len, .getCompressed, .reimport,
        .decode (EG.decBook 8), .read, .read], op.Lawful) ∧
    (run (Stack.step 8) [SOp.write true, .encode (EG.suffixBits 8 255), .len, .getCompressed,
        .reimport, .decode (EG.decBook 8), .read, .read] empty).1 =
      [.unit, .unit, .nat 18, .words [4, 2, 1], .words [4, 2, 1], .sym (.ok 255), .bit (some true),
        .bit none] := by
  refine ⟨?_, by decide +kernel⟩
  intro op hop
  simp only [List.mem_cons, List.not_mem_nil, or_false] at hop
  rcases hop with rfl | rfl | rfl | rfl | rfl | rfl | rfl | rfl <;>
    first | trivial | exact EG.decBook_lawful 8

end CV.Bits.C16

#print axioms CV.Bits.C16.inv_reachable
#print axioms CV.Bits.C16.stack_lifo
#print axioms CV.Bits.C16.stack_write_read
#print axioms CV.Bits.C16.stack_lifo_history
#print axioms CV.Bits.C16.queue_encoder_history
#print axioms CV.Bits.C16.queue_fifo_history
#print axioms CV.Bits.C16.queue_fifo
#print axioms CV.Bits.C16.qdecoder_read
#print axioms CV.Bits.C16.len_exact
#print axioms CV.Bits.C16.stack_export_import
#print axioms CV.Bits.C16.stack_export_import_D5_counterexample
#print axioms CV.Bits.C16.stack_export_format
#print axioms CV.Bits.C16.queue_export_zero_padded
#print axioms CV.Bits.C16.expgolomb_roundtrip
#print axioms CV.Bits.C16.expgolomb_max
#print axioms CV.Bits.C16.expgolomb_rejects_invalid
#print axioms CV.Bits.C16.expgolomb_total
#print axioms CV.Bits.C16.stack_expgolomb
#print axioms CV.Bits.C16.queue_expgolomb
#print axioms CV.Bits.C16.default_methods_mirror
#print axioms CV.Bits.C16.stack_into_iterator
#print axioms CV.Bits.C16.stack_into_iterator_eq_reads
#print axioms CV.Bits.C16.queue_overshooting_iter
#print axioms CV.Bits.C16.queue_overshooting_iter_eq_reads
